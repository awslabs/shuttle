import ShuttleProofs.C03
import ShuttleProofs.C08
import ShuttleProofs.C09
import ShuttleProofs.C09Audit
import ShuttleProofs.C12
import ShuttleProofs.C12Audit
import ShuttleProofs.C13
import ShuttleProofs.C16
import ShuttleProofs.C16Audit
import ShuttleProofs.C20Coll
import ShuttleProofs.C20CollAudit
import ShuttleProofs.KernelAudit
import ShuttleProofs.Gen.C16
import ShuttleProofs.C01
import ShuttleProofs.C01Audit
import ShuttleProofs.C11
import ShuttleProofs.C11Audit
import ShuttleProofs.Gen.C11
import ShuttleProofs.C05
import ShuttleProofs.C05Audit
import ShuttleProofs.C06
import ShuttleProofs.C06Audit
import ShuttleProofs.C10
import ShuttleProofs.C10Audit
import ShuttleProofs.C18
import ShuttleProofs.C18Audit
import ShuttleProofs.Lemmas.PlLink
import ShuttleProofs.C20Pl
import ShuttleProofs.C20PlAudit
import ShuttleProofs.C02
import ShuttleProofs.C02Audit
import ShuttleProofs.C04
import ShuttleProofs.C04Audit
import ShuttleProofs.C19
import ShuttleProofs.C19Audit
import ShuttleProofs.C07
import ShuttleProofs.C07Audit
import ShuttleProofs.C14
import ShuttleProofs.C14Audit
import ShuttleProofs.C17
import ShuttleProofs.C17Audit
import ShuttleProofs.C15
import ShuttleProofs.C15Audit
import ShuttleProofs.C07Join
import ShuttleProofs.C07JoinAudit

import ShuttleProofs.Lemmas.KernelExamples

/-!
# C08 — the contract between the runtime kernel and a `Scheduler`

Model: `ShuttleModel/Kernel.lean` (`Kernel.schedule` = `ExecutionState::schedule`, `Kernel.advance` =
`advance_to_next_task`, `runLoop` = `run_to_completion`, `execute` = `Execution::run`).  Everything below holds
for every program `P`, every scheduler `S` (any state type, any behaviour), every `MaxSteps`, seed, initial
scheduler state and every amount of model fuel.

Vocabulary (`ShuttleProofs/Lemmas/Kernel*.lean`):
* `initState P ms seed s` — the state in which `Execution::run` enters the loop; `LoopInv ms st` — the loop-head
  invariant; `Reach S segFuel st0 st` — loop head `st` is reached from loop head `st0`.
* `Consults k` — `schedule()` called in kernel state `k` reaches `Scheduler::next_task`
  (`next_task = None`, step bound not hit, `¬(!any_runnable || (!unfinished_attached && all_runnable_detached))`).
* `Decision S segFuel st0 st ev` — `st` is reachable from `st0`, `Consults st.k`, the scheduler's answer `ch`
  was `None` or an offered task, and the consultation was logged as `ev = .dec st.k.offered st.k.current.id
  st.k.hasYielded ch`.

By `log_decisions` every `dec` event of the final log of `execute …` is produced by such a `Decision`, so a statement
"for every `Decision … st (.dec off cur y ch)`" speaks of every scheduling decision of every execution, at the
kernel state `st.k` in which it was taken.
-/

namespace ShuttleProofs.C08
open ShuttleModel ShuttleProofs.Kernel

variable {P : Program} {σ : Type}

theorem log_decisions (P : Program) (S : Scheduler σ) (ms : MaxSteps) (seed : Nat) (s : σ) (fuel segFuel : Nat)
    (off : List Nat) (cur : Option Nat) (y : Bool) (ch : Option Nat)
    (h : .dec off cur y ch ∈ (execute P S ms seed s fuel segFuel).st.log.toList) :
    ∃ st, Decision S segFuel (initState P ms seed s) st (.dec off cur y ch) := by
  rw [execute_eq] at h
  rcases runLoop_dec_origin S segFuel fuel ms _ (LoopInv.init P ms seed s) _ h rfl with h | h
  · simp [initState] at h
  · exact h

/-- Conversely, every `Decision` taken at a loop head reached within the loop fuel is in the log: the `dec`
events of the log are exactly the scheduling decisions of the execution. -/
theorem decisions_logged (P : Program) (S : Scheduler σ) (ms : MaxSteps) (seed : Nat) (s : σ) (fuel segFuel : Nat)
    (m : Nat) (st : ExecState P σ) (ev : Ev) (hr : ReachN S segFuel m (initState P ms seed s) st)
    (hd : Decision S segFuel (initState P ms seed s) st ev) (hfuel : m < fuel) :
    ev ∈ (execute P S ms seed s fuel segFuel).st.log.toList := by
  rw [execute_eq]
  exact decision_logged (LoopInv.init P ms seed s) hr hd fuel hfuel

section per_decision
variable {S : Scheduler σ} {segFuel : Nat} {st0 st : ExecState P σ}
  {off : List Nat} {cur : Option Nat} {y : Bool} {ch : Option Nat}

/-- the logged fields are what `schedule()` passed to `next_task` -/
theorem decision_fields (h : Decision S segFuel st0 st (.dec off cur y ch)) :
    off = st.k.offered ∧ cur = st.k.current.id ∧ y = st.k.hasYielded :=
  ⟨h.fields.1, h.fields.2.1, h.fields.2.2.1⟩

/-- **offered_nonempty** -/
theorem offered_nonempty (h : Decision S segFuel st0 st (.dec off cur y ch)) : off ≠ [] := by
  rw [h.fields.1]
  exact offered_ne_nil_of_anyRunnable h.consults.anyRunnable

/-- **offered_strictly_ascending** (hence duplicate-free) -/
theorem offered_strictly_ascending (h : Decision S segFuel st0 st (.dec off cur y ch)) :
    off.Pairwise (· < ·) := by
  rw [h.fields.1]; exact offered_pairwise st.k

theorem offered_nodup (h : Decision S segFuel st0 st (.dec off cur y ch)) : off.Nodup := by
  rw [h.fields.1]; exact Kernel.offered_nodup st.k

/-- **offered_unfinished**: every offered id is a task of the execution and is not finished. -/
theorem offered_unfinished (h : Decision S segFuel st0 st (.dec off cur y ch)) :
    ∀ i ∈ off, ∃ tk, st.k.tasks[i]? = some tk ∧ tk.state ≠ .finished := by
  rw [h.fields.1]
  intro i hi
  obtain ⟨tk, h1, h2⟩ := mem_live.mp (offered_subset_live hi)
  exact ⟨tk, h1, (Task.finished_eq_false_iff tk).mp h2⟩

/-- **offered_superset_runnable**: every runnable task is offered. -/
theorem offered_superset_runnable (h : Decision S segFuel st0 st (.dec off cur y ch)) :
    ∀ i tk, st.k.tasks[i]? = some tk → tk.state = .runnable → i ∈ off := by
  rw [h.fields.1]
  intro i tk h1 h2
  exact mem_offered.mpr ⟨tk, h1, Or.inl ((Task.runnable_iff tk).mpr h2)⟩

/-- **offered_subset_runnable_or_spurious**: an offered task is `Runnable` or `Blocked { allow_spurious_wakeups: true }`. -/
theorem offered_subset_runnable_or_spurious (h : Decision S segFuel st0 st (.dec off cur y ch)) :
    ∀ i ∈ off, ∃ tk, st.k.tasks[i]? = some tk ∧ (tk.state = .runnable ∨ tk.state = .blocked true) := by
  rw [h.fields.1]
  intro i hi
  obtain ⟨tk, h1, h2⟩ := mem_offered.mp hi
  refine ⟨tk, h1, ?_⟩
  rcases h2 with h2 | h2
  · exact Or.inl ((Task.runnable_iff tk).mp h2)
  · exact Or.inr ((Task.canSpuriouslyWakeup_iff tk).mp h2)

/-- a logged choice was offered (anything else makes `schedule()` panic, see `choice_not_offered_panics`) -/
theorem choice_offered (h : Decision S segFuel st0 st (.dec off cur y ch)) : ∀ t, ch = some t → t ∈ off := by
  obtain ⟨h1, _, _, _, _, h2⟩ := h.fields
  rw [h1]; exact h2

/-- **current_is_last_chosen** (state form): `cur` is the answer of the most recent earlier consultation of
this execution (`none` if there is none). -/
theorem current_is_last_chosen_at {ms : MaxSteps} (h0 : LoopInv ms st0)
    (h : Decision S segFuel st0 st (.dec off cur y ch)) : cur = lastChoice st.log.toList := by
  rw [h.fields.2.1]; exact (h.inv h0).cur

/-- **yielding_iff_requested**, part 1: the flag handed to the scheduler is `has_yielded` … -/
theorem yielding_is_flag (h : Decision S segFuel st0 st (.dec off cur y ch)) : y = st.k.hasYielded :=
  h.fields.2.2.1

end per_decision

/-- **offered_nonempty / offered_strictly_ascending on the log** of any execution. -/
theorem log_offered_nonempty_ascending (P : Program) (S : Scheduler σ) (ms : MaxSteps) (seed : Nat) (s : σ)
    (fuel segFuel : Nat) (off : List Nat) (cur : Option Nat) (y : Bool) (ch : Option Nat)
    (h : .dec off cur y ch ∈ (execute P S ms seed s fuel segFuel).st.log.toList) :
    off ≠ [] ∧ off.Pairwise (· < ·) ∧ ∀ t, ch = some t → t ∈ off := by
  obtain ⟨st, hd⟩ := log_decisions P S ms seed s fuel segFuel off cur y ch h
  exact ⟨offered_nonempty hd, offered_strictly_ascending hd, choice_offered hd⟩

/-- **current_is_last_chosen** (log form): in the log of any execution, the `cur` field of the `i`-th event, if
it is a `dec`, equals the answer of the last `dec` event before position `i` (`none` for the first). -/
theorem current_is_last_chosen (P : Program) (S : Scheduler σ) (ms : MaxSteps) (seed : Nat) (s : σ)
    (fuel segFuel : Nat) (i : Nat) (off : List Nat) (cur : Option Nat) (y : Bool) (ch : Option Nat)
    (h : (execute P S ms seed s fuel segFuel).st.log.toList[i]? = some (.dec off cur y ch)) :
    cur = lastChoice ((execute P S ms seed s fuel segFuel).st.log.toList.take i) := by
  rw [execute_eq] at h ⊢
  exact runLoop_curChain S segFuel fuel ms _ (LoopInv.init P ms seed s)
    (by simpa [initState] using CurChain.nil) i off cur y ch h

/-- **yielding_iff_requested**, part 2: … the consultation resets it: the chosen task's segment starts with
`has_yielded = false`, `current = Some(t)`, `next_task = None` and one more recorded step `.task t`. -/
theorem segStart_fields (st : ExecState P σ) (t : Nat) (s' : σ) :
    (segStart st t s').k.hasYielded = false ∧ (segStart st t s').k.current = .some t ∧
      (segStart st t s').k.next = .none ∧ (segStart st t s').k.schedRev = .task t :: st.k.schedRev ∧
      (segStart st t s').k.stepsResetAt = st.k.stepsResetAt ∧ (segStart st t s').conts = st.conts ∧
      (segStart st t s').log.toList = st.log.toList ++ [.dec st.k.offered st.k.current.id st.k.hasYielded (some t)] :=
  ⟨rfl, rfl, rfl, rfl, rfl, rfl, by simp [segStart, decEv]⟩

/-- part 3: executing `request_yield` sets the flag, and it stays set until the end of the segment -/
theorem requestYield_sets_flag (S : Scheduler σ) (me fuel : Nat) (st : ExecState P σ)
    (kont : Unit → Prog P.U Unit) :
    (runSegment S me (fuel + 1) st (.op .requestYield kont)).st.k.hasYielded = true := by
  rw [runSegment_op_eq]
  exact (runSegment_trace S me fuel _ (kont ())).frame.yieldMono rfl

/-- part 4: nothing else sets it — a segment that issues no `requestYield` before its next `switch` (nor
while unwinding a panic) leaves `has_yielded` unchanged. -/
theorem flag_only_by_requestYield (S : Scheduler σ) (me fuel : Nat) (st : ExecState P σ) (p : Prog P.U Unit)
    (hp : UntilSwitch (P := P) isYield p) (hu : ∀ i, UntilSwitch (P := P) isYield (P.unwind i)) :
    (runSegment S me fuel st p).st.k.hasYielded = st.k.hasYielded :=
  (runSegment_trace S me fuel st p).hasYielded_eq hp hu

/-- `has_yielded` is monotone inside a segment -/
theorem flag_monotone (S : Scheduler σ) (me fuel : Nat) (st : ExecState P σ) (p : Prog P.U Unit)
    (h : st.k.hasYielded = true) : (runSegment S me fuel st p).st.k.hasYielded = true :=
  (runSegment_trace S me fuel st p).frame.yieldMono h

/-- **chosen_runs_next**: after a consultation answering `Some(t)` (with `t` offered) the loop runs task `t`'s
continuation `p`, from a state with `current = Some(t)` whose recorded schedule gained exactly `.task t`; the next
loop head (if any) carries the `has_yielded` flag and the recorded schedule the segment ended with. -/
theorem chosen_runs_next {ms : MaxSteps} (S : Scheduler σ) (segFuel : Nat) {st : ExecState P σ}
    (hi : LoopInv ms st) (hc : Consults st.k) {t : Nat} {s' : σ}
    (hask : ask S st.k st.sch = (.choose (some t), s')) (hmem : t ∈ st.k.offered) :
    ∃ p, st.conts[t]? = some p ∧
      loopStep S segFuel st = finishSeg t (runSegment S t segFuel (segStart st t s') p) ∧
      (segStart st t s').k.current = .some t ∧
      (segStart st t s').k.schedRev = .task t :: st.k.schedRev ∧
      ∀ b, loopStep S segFuel st = .inr b →
        b.k.hasYielded = (runSegment S t segFuel (segStart st t s') p).st.k.hasYielded ∧
        b.k.schedRev = (runSegment S t segFuel (segStart st t s') p).st.k.schedRev := by
  obtain ⟨p, hp, hl⟩ := loopStep_chose S segFuel hi.next hi.conts hc hask hmem
  refine ⟨p, hp, hl, rfl, rfl, ?_⟩
  intro b hb
  rw [hl] at hb
  obtain ⟨_, ts, _, rfl⟩ := finishSeg_inr hb
  exact ⟨rfl, rfl⟩

/-- **chosen_runs_next**, task state: when the chosen task's segment starts the task is `Runnable` — a
spuriously woken (`Blocked{allow_spurious_wakeups}`) task has been unblocked by `schedule()` — and no other
task's state was touched. -/
theorem chosen_task_runnable (st : ExecState P σ) (t : Nat) (s' : σ) (hmem : t ∈ st.k.offered) :
    (∃ tk, (segStart st t s').k.tasks[t]? = some tk ∧ tk.state = .runnable) ∧
    (∀ i, i ≠ t → (segStart st t s').k.tasks[i]? = st.k.tasks[i]?) ∧
    (∀ tk, st.k.tasks[t]? = some tk → tk.state = .runnable → (segStart st t s').k.tasks = st.k.tasks) :=
  segStart_tasks st t s' hmem

/-- a scheduler answering with a task that was not offered makes `schedule()` panic (`unwrap`/`assert!`) -/
theorem choice_not_offered_panics {ms : MaxSteps} (S : Scheduler σ) (segFuel : Nat) {st : ExecState P σ}
    (hi : LoopInv ms st) (hc : Consults st.k) {t : Nat} {s' : σ}
    (hask : ask S st.k st.sch = (.choose (some t), s')) (hmem : t ∉ st.k.offered) :
    ∃ msg st', loopStep S segFuel st = .inl ⟨.schedPanic msg, st'⟩ := by
  obtain ⟨msg, h⟩ := loopStep_choseBad S segFuel hi.next hi.conts hc hask hmem
  exact ⟨msg, _, h⟩

/-- **none_stops_without_failure** (iteration form): answering `None` ends the loop at once with outcome
`stopped`; no task segment runs, the schedule is not extended. -/
theorem none_stops_iter {ms : MaxSteps} (S : Scheduler σ) (segFuel : Nat) {st : ExecState P σ}
    (hi : LoopInv ms st) (hc : Consults st.k) {s' : σ} (hask : ask S st.k st.sch = (.choose none, s')) :
    ∃ st', loopStep S segFuel st = .inl ⟨.stopped, st'⟩ ∧ st'.k.schedRev = st.k.schedRev ∧
      st'.k.current = .stopped ∧ st'.log.toList = st.log.toList ++ [decEv st.k none] := by
  refine ⟨_, loopStep_choseNone S segFuel hi.next hi.conts hc hask, rfl, rfl, by simp⟩

/-- **none_stops_without_failure** (execution form): if some consultation of an execution was answered `None`,
the outcome is `stopped` — never a failure — and that consultation is the last event of the log. -/
theorem none_stops_without_failure (P : Program) (S : Scheduler σ) (ms : MaxSteps) (seed : Nat) (s : σ)
    (fuel segFuel : Nat) (off : List Nat) (cur : Option Nat) (y : Bool)
    (h : .dec off cur y none ∈ (execute P S ms seed s fuel segFuel).st.log.toList) :
    (execute P S ms seed s fuel segFuel).outcome = .stopped ∧
      (execute P S ms seed s fuel segFuel).st.log.toList.getLast? = some (.dec off cur y none) := by
  obtain ⟨stf, _, hi, hf⟩ := execute_final P S ms seed s fuel segFuel
  obtain ⟨decs, evs, hlog, hnd, hdec⟩ := hf.log
  rw [hlog] at h ⊢
  rcases List.mem_append.mp h with h1 | h1
  · rcases List.mem_append.mp h1 with h2 | h2
    · exact absurd rfl (hi.noNone _ h2 off cur y)
    · rcases hdec with rfl | ⟨ch, s', rfl, _, _, _, hnone⟩
      · cases h2
      · simp only [List.mem_singleton] at h2
        have hch : ch = none := by
          simp only [decEv, Ev.dec.injEq] at h2
          exact h2.2.2.2.symm
        obtain ⟨ho, he⟩ := hnone hch
        refine ⟨ho, ?_⟩
        rw [he, ← h2]; simp
  · have := hnd _ h1
    simp [isDec] at this

/-- conversely the outcome `stopped` only arises from a `None` answer (a `ContinueAfter` bound gives
`abandoned` instead), logged as the last event. -/
theorem stopped_only_by_none (P : Program) (S : Scheduler σ) (ms : MaxSteps) (seed : Nat) (s : σ)
    (fuel segFuel : Nat) (h : (execute P S ms seed s fuel segFuel).outcome = .stopped) :
    ∃ off cur y, (execute P S ms seed s fuel segFuel).st.log.toList.getLast? = some (.dec off cur y none) := by
  obtain ⟨stf, _, _, hf⟩ := execute_final P S ms seed s fuel segFuel
  have hv := hf.verdict
  rw [h] at hv
  obtain ⟨s', _, _, hst⟩ := hv
  rw [hst]
  exact ⟨stf.k.offered, stf.k.current.id, stf.k.hasYielded, by simp [decEv]⟩

/-- `StepError::SchedulingError` ("no task was scheduled. This indicates an issue with the scheduler") is
unreachable, whatever the scheduler does: `advance_to_next_task` never leaves `current_task = None`, and (model
bookkeeping) every task id the loop runs has a continuation. -/
theorem no_scheduling_error (P : Program) (S : Scheduler σ) (ms : MaxSteps) (seed : Nat) (s : σ)
    (fuel segFuel : Nat) : (execute P S ms seed s fuel segFuel).outcome ≠ .schedulingError := by
  obtain ⟨stf, _, _, hf⟩ := execute_final P S ms seed s fuel segFuel
  intro h
  have hv := hf.verdict
  rw [h] at hv
  exact hv

/-- **record_exact**: at the end of any execution the recorded schedule is the projection of the log — one
`.task t` per consultation answered `Some(t)`, one `.random` per `draw`, in log order.  The only exception: when
`Scheduler::next_u64` itself panics, its `.random` step has already been pushed (`push_random()` precedes the
call) and has no `draw` event. -/
theorem record_exact (P : Program) (S : Scheduler σ) (ms : MaxSteps) (seed : Nat) (s : σ) (fuel segFuel : Nat) :
    let r := execute P S ms seed s fuel segFuel
    r.st.k.schedule_ = logSteps r.st.log.toList ∨
      (∃ msg, r.outcome = .schedPanic msg ∧ r.st.k.schedule_ = logSteps r.st.log.toList ++ [.random]) := by
  obtain ⟨stf, _, hi, hf⟩ := execute_final P S ms seed s fuel segFuel
  exact hf.record hi

/-- `record_exact` for every outcome other than a scheduler panic -/
theorem record_exact_of_not_schedPanic (P : Program) (S : Scheduler σ) (ms : MaxSteps) (seed : Nat) (s : σ)
    (fuel segFuel : Nat) (h : ∀ msg, (execute P S ms seed s fuel segFuel).outcome ≠ .schedPanic msg) :
    (execute P S ms seed s fuel segFuel).st.k.schedule_ =
      logSteps (execute P S ms seed s fuel segFuel).st.log.toList := by
  rcases record_exact P S ms seed s fuel segFuel with h' | ⟨msg, h1, _⟩
  · exact h'
  · exact absurd h1 (h msg)

/-- the recorded schedule at every loop head is the projection of the log so far -/
theorem record_exact_at (P : Program) (S : Scheduler σ) (ms : MaxSteps) (seed : Nat) (s : σ) (segFuel : Nat)
    (st : ExecState P σ) (h : Reach S segFuel (initState P ms seed s) st) :
    st.k.schedule_ = logSteps st.log.toList :=
  ((LoopInv.init P ms seed s).reach h).record

/-- The log of a concrete 2-task execution (main: spawn, switch, request_yield, switch, next_u64; child: switch)
under "first offered": 6 decisions, `yielding = true` exactly after the `request_yield`, `cur` chaining, a
`draw`; the recorded schedule is its projection. -/
example :
    (execute exP firstSched .none 0 () 20 20).st.log.toList =
      [.dec [0] none false (some 0), .dec [0, 1] (some 0) false (some 0), .dec [0, 1] (some 0) true (some 0),
       .draw 7, .dec [1] (some 0) false (some 1), .dec [1] (some 1) false (some 1)] ∧
    (execute exP firstSched .none 0 () 20 20).st.k.schedule_ =
      [.task 0, .task 0, .task 0, .random, .task 1, .task 1] ∧
    (execute exP firstSched .none 0 () 20 20).outcome = .ok := by decide

/-- a scheduler answering `None` at its third consultation: outcome `stopped`, last event is that consultation -/
example :
    (execute exP (stopAfter 2) .none 0 0 20 20).outcome = .stopped ∧
    (execute exP (stopAfter 2) .none 0 0 20 20).st.log.toList.getLast? = some (.dec [0, 1] (some 0) true none) := by
  decide

/-- `Decision` is inhabited: the first consultation of `exP` -/
example : Decision firstSched 20 (initState exP .none 0 ()) (initState exP .none 0 ()) (.dec [0] none false (some 0)) :=
  ⟨Reach.refl _ _ _, ⟨rfl, trivial, by decide⟩, some 0, (), rfl, fun t ht => by cases ht; decide, rfl⟩

end ShuttleProofs.C08

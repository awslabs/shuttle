/-
  C20 (collections part).

  "The deterministic HashMap/HashSet iterate in an order that is a function of their operation history alone
   (identical across instances, executions and processes) and otherwise behave like std's."
  "Every DashMap/DashSet operation is atomic and the map's contents always equal those of a plain map under the
   same linear order of operations."

  Proved here, about the models `ShuttleModel/Wrap/{SipHash,DetMap,DashMap}.lean`:
  (a) `detmap_refines_std`, `setops_as_specified` (the set operators AS SPECIFIED; the implementation /repo
      started from violates this: F16, see /verif/work/c20_fix_setops.diff);
  (b) `dash_linearizable`, `dash_mutual_exclusion`, `dash_read_ops_pure`, under the RwLock discipline built
      into `DashMap.step` (one writer or many readers inside; an op = acquire ; effect+release);
  (c) `iteration_order_function_of_history_partial`, `iteration_order_of_ops`, with hashbrown's layout
      abstracted as a deterministic function `order (hash) (history)`.

  TRUSTED, NOT PROVED (this is why (c) is `_partial`):
    * "hashbrown has no other entropy source": that std/hashbrown's table layout – hence iteration order – depends
      on nothing but the hash values of the keys and the sequence of mutating calls (incl. capacity requests).
      No address-, time-, thread- or process-dependent input.  `Layout.order` is uninterpreted.
      Checked empirically by `vh_c20coll history` run in two separate processes (byte-identical iteration orders
      for hundreds of random histories, two instances per history) – /verif/tools/c20coll_check.py.
    * that std's `RandomState{k0,k1}` hashes with SipHash-1-3 as modelled in `SipHash.lean` (161 vectors compared).
    * the premise "same hash function" is exactly what F15 (`Deserialize`) and F16 (set operators) break in the
      unrepaired code; `different_keys_may_differ` shows the conclusion really fails without it.
-/
import ShuttleProofs.Lemmas.C20Det
import ShuttleProofs.Lemmas.C20Dash

namespace ShuttleProofs.C20Coll
open ShuttleModel

variable {K V : Type} [DecidableEq K]

/-- the Lean SipHash-1-3 model reproduces all 111 embedded vectors printed by the real std hasher
(`vh_c20coll vectors`); checked by the kernel, no `native_decide` -/
theorem sipSelfTest_ok : SipHash.sipSelfTest = true := by decide +kernel

/-- the three probe values every `vh_c20coll hashers` line must show (`hash_one(1u64)`, `hash_one(0xdeadbeefu64)`,
`hash_one("abc")` under the fixed keys) -/
theorem detProbe_value :
    SipHash.detProbe = (0x1e9f734161d62dd9, 0x1e1d875fb6b69775, 0xef09e0f4895a251d) := by decide +kernel

section Det
open ShuttleModel.DetMap ShuttleProofs.C20Det

theorem step_keys (op : Op K V) (d : DetMap K V) :
    (DetMap.step op d).2.k0 = d.k0 ∧ (DetMap.step op d).2.k1 = d.k1 := ⟨rfl, rfl⟩

theorem run_keys (ops : List (Op K V)) (d : DetMap K V) :
    (DetMap.run ops d).2.k0 = d.k0 ∧ (DetMap.run ops d).2.k1 = d.k1 := by
  induction ops generalizing d with
  | nil => exact ⟨rfl, rfl⟩
  | cons op ops ih => exact ih (DetMap.step op d).2

theorem detmap_refines_std_from (d : DetMap K V) (r : Entries K V) (S : Sim d.entries r)
    (ops : List (Op K V)) :
    (DetMap.run ops d).1 = (refRun ops r).1 ∧
      Sim (DetMap.run ops d).2.entries (refRun ops r).2 ∧
      (∀ k, lookup k (DetMap.run ops d).2.entries = lookup k (refRun ops r).2) := by
  have h := sim_run ops S
  exact ⟨h.1, h.2, fun k => lookup_perm h.2.1 h.2.2 k⟩

/-- (a) For every op sequence applied to a fresh deterministic map: the results are those of the reference
sequential map, the contents agree (as a permutation and as a lookup function), and the hasher keys are still the
fixed ones – the wrapper adds nothing but the hasher. -/
theorem detmap_refines_std (ops : List (Op K V)) :
    (DetMap.run ops (DetMap.new : DetMap K V)).1 = (refRun ops []).1 ∧
      Sim (DetMap.run ops (DetMap.new : DetMap K V)).2.entries (refRun ops []).2 ∧
      (∀ k, lookup k (DetMap.run ops (DetMap.new : DetMap K V)).2.entries = lookup k (refRun ops []).2) ∧
      (DetMap.run ops (DetMap.new : DetMap K V)).2.k0 = SipHash.detK0 ∧
      (DetMap.run ops (DetMap.new : DetMap K V)).2.k1 = SipHash.detK1 := by
  have h := detmap_refines_std_from (DetMap.new : DetMap K V) [] ⟨.refl _, List.nodup_nil⟩ ops
  have hk := run_keys ops (DetMap.new : DetMap K V)
  exact ⟨h.1, h.2.1, h.2.2, hk.1, hk.2⟩

-- non-vacuity: a concrete history with replace, remove of present/absent keys, retain, extend, clear
example :
    (DetMap.run [Op.insert 1 10, .insert 2 20, .insert 1 11, .get 1, .remove 2, .remove 7, .len,
        .extend [(5, 50), (1, 12)], .retain (fun k _ => k != 5), .contains 5, .isEmpty, .clear, .len]
      (DetMap.new : DetMap Nat Nat)).1
    = [.optVal none, .optVal none, .optVal (some 10), .optVal (some 11), .optVal (some 20), .optVal none, .nat 1,
       .unit, .unit, .bool false, .bool false, .unit, .nat 0] := rfl

/-- set operators AS SPECIFIED: std's membership, the fixed keys -/
theorem setops_as_specified (a b : DetSet K) (k : K) :
    ((DetSet.union a b).contains k = true ↔ (a.contains k = true ∨ b.contains k = true)) ∧
    ((DetSet.inter a b).contains k = true ↔ (a.contains k = true ∧ b.contains k = true)) ∧
    ((DetSet.diff a b).contains k = true ↔ (a.contains k = true ∧ b.contains k = false)) ∧
    ((DetSet.symmDiff a b).contains k = true ↔
        ((a.contains k = true ∧ b.contains k = false) ∨ (b.contains k = true ∧ a.contains k = false))) ∧
    (DetSet.union a b).k0 = SipHash.detK0 ∧ (DetSet.union a b).k1 = SipHash.detK1 ∧
    (DetSet.inter a b).k0 = SipHash.detK0 ∧ (DetSet.inter a b).k1 = SipHash.detK1 ∧
    (DetSet.diff a b).k0 = SipHash.detK0 ∧ (DetSet.diff a b).k1 = SipHash.detK1 ∧
    (DetSet.symmDiff a b).k0 = SipHash.detK0 ∧ (DetSet.symmDiff a b).k1 = SipHash.detK1 := by
  refine ⟨?_, ?_, ?_, ?_, rfl, rfl, rfl, rfl, rfl, rfl, rfl, rfl⟩
  · rw [DetSet.union, contains_ofKeys, mem_unionElems]
  · rw [DetSet.inter, contains_ofKeys, mem_interElems]
  · rw [DetSet.diff, contains_ofKeys, mem_diffElems]
  · rw [DetSet.symmDiff, contains_ofKeys, mem_symmElems]

example : ((DetSet.union (DetSet.ofKeys [1, 2, 3]) (DetSet.ofKeys [3, 4])).entries.map Prod.fst,
           (DetSet.inter (DetSet.ofKeys [1, 2, 3]) (DetSet.ofKeys [3, 4])).entries.map Prod.fst,
           (DetSet.diff (DetSet.ofKeys [1, 2, 3]) (DetSet.ofKeys [3, 4])).entries.map Prod.fst,
           (DetSet.symmDiff (DetSet.ofKeys [1, 2, 3]) (DetSet.ofKeys [3, 4])).entries.map Prod.fst)
    = ([1, 2, 3, 4], [3], [1, 2], [1, 2, 4]) := rfl

end Det

section Iter
open ShuttleModel.DetMap

omit [DecidableEq K] in
/-- (c) PARTIAL.  Full statement wanted: "the iteration order of the real map is a function of its operation
history alone".  What is proved: in the model where the order is `L.order (hash) (history)` for an arbitrary but
fixed function `L.order`, equal hasher keys and equal histories give equal iteration orders.  What is missing
(trusted, differentially tested): that hashbrown's real layout IS such a function, i.e. has no other entropy
source. -/
theorem iteration_order_function_of_history_partial (L : Layout K V) (hashOf : Nat → Nat → K → Nat)
    (d₁ d₂ : DetMap K V) (hk0 : d₁.k0 = d₂.k0) (hk1 : d₁.k1 = d₂.k1) (hh : d₁.hist = d₂.hist) :
    d₁.iterKeys L hashOf = d₂.iterKeys L hashOf := by
  unfold DetMap.iterKeys; rw [hk0, hk1, hh]

theorem run_hist (ops : List (Op K V)) (d : DetMap K V) :
    (DetMap.run ops d).2.hist = d.hist ++ ops.filter Op.mutating := by
  induction ops generalizing d with
  | nil => simp [DetMap.run]
  | cons op ops ih =>
    simp only [DetMap.run, ih, DetMap.step, List.filter_cons]
    cases op.mutating <;> simp

/-- for a map obtained from a fixed-key constructor, the iteration order after any op sequence is a function of
the mutating ops of that sequence – of nothing else in the model (not of the instance, not of the results) -/
theorem iteration_order_of_ops (L : Layout K V) (hashOf : Nat → Nat → K → Nat) (ops : List (Op K V)) :
    ((DetMap.run ops (DetMap.new : DetMap K V)).2).iterKeys L hashOf
      = L.order (hashOf SipHash.detK0 SipHash.detK1) (ops.filter Op.mutating) := by
  unfold DetMap.iterKeys
  rw [run_hist, (run_keys ops _).1, (run_keys ops _).2]
  rfl

/-- two instances, same ops ⇒ same results and same iteration order (a clone included) -/
theorem two_instances_agree (L : Layout K V) (hashOf : Nat → Nat → K → Nat) (ops : List (Op K V)) :
    let d₁ := (DetMap.run ops (DetMap.new : DetMap K V))
    let d₂ := (DetMap.run ops (DetMap.new : DetMap K V).clone)
    d₁.1 = d₂.1 ∧ d₁.2.iterKeys L hashOf = d₂.2.iterKeys L hashOf ∧
      d₁.2.clone.iterKeys L hashOf = d₁.2.iterKeys L hashOf := ⟨rfl, rfl, rfl⟩

/-- the premise on the keys is needed: a layout and a history for which two different key pairs iterate
differently (this is the observable effect of F15/F16: a map carrying random keys) -/
theorem different_keys_may_differ :
    ∃ (L : Layout Nat Nat) (hashOf : Nat → Nat → Nat → Nat) (d₁ d₂ : DetMap Nat Nat),
      d₁.hist = d₂.hist ∧ d₁.entries = d₂.entries ∧ d₁.iterKeys L hashOf ≠ d₂.iterKeys L hashOf := by
  refine ⟨⟨fun h _ => if h 1 ≤ h 2 then [1, 2] else [2, 1]⟩, fun k0 _ x => (k0 + x) % 2,
    ⟨0, 0, [], []⟩, ⟨1, 0, [], []⟩, rfl, rfl, ?_⟩
  decide

-- non-vacuity of (c): the real hash function on u64 keys, a non-trivial history
example (L : Layout Nat Nat) :
    ((DetMap.run [Op.insert 1 10, .get 1, .insert 2 20, .remove 1] (DetMap.new : DetMap Nat Nat)).2).iterKeys L
        SipHash.hashU64
      = L.order (SipHash.hashU64 0 0) [Op.insert 1 10, .insert 2 20, .remove 1] := by
  rw [iteration_order_of_ops]; rfl

end Iter

section Dash
open ShuttleModel.DetMap (Entries)
open ShuttleModel.DashMap ShuttleProofs.C20Dash

/-- read-mode ops never change the map (so concurrent readers cannot interfere) -/
theorem dash_read_ops_pure (op : Op K V) (m : Entries K V) (h : lockMode op = .read) : (dashOp op m).2 = m :=
  read_pure op m h

/-- (b) For arbitrary per-task programs `progs`, initial contents `m0` and schedule `sched` (a list of task ids;
each entry lets that task make its next move: acquire the lock if admissible, or perform its computation and
release), let `lin` be the completed-or-in-flight calls in lock-acquisition order.  Then
  1. every completed call `(seq, task, op, result)` occupies position `seq` of `lin` and its result is the one the
     plain sequential map produces at that position when `lin` is replayed from `m0`;
  2. whenever no call is in flight the shared contents are exactly those of the plain map after `lin`;
  3. `lin` respects every task's program order (issued ops ++ remaining ops = program). -/
theorem dash_linearizable (progs : Nat → List (Op K V)) (m0 : Entries K V) (sched : List Nat) :
    let σ := runSched sched (Conc.init progs m0)
    let lin := σ.acq.map Prod.snd
    (∀ d ∈ σ.done, (∃ l, σ.acq[d.1]? = some (d.2.1, (d.2.2.1, l))) ∧
        (seqRun lin m0).1[d.1]? = some d.2.2.2) ∧
      (σ.holders = [] → σ.map = (seqRun lin m0).2) ∧
      (∀ t, issued σ t ++ σ.rest t = progs t) := by
  intro σ lin
  have I : Inv m0 σ := inv_run sched (inv_init progs m0)
  have P : ProgOrder progs σ := progOrder_run sched (progOrder_init progs m0)
  refine ⟨I.done_ok, ?_, P⟩
  intro hnil
  exact I.readers (by intro h hm; rw [hnil] at hm; cases hm)

/-- writers are alone inside the lock; readers share it only with readers -/
theorem dash_mutual_exclusion (progs : Nat → List (Op K V)) (m0 : Entries K V) (sched : List Nat) :
    let σ := runSched sched (Conc.init progs m0)
    ∀ h ∈ σ.holders, lockMode h.2.2 = .write → σ.holders = [h] := by
  intro σ h hm hw
  have I : Inv m0 σ := inv_run sched (inv_init progs m0)
  exact (I.writer h hm hw).1

end Dash

-- non-vacuity of (b): two writers and a reader, a `try_get` that is locked out

section DashExample
open ShuttleModel.DashMap

def exProgs : Nat → List (Op Nat Nat)
  | 0 => [.insert 1 10, .getMut 1 (· + 5)]
  | 1 => [.tryGet 1, .insert 2 20, .get 1]
  | _ => []

/-- task 0 acquires for `insert`, task 1's `try_get` is locked out, task 0 completes, task 1 inserts, task 0
acquires `get_mut`, task 1 blocks on `get`, task 0 completes, task 1 reads -/
def exSched : List Nat := [0, 1, 0, 1, 1, 0, 1, 0, 1, 1]

example : (runSched exSched (Conc.init exProgs [])).map = [(1, 15), (2, 20)] := rfl
example : (runSched exSched (Conc.init exProgs [])).holders.length = 0 := rfl
example : (runSched exSched (Conc.init exProgs [])).done.map (fun d => (d.1, d.2.1, d.2.2.2))
    = [(1, 1, .locked), (0, 0, .optVal none), (2, 1, .optVal none), (3, 0, .optVal (some 10)),
       (4, 1, .optVal (some 15))] := rfl
example : (seqRun ((runSched exSched (Conc.init exProgs [])).acq.map Prod.snd) []).1
    = [.optVal none, .locked, .optVal none, .optVal (some 10), .optVal (some 15)] := rfl

end DashExample

end ShuttleProofs.C20Coll

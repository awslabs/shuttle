import ShuttleProofs.Lemmas.TokioMpsc
import ShuttleProofs.Lemmas.TokioNotify
/-
  C19 — the tokio-compatible primitives of `wrappers/tokio` (models:
  `ShuttleModel/Wrap/Tokio{Base,Mpsc,Oneshot,Notify,Watch,Locks}.lean`).

  "Under Shuttle the tokio replacements behave as tokio documents: mpsc channels deliver each sent
   value exactly once in order, bounded ones never exceed capacity and give a slot back for every
   value received by any receive method, and closing or dropping either side is observed as tokio
   specifies; oneshot delivers at most one value; watch receivers always see the latest value and
   are notified of every change after their last look. Notify stores at most one permit, wakes
   exactly one registered waiter per notify_one and all current waiters per notify_waiters, and
   never loses a notification; Mutex, RwLock and Semaphore give exclusion, permit conservation and
   FIFO fairness; task spawning, JoinHandle and abort behave as in C17. None of these operations
   makes a correct tokio program deadlock or panic under Shuttle."

  The mpsc (bounded channels only), oneshot and lock statements are about ALL op histories of a
  most-general client over the PURE transitions (`Lemmas/TokioMpsc.lean`: `MpscLts.Reach`;
  `Lemmas/TokioNotify.lean`: `OReach`; the semaphore layer is C18's `SemLts`). The watch
  statement is about any sequence of stores from an arbitrary state, the Notify statements about
  single transitions from an arbitrary state; `NotifyLts.Reach` serves the F14 witness only.

  Two clauses of the property are FALSE for shuttle as it was found; their full statements are
  refuted by machine-checked witnesses and the true parts are proved as `…_partial`:
  * F4  — `blocking_recv` did not give the slot back (`tmpsc_slot_returned_on_every_receive`);
          /repo has the repair (b5ca19b), and the full statement IS a theorem for the repaired code
          (`fixedF4 := true`);
  * F14 — a `notify_one` delivered to a `Notified` that is dropped unpolled is not passed on
          (`notify_never_lost`).
  A third deviation is recorded by C18 (`C18.try_acquire_zero_panics`): `acquire_many(0)`, legal in
  tokio, panics.
-/
namespace ShuttleModel
namespace C19
open Tokio Tokio.MpscLts Tokio.NotifyLts SemLts

theorem reach_inv {fx : Bool} {b : Nat} {c : Clock} {m : M} {ops : List MOp}
    (h : MpscLts.Reach fx (some b) c m ops) : MInv b m := by
  induction h with
  | init =>
    refine ⟨rfl, Inv.new b true c, ?_, fun _ => rfl⟩
    simp [TMpsc.new, SemState.new]
  | step _ hs ih => exact (mstep_spec ih hs).1

/-- exactly once, in order: while the receiver is alive, what was received followed by what is
buffered is exactly what was pushed (nothing lost, duplicated or reordered) -/
theorem tmpsc_fifo_exactly_once {fx : Bool} {b : Nat} {c : Clock} {m : M} {ops : List MOp}
    (h : MpscLts.Reach fx (some b) c m ops) (hd : m.discarded = []) :
    m.popped ++ m.s.messages = m.pushed :=
  (reach_inv h).hist hd

/-- `send_sem.avail + (permits granted to queued senders) + len + reserved + owed + leaked = bound`:
the buffer never exceeds the bound, and `Channel::send`'s `assert!(len < bound)` never fires for a
sender holding a permit -/
theorem tmpsc_capacity {fx : Bool} {b : Nat} {c : Clock} {m : M} {ops : List MOp}
    (h : MpscLts.Reach fx (some b) c m ops) :
    m.s.sendSem.avail + pend m.s.sendSem.table + m.s.messages.length + m.reserved + m.owed + m.leaked = b ∧
    m.s.messages.length ≤ b ∧ (0 < m.reserved → m.s.messages.length < b) := by
  have hi := (reach_inv h).balance
  exact ⟨hi, by omega, by omega⟩

def noBlockingPop (ops : List MOp) : Bool :=
  ops.all (fun o => match o with | .pop .blockingRecv => false | _ => true)

/-- the receiver was not dropped (`drop_receiver` discards the buffer) -/
def noTake (ops : List MOp) : Bool :=
  ops.all (fun o => match o with | .takeMessages => false | _ => true)

theorem leaked_zero {fx : Bool} {b : Nat} {c : Clock} {m : M} {ops : List MOp}
    (h : MpscLts.Reach fx (some b) c m ops) (hnt : noTake ops = true)
    (hnb : fx = true ∨ noBlockingPop ops = true) : m.leaked = 0 := by
  induction h with
  | init => rfl
  | @step m m' ops fin op hr hs ih =>
    rw [noTake, List.all_cons, Bool.and_eq_true] at hnt
    rw [noBlockingPop, List.all_cons, Bool.and_eq_true] at hnb
    rcases (mstep_spec (reach_inv hr) hs).2 with h | rfl | ⟨rfl, rfl⟩
    · exact h.trans (ih hnt.2 (hnb.imp_right And.right))
    · cases hnt.1
    · rcases hnb with h | h
      · cases h
      · cases h.1

/-- FULL statement (a slot is given back for every value received by ANY receive method): while the
receiver is alive, every slot is available, granted to a queued sender, occupied by a buffered
message, reserved by a sender about to push, or about to be released by a receive in progress —
none is lost.  It holds for the REPAIRED `blocking_recv`: -/
theorem tmpsc_slot_returned_on_every_receive_fixed {b : Nat} {c : Clock} {m : M} {ops : List MOp}
    (h : MpscLts.Reach true (some b) c m ops) (hnt : noTake ops = true) :
    m.s.sendSem.avail + pend m.s.sendSem.table + m.s.messages.length + m.reserved + m.owed = b := by
  have hbal := (reach_inv h).balance
  rw [leaked_zero h hnt (Or.inl rfl)] at hbal
  exact hbal

/-- … and for the unrepaired one as long as the values are received by `recv` / `try_recv` -/
theorem tmpsc_slot_returned_on_every_receive_partial {b : Nat} {c : Clock} {m : M} {ops : List MOp}
    (h : MpscLts.Reach false (some b) c m ops) (hnt : noTake ops = true)
    (hnb : noBlockingPop ops = true) :
    m.s.sendSem.avail + pend m.s.sendSem.table + m.s.messages.length + m.reserved + m.owed = b := by
  have hbal := (reach_inv h).balance
  rw [leaked_zero h hnt (Or.inr hnb)] at hbal
  exact hbal

/-- the F4 run: `channel(1)`; `try_send(7)` (= acquire a send permit, push); `blocking_recv()` -/
def f4Ops : List MOp := [.sendSem (.tryAcquire 0 1 []), .push 7, .pop .blockingRecv]

def runM (fx : Bool) (m : M) : List MOp → Option M
  | [] => some m
  | op :: ops => match mstep fx (fun _ => false) m op with
    | some m' => runM fx m' ops
    | none => none

/-- the FULL statement is FALSE for the unrepaired code (F4): after `try_send; blocking_recv` on
`channel(1)` the channel is empty, nobody holds or owes a permit, and yet `capacity()` is 0 — the
next `send` waits forever -/
theorem tmpsc_slot_returned_on_every_receive_false :
    ∃ (m : M) (ops : List MOp), MpscLts.Reach false (some 1) [] m ops ∧ noTake ops = true ∧
      m.s.messages = [] ∧ m.reserved = 0 ∧ m.owed = 0 ∧ pend m.s.sendSem.table = 0 ∧
      m.s.sendSem.avail = 0 ∧ m.popped = [7] :=
  ⟨_, _, .step (fin := fun _ => false) (op := .pop .blockingRecv)
      (.step (fin := fun _ => false) (op := .push 7)
        (.step (fin := fun _ => false) (op := .sendSem (.tryAcquire 0 1 [])) .init rfl) rfl) rfl,
    rfl, rfl, rfl, rfl, rfl, rfl, rfl⟩

/-- the same run with the repaired code leaves the slot owed, and the `release(1)` gives it back -/
example : (runM true { s := TMpsc.new (some 1) [] } (f4Ops ++ [.giveSlot 0 []])).map
    (fun m => (m.s.sendSem.avail, m.owed, m.leaked)) = some (1, 0, 0) := by decide

/-- at most one value is ever delivered, and it is the value that was sent -/
theorem oneshot_at_most_one {o : OS} (h : OReach o) :
    o.delivered.length ≤ 1 ∧ (∀ v ∈ o.delivered, v ∈ o.sent) ∧ o.sent.length ≤ 1 := by
  have hi := oreach_inv h
  have hl : (o.delivered ++ o.core.data.toList).length ≤ 1 := by rw [hi.acct]; exact hi.one
  refine ⟨by simp at hl; omega, ?_, hi.one⟩
  intro v hv
  rw [← hi.acct]
  exact List.mem_append_left _ hv

example : ∃ o, OReach o ∧ o.delivered = [5] :=
  ⟨_, OReach.step (OReach.step OReach.init (op := .send 5) rfl) (op := .recv 1) rfl, rfl⟩

theorem store_version (w : TWatch) (v : Nat) : (w.store v).version = w.version + 2 := by
  unfold TWatch.version TWatch.store
  rw [Nat.add_mod_right, Nat.sub_add_comm (Nat.mod_le _ _)]

theorem foldl_store_value (vals : List Nat) (w : TWatch) :
    (vals.foldl TWatch.store w).value = vals.getLast?.getD w.value := by
  induction vals generalizing w with
  | nil => rfl
  | cons v vs ih => rw [List.foldl_cons, ih, List.getLast?_cons]; rfl

theorem foldl_store_version (vals : List Nat) (w : TWatch) :
    (vals.foldl TWatch.store w).version = w.version + 2 * vals.length := by
  induction vals generalizing w with
  | nil => rfl
  | cons v vs ih => rw [List.foldl_cons, ih, store_version, List.length_cons]; omega

theorem maybeChanged_of_ne {w : TWatch} {ver : Nat} (h : ver ≠ w.version) :
    w.maybeChanged ver = (some .ok, w.version) :=
  if_pos (bne_iff_ne.mpr h)

theorem maybeChanged_self (w : TWatch) : (w.maybeChanged w.version).1 ≠ some .ok := by
  unfold TWatch.maybeChanged
  rw [if_neg (by rw [bne_self_eq_false]; nofun)]
  split <;> nofun

/-- `changed()` reports a change exactly when the value was stored since the receiver's last look:
if the receiver's version is the channel's version of `k` stores ago, `maybe_changed` answers
`Ok` iff `k > 0`, and afterwards the receiver is up to date; `borrow` reads the value of the last
store -/
theorem watch_latest_and_notified (w : TWatch) (vals : List Nat) :
    let w' := vals.foldl TWatch.store w
    (w'.value = vals.getLast?.getD w.value) ∧
    (w'.version = w.version + 2 * vals.length) ∧
    ((w'.maybeChanged w.version).1 = some .ok ↔ vals ≠ []) ∧
    (vals ≠ [] → (w'.maybeChanged w.version).2 = w'.version) := by
  cases vals with
  | nil => exact ⟨rfl, rfl, ⟨fun h => absurd h (maybeChanged_self w), fun h => absurd rfl h⟩, fun h => absurd rfl h⟩
  | cons v vs =>
    -- every store raises the version, so the receiver's version is stale
    have hne : w.version ≠ ((v :: vs).foldl TWatch.store w).version := by
      rw [foldl_store_version, List.length_cons]; omega
    exact ⟨foldl_store_value .., foldl_store_version ..,
      ⟨fun _ => List.cons_ne_nil _ _, fun _ => by rw [maybeChanged_of_ne hne]⟩,
      fun _ => by rw [maybeChanged_of_ne hne]⟩

example : ((TWatch.new 0 1 []).store 4).value = 4 ∧
    (((TWatch.new 0 1 []).store 4).maybeChanged 0).1 = some .ok := by decide

/-- the permit store holds at most one permit: however many `notify_one` calls found no enabled
waiter, they leave the state one of them leaves, and of two waiters that register afterwards only
the first one takes a permit -/
theorem notify_at_most_one_permit (s : TNotify) (a b : Nat) :
    s.notifyOneNone.notifyOneNone = s.notifyOneNone ∧
    ((s.pollInner a).1 = .consumed → ((s.pollInner a).2.pollInner b).1 ≠ .consumed) :=
  ⟨rfl, fun h => (pollInner_spec _ b).2.1 ((pollInner_spec s a).1 h)⟩

/-- `notify_one` changes the flag of at most one waiter (the drawn one, which becomes NOTIFIED);
when nobody is enabled it changes none -/
theorem notify_one_wakes_at_most_one (s : TNotify) (id j : Nat) (hj : j ≠ id) :
    (s.notifyOneTake id).flagOf j = s.flagOf j ∧ s.notifyOneNone.flagOf j = s.flagOf j ∧
    (HasCell s id → (s.notifyOneTake id).flagOf id = flagNotified) := by
  refine ⟨?_, rfl, ?_⟩
  · unfold TNotify.notifyOneTake
    rw [flagOf_setFlag_ne _ id j _ hj]
    rfl
  · intro hc
    unfold TNotify.notifyOneTake
    exact flagOf_setFlag_eq _ id _ hc

/-- `notify_waiters` flags ALL current waiters (enabled or not), empties the queue and clears the
stored permit -/
theorem notify_waiters_wakes_all_current (s : TNotify) (hc : ∀ id ∈ s.waiters, HasCell s id) :
    s.notifyWaitersTake.1 = s.waiters ∧ s.notifyWaitersTake.2.waiters = [] ∧
    s.notifyWaitersTake.2.pending = false ∧
    ∀ id ∈ s.waiters, s.notifyWaitersTake.2.flagOf id = flagNotified := by
  unfold TNotify.notifyWaitersTake
  refine ⟨rfl, ?_, ?_, ?_⟩
  · exact (foldl_setFlag_pending_waiters s.waiters _).2
  · exact (foldl_setFlag_pending_waiters s.waiters _).1
  · intro id hid
    exact (foldl_setFlag_flag s.waiters { s with waiters := [], pending := false } id (hc id hid)).2 (Or.inl hid)

/-- FULL statement ("never loses a notification": when a `Notified` that received a `notify_one` is
dropped before it observed it, the notification is passed on to another enabled waiter or kept as
the stored permit) is FALSE (F14).  The run: two registered, enabled waiters; `notify_one` draws
waiter 0; waiter 0 is dropped without having been polled.  Afterwards waiter 1 is still registered
and ENABLED, no permit is stored — the `notify_one` is gone and `notified().await` of waiter 1 never
completes -/
theorem notify_never_lost_false :
    ∃ s, NotifyLts.Reach s ∧ s.waiters = [1] ∧ s.flagOf 1 = flagEnabled ∧ s.pending = false ∧
      s.flagOf 0 = flagNotified :=
  ⟨_, .step (op := .drop 0) (.step (op := .notifyOne 0) (.step (op := .pollInner 1)
      (.step (op := .pollInner 0) (.step (op := .notified) (.step (op := .notified) .init rfl) rfl) rfl)
      rfl) rfl) rfl, rfl, rfl, rfl, rfl⟩

/-- the true part: a notification is never lost for a waiter that is eventually polled — once
`notify_one` (or `notify_waiters`) flagged waiter `id`, no operation other than dropping `id`
itself takes the flag away, so its next `poll` / `enable` is ready -/
theorem notify_never_lost_partial {s s' : TNotify} {op : NOp} {id : Nat}
    (hid : id < s.nextId) (hcells : ∀ c ∈ s.cells, c.id < s.nextId)
    (hf : s.flagOf id = flagNotified) (hs : nstep s op = some s') (hop : op ≠ .drop id) :
    s'.flagOf id = flagNotified ∧ (s'.pollInner id).1 = .ready := by
  have hc := hasCell_of_notified hf
  have key : s'.flagOf id = flagNotified := by
    revert hs
    -- the enabled branches of `nstep`: `notified`, `pollInner`, `notifyOne` (nobody enabled, a waiter
    -- drawn), `notifyWaiters`, `drop`
    fun_cases nstep s op <;> intro hs <;> cases hs
    next =>
      -- the new cell is appended behind the cell `id` already has
      obtain ⟨c, hc⟩ := hc
      unfold TNotify.flagOf TNotify.cell at hf ⊢
      rw [hc] at hf
      rw [TNotify.notified, List.find?_append, hc]
      exact hf
    next j r _ hp =>
      have hs' : (s.pollInner j).2 = s' := congrArg Prod.snd hp
      by_cases hj : j = id
      · rw [← hs', hj, pollInner_self_notified hf]; exact hf
      · exact hs' ▸ ((pollInner_spec s j).2.2 id hj).trans hf
    next => exact hf
    next idx _ j _ =>
      by_cases hj : j = id
      · exact hj ▸ flagOf_setFlag_eq _ j _ (hj ▸ hc)
      · exact (flagOf_setFlag_ne _ j id _ (Ne.symm hj)).trans hf
    next => exact (foldl_setFlag_flag s.waiters { s with waiters := [], pending := false } id hc).2 (Or.inr hf)
    next j effs hd => exact (dropNotified_flag_other (fun h => hop (by rw [h])) hd).trans hf
  exact ⟨key, by rw [pollInner_self_notified key]⟩

/-- the three locks are one strictly fair `BatchSemaphore` each (`TMutex.new`, `TRwLock.new`,
`TSem.new`), so C18 applies verbatim -/
theorem locks_are_fair_semaphores (v n maxr : Nat) (c : Clock) :
    Initial 1 (TMutex.new v c).sem ∧ (TMutex.new v c).sem.fair = true ∧
    Initial maxr (TRwLock.new v maxr c).sem ∧ (TRwLock.new v maxr c).sem.fair = true ∧
    Initial n (TSem.new n c).sem ∧ (TSem.new n c).sem.fair = true :=
  ⟨Or.inl ⟨true, c, rfl⟩, rfl, Or.inl ⟨true, c, rfl⟩, rfl, Or.inl ⟨true, c, rfl⟩, rfl⟩

theorem le_heldSum_of_mem {l : List (Nat × Nat)} {x : Nat × Nat} (h : x ∈ l) : x.2 ≤ heldSum l := by
  induction l with
  | nil => cases h
  | cons y ys ih =>
    rcases List.mem_cons.mp h with rfl | h
    · exact Nat.le_add_right ..
    · exact Nat.le_trans (ih h) (Nat.le_add_left ..)

/-- two distinct entries of a list contribute both their permits -/
theorem add_le_heldSum {l : List (Nat × Nat)} {x y : Nat × Nat} (hx : x ∈ l) (hy : y ∈ l) (hne : y ≠ x) :
    x.2 + y.2 ≤ heldSum l := by
  induction l with
  | nil => cases hx
  | cons z zs ih =>
    rcases List.mem_cons.mp hx with rfl | hx' <;> rcases List.mem_cons.mp hy with rfl | hy'
    · exact absurd rfl hne
    · exact Nat.add_le_add_left (le_heldSum_of_mem hy') _
    · rw [Nat.add_comm]; exact Nat.add_le_add_left (le_heldSum_of_mem hx') _
    · exact Nat.le_trans (ih hx' hy') (Nat.le_add_left ..)

/-- permit conservation (`C18.conservation`) for a client that only gives back what it holds:
the permits held never exceed the initial ones — for the `Mutex` (1 permit) at most one guard
exists, for the `RwLock` a writer (all `maxr` permits) excludes every other guard -/
theorem tokio_locks_exclusion {n : Nat} {s0 : SemState} (h0 : Initial n s0) {g : G} (hr : SemLts.Reach s0 g)
    (hdisc : g.added = 0) :
    heldSum g.held ≤ n ∧
    (∀ t, (t, n) ∈ g.held → 0 < n → ∀ t' k, (t', k) ∈ g.held → 0 < k → (t', k) = (t, n) ∨ False ∨
      heldSum g.held ≥ n + k) := by
  have hcons := C18.conservation h0 hr
  refine ⟨by omega, fun t ht _ t' k hk _ => ?_⟩
  by_cases he : (t', k) = (t, n)
  · exact Or.inl he
  · exact Or.inr (Or.inr (add_le_heldSum ht hk he))

/-- two guards of a tokio `Mutex` are one and the same entry of `held`, or at least 2 permits would be
held — which `(tokio_locks_exclusion …).1` (`heldSum g.held ≤ 1`) rules out -/
theorem tokio_mutex_exclusion {s0 : SemState} (h0 : Initial 1 s0) {g : G} (hr : SemLts.Reach s0 g)
    (hdisc : g.added = 0) (t t' : Nat) (h1 : (t, 1) ∈ g.held) (h2 : (t', 1) ∈ g.held) :
    (t', 1) = (t, 1) ∨ heldSum g.held ≥ 2 := by
  rcases (tokio_locks_exclusion h0 hr hdisc).2 t h1 (by omega) t' 1 h2 (by omega) with h | h | h
  · exact Or.inl h
  · exact absurd h id
  · exact Or.inr h

/-- FIFO fairness of `Mutex::lock`, `RwLock::read/write`, `Semaphore::acquire*`, the no-barging part
of C18's `fair_fifo`: while somebody is queued neither `try_*` nor a fresh acquire succeeds (that a
release serves a prefix of the queue in arrival order is `fair_fifo`'s last clause) -/
theorem tokio_locks_fifo {n : Nat} {s0 : SemState} (h0 : Initial n s0) {g : G} (hr : SemLts.Reach s0 g)
    (fin : Nat → Bool) (hf : g.s.fair = true) (hq : g.s.queue ≠ []) :
    (∀ task k c o, step fin g.s (.tryAcquire task k c) = .ok o → o.out ≠ .tried (.ok ())) ∧
    (∀ task k c o, stepPollNew fin g.s task k c = .ok o → o.out ≠ .polled (.ready true)) :=
  let h := (C18.fair_fifo h0 hr fin).2.1 hf hq
  ⟨h.1, h.2.1⟩

end C19
end ShuttleModel

/-
  C16 — the schedule wire format (`shuttle-engine/src/scheduler/serialization.rs`) round-trips and
  rejects malformed input.  Model: `ShuttleModel/{Bits,Varint,Serialize}.lean` (decoder = the FIXED
  Rust behaviour: every former panic is a `None`).

  All theorems hold for ALL inputs (no bound on sizes).  `Schedule.wf` = representable in Rust
  (`seed : u64`, ids `: usize`, `steps.len() : usize`, 64-bit platform).
-/
import ShuttleProofs.Lemmas.SerializeMain

namespace ShuttleModel.C16
open ShuttleModel

/-- ids 0, 1, 255, 256, 2^63 and `Random` steps, seed ≥ 2^63 (ten-byte varint, width 64, three lines). -/
def ex1 : Schedule :=
  ⟨12345678901234567890, [.task 0, .task 1, .random, .task 255, .task 256, .random, .random, .task (2 ^ 63)]⟩
def ex0 : Schedule := ⟨0, []⟩
/-- only task steps (bit buffer exactly filled). -/
def ex2 : Schedule := ⟨300, [.task 5, .task 0, .task 7]⟩
/-- three unused trailing zero bytes (`Random` steps occupy 1 bit but are allotted `1 + width`). -/
def ex3 : Schedule := ⟨7, [.random, .random, .task 200, .random]⟩

example : ex1.wf := by decide
example : ex0.wf := by decide
/-- The model output for `ex1` is, character for character, what the Rust `serialize_schedule` prints. -/
example : serializeSchedule ex1 =
    "914008d295fcd8ceb1aaaaab0100000000000000000400000000000000f40f00000000000000\n2000000000000060000000000000008000000000000000000000000000000000000000000000\n0000" := by
  -- compare the characters: deciding the `String` equation itself would UTF-8 encode both sides in the kernel
  apply congrArg String.ofList
  decide +kernel
example : serializeSchedule ex0 = "91010000" := by decide +kernel
example : serializeSchedule ex2 = "910303ac020a0e" := by decide +kernel          -- = Rust output
example : serializeSchedule ex3 = "91080407430e000000" := by decide +kernel      -- = Rust output

/-- Varint round trip for every `u64`, with arbitrary following bytes (includes the ten-byte case
    `v ≥ 2^63`, whose last byte is `0x01`). -/
theorem varint_roundtrip (v : Nat) (hv : v < 2 ^ 64) (rest : List Nat) :
    readVarint (writeVarint v ++ rest) = some (v, rest) :=
  readVarint_writeVarint v hv rest

example : writeVarint (2 ^ 63) = [128, 128, 128, 128, 128, 128, 128, 128, 128, 1] := by decide
example : readVarint (writeVarint (2 ^ 64 - 1) ++ [7, 8]) = some (2 ^ 64 - 1, [7, 8]) := by decide
/-- non-canonical encodings such as `80 00` are accepted by the reader (as in Rust). -/
example : readVarint [0x80, 0x00, 5] = some (0, [5]) := by decide
/-- the 10th-byte rule: after nine continuation bytes the next byte must be exactly `0x01`. -/
example : readVarint [255, 255, 255, 255, 255, 255, 255, 255, 255, 2] = none := by decide
/-- The value read always fits a `u64` (no wrap-around can occur in the Rust reader).  Only
    `current % 128` enters the sum, so the bound on the bytes is not used. -/
theorem varint_read_lt (bs : List Nat) (hb : ∀ b ∈ bs, b < 256) (v : Nat) (r : List Nat)
    (h : readVarint bs = some (v, r)) : v < 2 ^ 64 :=
  readVarint_lt bs v r h

example : readVarint [255, 255, 255, 255, 255, 255, 255, 255, 255, 1] = some (2 ^ 64 - 1, []) := by decide

/-- `store` then `load` of a `w`-bit id, LSB-first, with arbitrary following bits. -/
theorem bits_roundtrip (w n : Nat) (h : n < 2 ^ w) (rest : List Bool) :
    bitsToNat ((natToBits w n ++ rest).take w) = n ∧ (natToBits w n ++ rest).drop w = rest := by
  rw [List.take_left' (natToBits_length w n), List.drop_left' (natToBits_length w n)]
  exact ⟨bitsToNat_natToBits_of_lt h, rfl⟩

example : natToBits 9 256 = [false, false, false, false, false, false, false, false, true] := by decide
example : bitsToNat ((natToBits 9 256 ++ [true, true]).take 9) = 256 := by decide

/-- Packing steps and reading them back, with arbitrary trailing bits (whole bit-stream level). -/
theorem bits_roundtrip_steps (w : Nat) (steps : List ScheduleStep) (tail : List Bool)
    (h : ∀ id, ScheduleStep.task id ∈ steps → id < 2 ^ w) :
    decodeSteps w steps.length (stepsBits w steps ++ tail) = some steps :=
  decodeSteps_stepsBits w steps tail h

example : decodeSteps 3 3 (stepsBits 3 [.task 5, .random, .task 7] ++ [true]) = some [.task 5, .random, .task 7] := by
  decide

/-- Bit stream → `u8` storage (`Lsb0`) → bit stream: the written bits followed by zero padding. -/
theorem bits_roundtrip_bytes (k : Nat) (bits : List Bool) (h : bits.length ≤ 8 * k) :
    bytesToBits (packBytes k bits) = bits ++ List.replicate (8 * k - bits.length) false :=
  bytesToBits_packBytes k bits h

example : packBytes 2 [true, false, false, false, false, false, false, false, true] = [1, 1] := by decide

/-- Whitespace tolerance: ANY string whose non-whitespace characters (Unicode `White_Space`), in
    order, are exactly the unwrapped hex of `s` decodes to `s` — i.e. whitespace may be inserted or
    removed anywhere, including re-wrapping at any width. -/
theorem roundtrip_ws (s : Schedule) (h : s.wf) (t : String)
    (ht : t.toList.filter (fun c => !isWhitespace c) = hexOfSchedule s) :
    deserializeSchedule t = some s :=
  deserializeChars_of_filter s h _ ht

/-- `serializeSchedule s` itself is such a string (so `roundtrip` is an instance of `roundtrip_ws`). -/
theorem serialize_filter (s : Schedule) :
    (serializeSchedule s).toList.filter (fun c => !isWhitespace c) = hexOfSchedule s := by
  unfold serializeSchedule
  rw [String.toList_ofList]
  exact filter_serializeChars s

/-- Main round trip. -/
theorem roundtrip (s : Schedule) (h : s.wf) : deserializeSchedule (serializeSchedule s) = some s :=
  roundtrip_ws s h _ (serialize_filter s)

example : deserializeSchedule (serializeSchedule ex1) = some ex1 := roundtrip ex1 (by decide)

/-- Two well-formed schedules with the same hex text are equal: both are what that text decodes to. -/
theorem hexOfSchedule_injective (s s' : Schedule) (h : s.wf) (h' : s'.wf)
    (he : hexOfSchedule s = hexOfSchedule s') : s = s' := by
  have h1 := deserializeChars_of_filter s h _ (filter_hexOfSchedule s)
  rw [he, deserializeChars_of_filter s' h' _ (filter_hexOfSchedule s')] at h1
  exact (Option.some.inj h1).symm

/-- **the encoding is injective on well-formed schedules**: two different schedules (seed or any step)
never print as the same string (by `hexOfSchedule_injective` not even as strings that differ only in
whitespace) — a failure report identifies its schedule. Corollary of the round trip. -/
theorem serialize_injective (s s' : Schedule) (h : s.wf) (h' : s'.wf)
    (he : serializeSchedule s = serializeSchedule s') : s = s' :=
  hexOfSchedule_injective s s' h h' (by rw [← serialize_filter s, he, serialize_filter s'])

example : deserializeSchedule (serializeSchedule ex0) = some ex0 := roundtrip ex0 (by decide)
example : deserializeChars (serializeChars ex1) = some ex1 :=
  deserializeChars_of_filter ex1 (by decide) _ (filter_serializeChars ex1)

/-- Explicit insertion form: splice any whitespace block anywhere into the serialized text. -/
theorem roundtrip_ws_insert (s : Schedule) (h : s.wf) (a b ws : List Char)
    (hab : (serializeSchedule s).toList = a ++ b) (hws : ∀ c ∈ ws, isWhitespace c = true) :
    deserializeSchedule (String.ofList (a ++ ws ++ b)) = some s := by
  apply roundtrip_ws s h
  rw [String.toList_ofList, List.filter_append, List.filter_append,
    (List.filter_eq_nil_iff (l := ws)).2 (by simpa using hws), List.append_nil, ← List.filter_append, ← hab]
  exact serialize_filter s

example : deserializeSchedule " 91\t01\u3000 01\n0a\u0085 01\u2028" = some ⟨10, [.random]⟩ :=
  roundtrip_ws ⟨10, [.random]⟩ (by decide) _ (by rw [String.toList_ofList]; decide +kernel)

/-- Case-insensitive form: any text whose non-whitespace characters hex-decode (upper/lower/mixed
    case) to the byte buffer of `s` decodes to `s`. -/
theorem roundtrip_bytes (s : Schedule) (h : s.wf) (t : String)
    (ht : decodeHex (t.toList.filter (fun c => !isWhitespace c)) = some (encodeBytes s)) :
    deserializeSchedule t = some s := by
  unfold deserializeSchedule deserializeChars
  rw [ht]
  exact decodeBytes_encodeBytes s h

example : deserializeSchedule "91 01 01 0A 01" = some ⟨10, [.random]⟩ :=
  roundtrip_bytes ⟨10, [.random]⟩ (by decide) _ (by rw [String.toList_ofList]; decide +kernel)

/-- Every line of the serialized text has at most `LINE_WIDTH = 76` characters (`linesOf` = maximal
    newline-free segments). -/
theorem wrap_width (s : Schedule) :
    ∀ line ∈ linesOf (serializeSchedule s).toList, line.length ≤ 76 := by
  unfold serializeSchedule
  rw [String.toList_ofList, linesOf_serializeChars]
  intro line hl
  exact (chunksAux_spec LINE_WIDTH _ _ line hl).1

/-- …and the lines are exactly the 76-character chunks of the hex text, so joined they give it back. -/
theorem wrap_lines (s : Schedule) :
    linesOf (serializeSchedule s).toList = chunks 76 (hexOfSchedule s) ∧
    (chunks 76 (hexOfSchedule s)).flatten = hexOfSchedule s := by
  unfold serializeSchedule
  rw [String.toList_ofList]
  exact ⟨linesOf_serializeChars s, chunks_flatten 76 (by decide) _⟩

example : (linesOf (serializeSchedule ex1).toList).map List.length = [76, 76, 4] := by
  rw [(wrap_lines ex1).1]; decide +kernel

/-- The width written into the header is `taskIdBits`, which is the least `w ≥ 1` such that all
    task ids are `< 2^w`. -/
theorem width_minimal (s : Schedule) :
    (∃ rest, encodeBytes s = 0x91 :: (writeVarint (taskIdBits s.steps) ++ rest)) ∧
    1 ≤ taskIdBits s.steps ∧
    (∀ id, ScheduleStep.task id ∈ s.steps → id < 2 ^ taskIdBits s.steps) ∧
    (∀ w, 1 ≤ w → (∀ id, ScheduleStep.task id ∈ s.steps → id < 2 ^ w) → taskIdBits s.steps ≤ w) :=
  ⟨⟨_, rfl⟩, one_le_taskIdBits _, fun _ hm => lt_two_pow_taskIdBits hm, fun _ hw => (taskIdBits_le_iff hw).2⟩

example : taskIdBits ex1.steps = 64 ∧ taskIdBits ex0.steps = 1 ∧ taskIdBits ex2.steps = 3 ∧
    taskIdBits [.task 255] = 8 ∧ taskIdBits [.task 256] = 9 ∧ taskIdBits [.task 0] = 1 := by decide

/-- Empty (or all-whitespace) input is rejected. -/
theorem reject_empty (t : String) (ht : t.toList.filter (fun c => !isWhitespace c) = []) :
    deserializeSchedule t = none := by
  unfold deserializeSchedule deserializeChars
  rw [ht]; rfl

example : deserializeSchedule "" = none := reject_empty "" (by rw [String.toList_ofList]; decide +kernel)
example : deserializeSchedule " \n\t " = none := reject_empty _ (by rw [String.toList_ofList]; decide +kernel)

/-- Any character that is neither whitespace nor a hex digit makes the input invalid. -/
theorem reject_non_hex (t : String) (c : Char) (hc : c ∈ t.toList)
    (hws : isWhitespace c = false) (hhex : hexVal c = none) : deserializeSchedule t = none := by
  unfold deserializeSchedule deserializeChars
  cases hd : decodeHex (t.toList.filter fun c => !isWhitespace c) with
  | none => rfl
  | some bs =>
    have := (decodeHex_spec _ _ hd).2.1 c (by simp [List.mem_filter, hc, hws])
    simp [hhex] at this

example : deserializeSchedule "9101010g01" = none :=
  reject_non_hex _ 'g' (by rw [String.toList_ofList]; decide +kernel) (by decide) (by decide)
/-- U+200B ZERO WIDTH SPACE is *not* `White_Space`, hence an error rather than skipped. -/
example : deserializeSchedule "91010​10a01" = none :=
  reject_non_hex _ '​' (by rw [String.toList_ofList]; decide +kernel) (by decide) (by decide)

/-- An odd number of hex digits is rejected. -/
theorem reject_odd_length (t : String)
    (ht : (t.toList.filter (fun c => !isWhitespace c)).length % 2 = 1) :
    deserializeSchedule t = none :=
  deserializeChars_of_odd _ ht

example : deserializeSchedule "9101 010" = none := reject_odd_length _ (by rw [String.toList_ofList]; decide +kernel)

/-- A first byte other than `0x91` is rejected. -/
theorem reject_bad_magic (t : String) (b : Nat) (rest : List Nat)
    (ht : decodeHex (t.toList.filter (fun c => !isWhitespace c)) = some (b :: rest))
    (hb : b ≠ 0x91) : deserializeSchedule t = none := by
  unfold deserializeSchedule deserializeChars
  rw [ht]
  simp [decodeBytes, SCHEDULE_MAGIC_V2, hb]

example : deserializeSchedule "9201010a01" = none :=
  reject_bad_magic _ 0x92 [1, 1, 10, 1] (by rw [String.toList_ofList]; decide +kernel) (by decide)

/-- A declared task-id width of `0` or more than `64` bits is rejected (whatever follows). -/
theorem reject_width (t : String) (body : List Nat) (w : Nat) (rest : List Nat)
    (ht : decodeHex (t.toList.filter (fun c => !isWhitespace c)) = some (0x91 :: body))
    (hw : readVarint body = some (w, rest)) (hbad : w = 0 ∨ 64 < w) :
    deserializeSchedule t = none := by
  unfold deserializeSchedule deserializeChars
  rw [ht]
  show decodeBytes (SCHEDULE_MAGIC_V2 :: body) = none
  rw [decodeBytes, if_neg (fun hne => hne rfl), hw]
  simp only [hbad, if_true]
  -- the width is tested only after the length and the seed have been read
  split
  · rfl
  · split <;> rfl

example : deserializeSchedule "9100010500" = none :=
  reject_width _ [0, 1, 5, 0] 0 [1, 5, 0] (by rw [String.toList_ofList]; decide +kernel) (by decide) (by decide)
example : deserializeSchedule "91410105feffffffffffffffffffff" = none :=
  reject_width _ [65, 1, 5, 254, 255, 255, 255, 255, 255, 255, 255, 255, 255, 255] 65
    [1, 5, 254, 255, 255, 255, 255, 255, 255, 255, 255, 255, 255]
    (by rw [String.toList_ofList]; decide +kernel) (by decide) (by decide)
/-- non-canonical `80 00` width = 0 is rejected too. -/
example : deserializeSchedule "9180000105ff" = none :=
  reject_width _ [128, 0, 1, 5, 255] 0 [1, 5, 255] (by rw [String.toList_ofList]; decide +kernel) (by decide) (by decide)

/-- Truncation.  Let `t` consist (up to whitespace) of the first `k` hex digits of the encoding of a
    well-formed `s`.  If the cut falls inside a byte (`k` odd), inside the header (magic + three
    varints = `headerLen s` bytes), or leaves fewer bits than the steps occupy (`neededBits s`), the
    result is `none`. -/
theorem reject_truncated (s : Schedule) (h : s.wf) (t : String) (k : Nat)
    (ht : t.toList.filter (fun c => !isWhitespace c) = (hexOfSchedule s).take k)
    (hk : k < (hexOfSchedule s).length)
    (hcut : k % 2 = 1 ∨ k < 2 * headerLen s ∨ 8 * (k / 2 - headerLen s) < neededBits s) :
    deserializeSchedule t = none := by
  by_cases hodd : k % 2 = 1
  · apply reject_odd_length
    rw [ht, List.length_take]; omega
  · have hk2 : k = 2 * (k / 2) := by omega
    unfold deserializeSchedule
    rw [hk2] at ht
    rw [deserializeChars_of_filter_take s h _ (k / 2) ht, if_neg]
    omega

/-- Conversely (and this is all that can be cut): a truncation that only removes unused trailing
    zero bytes still decodes to `s` — trailing bytes are never inspected. -/
theorem truncated_ok (s : Schedule) (h : s.wf) (t : String) (j : Nat)
    (ht : t.toList.filter (fun c => !isWhitespace c) = (hexOfSchedule s).take (2 * j))
    (hhdr : headerLen s ≤ j) (hbits : neededBits s ≤ 8 * (j - headerLen s)) :
    deserializeSchedule t = some s := by
  unfold deserializeSchedule
  rw [deserializeChars_of_filter_take s h _ j ht, if_pos ⟨hhdr, hbits⟩]

/-- If the schedule has no `Random` step (in particular if it is empty), the bit buffer is exactly
    filled and EVERY strict prefix of the hex text is rejected. -/
theorem reject_truncated_all_tasks (s : Schedule) (h : s.wf)
    (hnr : ScheduleStep.random ∉ s.steps) (t : String) (k : Nat)
    (ht : t.toList.filter (fun c => !isWhitespace c) = (hexOfSchedule s).take k)
    (hk : k < (hexOfSchedule s).length) : deserializeSchedule t = none := by
  apply reject_truncated s h t k ht hk
  rw [hexOfSchedule_length, encodeStepBytes, packBytes_length] at hk
  have hlen := stepsBits_length (taskIdBits s.steps) s.steps
  rw [List.count_eq_zero.2 hnr, Nat.mul_zero, Nat.add_zero] at hlen
  rw [neededBits, hlen]
  generalize s.steps.length * (1 + taskIdBits s.steps) = n at hk ⊢
  omega

/-- For schedules with a step, cutting off the whole body (or more) is always rejected. -/
theorem reject_truncated_header (s : Schedule) (h : s.wf) (hne : s.steps ≠ []) (t : String) (k : Nat)
    (ht : t.toList.filter (fun c => !isWhitespace c) = (hexOfSchedule s).take k)
    (hk : k ≤ 2 * headerLen s) : deserializeSchedule t = none := by
  have hlen := hexOfSchedule_length s
  have hpos : 0 < neededBits s := by
    cases hs : s.steps with
    | nil => exact absurd hs hne
    | cons st rest => cases st <;> simp [neededBits, hs, stepsBits]
  have hnb := neededBits_le s
  apply reject_truncated s h t k ht (by omega)
  omega

-- ex1: header = 1 + 1 + 1 + 10 = 13 bytes; steps need 5·65 + 3 = 328 bits = 41 bytes of the 65 allotted.
example : headerLen ex1 = 13 ∧ neededBits ex1 = 328 ∧ (hexOfSchedule ex1).length = 156 := by decide +kernel
/-- cut in the header. -/
example : deserializeSchedule (String.ofList ((hexOfSchedule ex1).take 20)) = none :=
  reject_truncated ex1 (by decide) _ 20
    (by rw [String.toList_ofList]; exact filter_take_hexOfSchedule ex1 20)
    (by decide +kernel) (by decide +kernel)
/-- cut in the body: 40 of the 41 needed bytes present → rejected; 41 present → accepted. -/
example : deserializeChars ((hexOfSchedule ex1).take (2 * (13 + 40))) = none :=
  (deserializeChars_of_filter_take ex1 (by decide) _ _ (filter_take_hexOfSchedule ex1 _)).trans
    (if_neg (by decide +kernel))
example : deserializeChars ((hexOfSchedule ex1).take (2 * (13 + 41))) = some ex1 :=
  (deserializeChars_of_filter_take ex1 (by decide) _ _ (filter_take_hexOfSchedule ex1 _)).trans
    (if_pos (by decide +kernel))
example : deserializeChars ((hexOfSchedule ex1).take (2 * (13 + 40) + 1)) = none :=
  deserializeChars_of_odd _ (by rw [filter_take_hexOfSchedule, List.length_take]; decide +kernel)
example : ex2.wf ∧ ScheduleStep.random ∉ ex2.steps := by decide
example : deserializeChars ((hexOfSchedule ex2).take ((hexOfSchedule ex2).length - 1)) = none := by decide +kernel
/-- `ex3` serializes to `91 08 04 07 · 43 0e · 00 00 00`: the last three bytes are never read
    (the real Rust decoder also accepts `"91080407430e"` and returns `ex3`). -/
example : neededBits ex3 = 12 ∧ (encodeBytes ex3).length = headerLen ex3 + 5 := by decide +kernel
example : deserializeChars ((hexOfSchedule ex3).take (2 * (headerLen ex3 + 2))) = some ex3 := by decide +kernel

end ShuttleModel.C16

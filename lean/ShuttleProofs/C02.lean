import ShuttleProofs.Lemmas.RefLts
import ShuttleProofs.Lemmas.RefReach
import ShuttleProofs.Lemmas.RefWitness

/-!
# C02 — the runtime offers its scheduler enough choices (schedule-tree completeness)

Property: for a program whose threads communicate only through Shuttle's primitives, every outcome
that some sequentially consistent interleaving of its visible operations allows is produced by at
least one sequence of choices the runtime offers to its scheduler.

## The full statement (FALSE on the current tree — kept here, not proved)

```
theorem complete : ∀ (ir : IR) (o : Ref.Outcome),
    HasOutcome ir {spuriousPark := false, leaderLast := true} o →         -- o ∈ Ref.outcomes ir
    ∃ leaf ∈ (Driver.enumerateOutcomes ir limit).1, leaf.2 = o.str       -- o ∈ model outcomes ir
```
(for every `limit` at which the enumeration of the model kernel's choice tree is complete), where
`HasOutcome` (`Lemmas/RefReach.lean`) is reachability in the independent sequentially consistent
reference semantics `ShuttleModel/Ref.lean`, and `Driver.enumerateOutcomes` runs the model kernel
(`Kernel.lean` + `Lang.lean`) under every choice sequence its scheduling points offer and projects
each log to the outcome (`Driver.projectOutcome`).  It is refuted by the mpsc-drop program
(reference half `incomplete_witness_mpsc_drop_ref` below, kernel-checked; model half
`Driver.c02Witness`, executable test `shuttle_model c02witness`) and by the other programs of `corpus/C02/`, found by
`tools/props/c02.py` on the real runtime.

## What is proved

* `complete_switch_normal`, `complete_outcomes` — abstract, over arbitrary labelled transition systems
  (`Lemmas/RefLts.lean`): a *switch-normal* runtime (every visible step of every task is preceded by
  a scheduling point — the shape of `Runtime.Exec`) that offers every runnable task
  (`ShuttleProofs.C08.offered_superset_runnable`) and refines the specification realises EVERY
  interleaving, and so every outcome of a maximal run, of the specification by offered choices.
* `incomplete_witness_mpsc_drop_ref` — the reference half of the concrete counterexample to
  `complete` (`decide +kernel`).  The model half — "the model kernel's choice tree of that program
  has 3 leaves, none with this outcome" — is NOT kernel-checked: `execute` does not reduce in the
  kernel (`Op.num` in `Lang.lean` goes through `String.toNat?`); it is the executable test
  `Driver.c02Witness` (`shuttle_model c02witness`, run by `tools/props/c02.py`).

The hypothesis that fails for the real runtime is switch-normality: `Sender::drop`,
`Receiver::drop`, `Once::is_completed`, `BatchSemaphore::available_permits`, a `Barrier::wait` that
is going to block, … are visible steps that are NOT preceded by a scheduling point.
-/

namespace ShuttleProofs.C02

universe u
variable {T S I L : Type u}

/-- **Completeness of a switch-normal runtime.**  Hypotheses, all explicit:
* `h_offer`   (kernel contract C08) every runnable task is offered at every scheduling point;
* `h_enabled` (enabledness refinement) under the simulation relation `R`, a task whose next
  operation is enabled in the specification is runnable in the runtime;
* `h_step`    (step refinement) when such a task is chosen, the runtime can perform the
  specification's step — same observation — and re-establish `R`.
Conclusion: every interleaving `tr` of the specification from `s0` is realised by the choice
sequence `tr.map fst`, every choice having been offered (that is part of `Runtime.Exec`). -/
theorem complete_switch_normal
    (sp : Spec T S L) (rt : Runtime T I L) (R : I → S → Prop)
    (h_offer : ∀ i t, rt.runnable i t → t ∈ rt.offered i)
    (h_enabled : ∀ i s t, R i s → sp.Enabled s t → rt.runnable i t)
    (h_step : ∀ i s t l s', R i s → rt.runnable i t → sp.step s t l s' → ∃ i', rt.exec i t l i' ∧ R i' s')
    {i0 : I} {s0 s : S} {tr : List (T × L)} (h0 : R i0 s0) (hrun : sp.Run s0 tr s) :
    ∃ i, rt.Exec i0 (tr.map Prod.fst) tr i ∧ R i s := by
  induction hrun generalizing i0 with
  | nil s => exact ⟨i0, Runtime.Exec.nil i0, h0⟩
  | @cons s s' s'' t l tr hs _ ih =>
    have hr : rt.runnable i0 t := h_enabled i0 s t h0 ⟨l, s', hs⟩
    obtain ⟨i', hex, hR'⟩ := h_step i0 s t l s' h0 hr hs
    obtain ⟨i, hexec, hR⟩ := ih hR'
    exact ⟨i, Runtime.Exec.cons (h_offer i0 t hr) hex hexec, hR⟩

/-- outcomes of maximal interleavings of the specification -/
def Spec.Outcomes {O : Type u} (sp : Spec T S L) (out : S → O) (s0 : S) (o : O) : Prop :=
  ∃ tr s, sp.Run s0 tr s ∧ sp.Terminal s ∧ out s = o

/-- outcomes of the runtime's executions that end at a scheduling point with nothing to offer -/
def Runtime.Outcomes {O : Type u} (rt : Runtime T I L) (out : I → O) (i0 : I) (o : O) : Prop :=
  ∃ cs tr i, rt.Exec i0 cs tr i ∧ rt.offered i = [] ∧ out i = o

/-- **Completeness at the level of outcomes.**  Additional hypotheses:
* `h_out`  related states have the same outcome;
* `h_term` (no phantom offers) when no operation is enabled in the specification the runtime
  offers nothing — the kernel contract C08 `offered ⊆ runnable ∪ spuriously-wakeable` together with
  the converse of `h_enabled`. -/
theorem complete_outcomes {O : Type u}
    (sp : Spec T S L) (rt : Runtime T I L) (R : I → S → Prop) (outS : S → O) (outI : I → O)
    (h_offer : ∀ i t, rt.runnable i t → t ∈ rt.offered i)
    (h_enabled : ∀ i s t, R i s → sp.Enabled s t → rt.runnable i t)
    (h_step : ∀ i s t l s', R i s → rt.runnable i t → sp.step s t l s' → ∃ i', rt.exec i t l i' ∧ R i' s')
    (h_out : ∀ i s, R i s → outI i = outS s)
    (h_term : ∀ i s, R i s → sp.Terminal s → rt.offered i = [])
    {i0 : I} {s0 : S} (h0 : R i0 s0) :
    ∀ o, sp.Outcomes outS s0 o → rt.Outcomes outI i0 o := by
  rintro o ⟨tr, s, hrun, hterm, ho⟩
  obtain ⟨i, hexec, hR⟩ := complete_switch_normal sp rt R h_offer h_enabled h_step h0 hrun
  exact ⟨tr.map Prod.fst, tr, i, hexec, h_term i s hR hterm, (h_out i s hR).trans ho⟩

/-! ### Non-vacuity: a concrete specification/runtime pair satisfying every hypothesis

Two tasks (`false`, `true`), each performs once "fetch-and-increment" on a shared counter and
observes the old value.  State: counter and which tasks are done.  The runtime is the
specification plus a scheduling point before every step that offers exactly the unfinished tasks. -/

namespace Example

abbrev St := Nat × Bool × Bool      -- counter, task `false` done, task `true` done

def done (s : St) (t : Bool) : Bool := if t then s.2.2 else s.2.1
def markDone (s : St) (t : Bool) : St := if t then (s.1 + 1, s.2.1, true) else (s.1 + 1, true, s.2.2)

def sp : Spec Bool St Nat where
  step s t l s' := done s t = false ∧ l = s.1 ∧ s' = markDone s t

def rt : Runtime Bool St Nat where
  offered s := [false, true].filter fun t => !done s t
  runnable s t := done s t = false
  exec s t l s' := done s t = false ∧ l = s.1 ∧ s' = markDone s t

theorem h_offer : ∀ i t, rt.runnable i t → t ∈ rt.offered i := by
  intro i t h
  simp only [rt] at h ⊢
  cases t <;> simp [h]

theorem h_enabled : ∀ i s t, i = s → sp.Enabled s t → rt.runnable i t := by
  rintro i s t rfl ⟨l, s', h, -⟩
  exact h

theorem h_step : ∀ i s t l s', i = s → rt.runnable i t → sp.step s t l s' → ∃ i', rt.exec i t l i' ∧ i' = s' := by
  rintro i s t l s' rfl _ h
  exact ⟨s', h, rfl⟩

theorem run_true_first : sp.Run (0, false, false) [(true, 0), (false, 1)] (2, true, true) :=
  .cons (s' := (1, false, true)) ⟨rfl, rfl, rfl⟩ (.cons (s' := (2, true, true)) ⟨rfl, rfl, rfl⟩ (.nil _))

/-- that interleaving is realised by the choices `[true, false]` (both orders are, so the theorem is not vacuous) -/
example : ∃ i, rt.Exec (0, false, false) [true, false] [(true, 0), (false, 1)] i ∧ i = (2, true, true) :=
  complete_switch_normal sp rt (· = ·) h_offer h_enabled h_step rfl run_true_first

end Example

/-- The mpsc-drop program
```
obj c chan unb
task 0: spawn 1; drop_tx c; recv c; try_recv c          task 1: send c 1; drop_tx c
```
has, in the reference semantics, a maximal interleaving with the outcome "task 0 receives `v:1`,
then `err:empty`" (task 1 has sent but not yet dropped its `Sender`): kernel-checked replay of one
path of `Ref.succs` (`Witness.mpscDrop_ref_reaches`, `decide +kernel`). -/
theorem incomplete_witness_mpsc_drop_ref :
    HasOutcome Witness.mpscDrop { spuriousPark := false, leaderLast := true } Witness.mpscDropMissing :=
  runPath_hasOutcome Witness.mpscDrop_ref_reaches

/-- the canonical rendering of that outcome is the string the drivers compare -/
theorem mpscDropMissing_str :
    Witness.mpscDropMissing.str = "0:0=ok,1=ok,2=v:1,3=err:empty;1:0=ok,1=ok;E:ok" := by
  decide +kernel

end ShuttleProofs.C02

import ShuttleProofs.Lemmas.PctExamples

/-!
# C11 — the PCT scheduler: priority invariant, highest-priority-runs, change points, step estimate, iteration count

Model: `ShuttleModel.Pct` (`ShuttleModel/Sched/Pct.lean`, line-by-line transcription of `shuttle-schedulers/src/pct.rs`,
validated against the real `PctScheduler` on 151 919 recorded `next_task` calls).

Spec-level definitions (`ShuttleProofs/Lemmas/Pct*.lean`): `keys`/`vals`/`KeysOk`/`MInv`/`Inv` (the `HashMap<TaskId, usize>`
as an association list, and its invariant), `prio`, `Demote` (the guard of pct.rs:141-142), `NewTaskInserts` (the
updates of the new-task loop pct.rs:118-132), `rank` (Rust's order on `Option<&usize>`); `ex0`, `exFirst`, `exSecond`,
`exSecond1`, `exSecond2` are states the model computes from `new_from_seed(42, 3, 10)`, for the non-vacuity examples.
-/

namespace ShuttleProofs.Pct
open ShuttleModel ShuttleModel.Pct

/-! `PctExamples` defines its states by running the model from `ex0`, so the kernel replays the run up to a state for
every fact about it.  The run is therefore replayed once, in `exRun`, and the non-vacuity examples quote the outcome.
Under `KeysOk` a priority map is its list of values (`mapGet_eq`), so that list is what is recorded. -/

theorem inv_exFirstS : Inv exFirstS := by decide +kernel

/-- `.1`: the states are those of `PctExamples`; `.2.1`: the second `new_execution` shuffles the priorities and draws two
    change points; `.2.2.1`: the unknown tasks 16 and 17 are inserted by swaps with tasks 9 and 6; `.2.2.2`: `steps = 1` is
    a change point, so `current = 0` is demoted.  In each of the last three, `.1` is the call and `.2.1` the values. -/
theorem exRun :
    (exFirst = some exFirstS ∧ exSecond = some exSecondS ∧ exSecond1 = some exSecond1S) ∧
    (newExecution exFirstS = .some 10580897095847554459 exSecondS ∧
      vals exSecondS.priorities = [9, 5, 12, 0, 15, 8, 13, 3, 2, 6, 11, 7, 1, 10, 14, 4] ∧
      exSecondS.changePoints = [2, 1] ∧ exSecondS.steps = 0) ∧
    (nextTask exSecondS [0, 1, 17] (some 0) false = .ok 1 exSecond1S ∧
      vals exSecond1S.priorities = [9, 5, 12, 0, 15, 8, 17, 3, 2, 16, 11, 7, 1, 10, 14, 4, 6, 13] ∧
      exSecond1S.changePoints = [2, 1] ∧ exSecond1S.steps = 1) ∧
    nextTask exSecond1S [0, 1, 17] (some 0) false = .ok 1 exSecond2S ∧
      vals exSecond2S.priorities = [18, 5, 12, 0, 15, 8, 17, 3, 2, 16, 11, 7, 1, 10, 14, 4, 6, 13] ∧
      exSecond2S.nextPriority = 19 := by decide +kernel

theorem inv_exSecondS : Inv exSecondS := inv_newExecution inv_exFirstS exRun.2.1.1
theorem inv_exSecond1S : Inv exSecond1S := inv_nextTask inv_exSecondS exRun.2.2.1.1
theorem inv_exSecond2S : Inv exSecond2S := inv_nextTask inv_exSecond1S exRun.2.2.2.1

theorem demote_exSecond1S : Demote exSecond1S [0, 1, 17] false := by
  simp only [Demote, exRun.2.2.1.2.2.1, exRun.2.2.1.2.2.2]; decide

theorem prio_eq_vals {s : PctState} (h : Inv s) (k : Nat) : prio s k = (vals s.priorities)[k]? := mapGet_eq h.keys k

/-- The invariant documented at pct.rs:25 (plus "every value is `< next_priority`") holds initially and is preserved by
    every scheduler entry point.  No hypothesis on the RNG: `Rng.shuffle` returns a permutation for every generator
    state (`shuffle_perm`). `nextTask … = .ok` already implies `runnable ≠ []`. -/
theorem pct_inv :
    (∀ seed maxDepth maxIterations, Inv (PctState.newFromSeed seed maxDepth maxIterations)) ∧
    (∀ s seed s', Inv s → newExecution s = .some seed s' → Inv s') ∧
    (∀ s runnable current isYielding c s', Inv s → nextTask s runnable current isYielding = .ok c s' → Inv s') ∧
    (∀ s, Inv s → Inv (nextU64 s).2) :=
  ⟨inv_newFromSeed, fun _ _ _ hI h => inv_newExecution hI h, fun _ _ _ _ _ _ hI h => inv_nextTask hI h,
   fun _ hI => inv_nextU64 hI⟩

/-- Non-vacuity: the hypotheses are satisfied by a state in the middle of the second execution (shuffled priorities, two
    tasks inserted by the new-task loop, one change-point demotion), and the invariant is then a non-trivial fact. -/
example : exSecond1 = some exSecond1S ∧ Inv exSecond1S ∧
    nextTask exSecond1S [0, 1, 17] (some 0) false = .ok 1 exSecond2S ∧ Inv exSecond2S ∧
    exSecond2S.priorities ≠ exSecond1S.priorities :=
  ⟨exRun.1.2.2, inv_exSecond1S, exRun.2.2.2.1, inv_exSecond2S, fun h =>
    absurd (exRun.2.2.2.2.1.symm.trans ((congrArg vals h).trans exRun.2.2.1.2.1)) (by decide)⟩
example : exFirst = some exFirstS ∧ Inv exFirstS ∧ newExecution exFirstS = .some 10580897095847554459 exSecondS ∧
    Inv exSecondS ∧ exSecondS.priorities ≠ exFirstS.priorities :=
  ⟨exRun.1.1, inv_exFirstS, exRun.2.1.1, inv_exSecondS, fun h =>
    absurd (exRun.2.1.2.1.symm.trans (congrArg vals h)) (by decide +kernel)⟩

/-- `next_task` returns an offered task, and that task has the strictly smallest priority value (= highest priority)
    among all offered tasks, in the state the call leaves behind. -/
theorem pct_runs_min_priority {s s' : PctState} {runnable : List Nat} {current : Option Nat} {isYielding : Bool}
    {c : Nat} (hI : Inv s) (h : nextTask s runnable current isYielding = .ok c s') :
    c ∈ runnable ∧ ∃ vc, prio s' c = some vc ∧ ∀ t ∈ runnable, t ≠ c → ∃ vt, prio s' t = some vt ∧ vc < vt := by
  obtain ⟨mx, mid, npMid, sp⟩ := nextTask_spec hI h
  have hI' := sp.inv
  obtain ⟨hmem, hmin⟩ := minByKey_spec sp.choice
  obtain ⟨_, hle⟩ := listMax_spec sp.listMax_eq
  have known : ∀ t ∈ runnable, ∃ v, prio s' t = some v := fun t ht =>
    hI'.get_of_lt (by
      rw [sp.length, sp.mid_length]
      exact Nat.lt_of_lt_of_le (Nat.lt_succ_of_le (hle t ht)) (Nat.le_max_right _ _))
  obtain ⟨vc, hvc⟩ := known c hmem
  refine ⟨hmem, vc, hvc, ?_⟩
  intro t ht htc
  obtain ⟨vt, hvt⟩ := known t ht
  refine ⟨vt, hvt, ?_⟩
  have := hmin t ht
  unfold prio at hvc hvt
  rw [hvc, hvt] at this
  simp only [rank] at this
  exact Nat.lt_of_le_of_ne (Nat.le_of_succ_le_succ this) fun e => htc (hI'.get_inj hvt (e ▸ hvc))

example : exSecond1 = some exSecond1S ∧ Inv exSecond1S ∧
    nextTask exSecond1S [0, 1, 17] (some 0) false = .ok 1 exSecond2S ∧
    prio exSecond2S 1 = some 5 ∧ prio exSecond2S 0 = some 18 ∧ prio exSecond2S 17 = some 13 := by
  simp only [prio_eq_vals inv_exSecond2S, exRun.2.2.2.2.1]
  exact ⟨exRun.1.2.2, inv_exSecond1S, exRun.2.2.2.1, by decide⟩

/-- A `next_task` call changes `priorities` / `next_priority` only by
    (a) the new-task loop: a sequence `NewTaskInserts` of `fresh` / `swap` insertions of the previously unknown ids
        `len, len+1, …, max runnable`, leading to an intermediate map `mid` of length `max len (max runnable + 1)`, each
        insertion consuming one fresh priority; followed by
    (b) exactly when `Demote` holds (`runnable.len() > 1 && (change_points.contains(&steps) || is_yielding)`):
        `current`'s priority is set to the next fresh priority `npMid` (larger than every value in use).
    Consequences: every previously known task either keeps its priority value or moves to a fresh one
    (`≥ s.nextPriority`, i.e. lower priority than everything before the call) — priorities are never raised;
    if no new task is offered, every task other than a demoted `current` keeps its value;
    the relative order among tasks that were not moved to a fresh slot is unchanged. -/
theorem pct_priority_changes_only {s s' : PctState} {runnable : List Nat} {current : Option Nat} {isYielding : Bool}
    {c : Nat} (hI : Inv s) (h : nextTask s runnable current isYielding = .ok c s') :
    ∃ mx mid npMid,
      listMax runnable = some mx ∧
      NewTaskInserts s.priorities s.nextPriority mid npMid ∧
      mid.length = max s.priorities.length (mx + 1) ∧
      npMid = s.nextPriority + (mid.length - s.priorities.length) ∧
      (Demote s runnable isYielding → ∃ cur, current = some cur ∧ cur < mid.length ∧
        s'.priorities = mapInsert mid cur npMid ∧ s'.nextPriority = npMid + 1) ∧
      (¬ Demote s runnable isYielding → s'.priorities = mid ∧ s'.nextPriority = npMid) ∧
      (∀ k v, prio s k = some v → prio s' k = some v ∨ ∃ v', prio s' k = some v' ∧ s.nextPriority ≤ v') ∧
      (mx < s.priorities.length → ∀ k, (Demote s runnable isYielding → current ≠ some k) → prio s' k = prio s k) ∧
      (∀ j k vj vk vj' vk', prio s j = some vj → prio s k = some vk → prio s' j = some vj' → prio s' k = some vk' →
        vj' < s.nextPriority → vk' < s.nextPriority → (vj < vk ↔ vj' < vk')) := by
  obtain ⟨mx, mid, npMid, sp⟩ := nextTask_spec hI h
  have hins := sp.inserts
  have hd := sp.demote
  have hnd := sp.keep
  obtain ⟨hnple, _, hmono'⟩ := hins.mono hI
  have hmono : ∀ k v, prio s k = some v → mapGet mid k = some v ∨ ∃ v', mapGet mid k = some v' ∧ s.nextPriority ≤ v' :=
    fun k v hk => hk ▸ hmono' k (mapGet_lt hI.keys hk)
  have P1 : ∀ k v, prio s k = some v → prio s' k = some v ∨ ∃ v', prio s' k = some v' ∧ s.nextPriority ≤ v' := by
    intro k v hk
    by_cases hdc : Demote s runnable isYielding
    · obtain ⟨cur, _, _, hp, _⟩ := hd hdc
      unfold prio; rw [hp, mapGet_mapInsert]
      by_cases hkc : k = cur
      · rw [if_pos hkc]; exact Or.inr ⟨npMid, rfl, hnple⟩
      · rw [if_neg hkc]; exact hmono k v hk
    · unfold prio; rw [(hnd hdc).1]; exact hmono k v hk
  refine ⟨mx, mid, npMid, sp.listMax_eq, hins, sp.mid_length, sp.npMid_eq, hd, hnd, P1, ?_, ?_⟩
  · intro hno k hk
    obtain ⟨e1, _⟩ := sp.noNew hno
    by_cases hdc : Demote s runnable isYielding
    · obtain ⟨cur, hcur, _, hp, _⟩ := hd hdc
      unfold prio; rw [hp, mapGet_mapInsert, e1]
      have : k ≠ cur := fun e => hk hdc (e ▸ hcur)
      rw [if_neg this]
    · unfold prio; rw [(hnd hdc).1, e1]
  · intro j k vj vk vj' vk' hj hk hj' hk' hlj hlk
    have keep : ∀ k v v', prio s k = some v → prio s' k = some v' → v' < s.nextPriority → v' = v := by
      intro k v v' hk hk' hlt
      rcases P1 k v hk with h1 | ⟨w, h1, h2⟩
      · rw [hk'] at h1; exact Option.some.inj h1
      · rw [hk'] at h1; cases h1; exact absurd hlt (Nat.not_lt.2 h2)
    rw [keep j vj vj' hj hj' hlj, keep k vk vk' hk hk' hlk]

/-- Non-vacuity: a call that inserts two new tasks (16 by swapping with task 9, 17 by swapping with task 6), without
    demotion; and the next call, which demotes `current = 0` at the change point `steps = 1`. -/
example : exSecond = some exSecondS ∧ Inv exSecondS ∧
    nextTask exSecondS [0, 1, 17] (some 0) false = .ok 1 exSecond1S ∧
    ¬ Demote exSecondS [0, 1, 17] false ∧ exSecondS.priorities.length = 16 ∧ exSecond1S.priorities.length = 18 ∧
    prio exSecondS 9 = some 6 ∧ prio exSecond1S 9 = some 16 ∧ prio exSecond1S 16 = some 6 ∧
    prio exSecondS 6 = some 13 ∧ prio exSecond1S 6 = some 17 ∧ prio exSecond1S 17 = some 13 ∧
    prio exSecond1S 0 = prio exSecondS 0 := by
  simp only [prio_eq_vals inv_exSecondS, prio_eq_vals inv_exSecond1S, ← vals_length, Demote, exRun.2.1.2,
    exRun.2.2.1.2.1]
  exact ⟨exRun.1.2.1, inv_exSecondS, exRun.2.2.1.1, by decide⟩
example : exSecond1 = some exSecond1S ∧ Inv exSecond1S ∧
    nextTask exSecond1S [0, 1, 17] (some 0) false = .ok 1 exSecond2S ∧
    Demote exSecond1S [0, 1, 17] false ∧ prio exSecond1S 0 = some 9 ∧ prio exSecond2S 0 = some 18 ∧
    prio exSecond2S 1 = prio exSecond1S 1 := by
  simp only [prio_eq_vals inv_exSecond1S, prio_eq_vals inv_exSecond2S, exRun.2.2.1.2.1, exRun.2.2.2.2.1]
  exact ⟨exRun.1.2.2, inv_exSecond1S, exRun.2.2.2.1, demote_exSecond1S, by decide⟩

/-- When the demotion guard holds, the demoted task is `current`, and after the call it is the lowest-priority task:
    its value `next_priority - 1` is strictly larger than the value of every other task, and than every value that was in
    use before the call. -/
theorem pct_demotes_only_current {s s' : PctState} {runnable : List Nat} {current : Option Nat} {isYielding : Bool}
    {c : Nat} (hI : Inv s) (h : nextTask s runnable current isYielding = .ok c s')
    (hd : Demote s runnable isYielding) :
    ∃ cur, current = some cur ∧ prio s' cur = some (s'.nextPriority - 1) ∧
      (∀ k v, k ≠ cur → prio s' k = some v → v < s'.nextPriority - 1) ∧
      (∀ k v, prio s k = some v → v < s'.nextPriority - 1) := by
  obtain ⟨mx, mid, npMid, sp⟩ := nextTask_spec hI h
  have hI' := sp.inv
  have hnple : s.nextPriority ≤ npMid := sp.npMid_eq ▸ Nat.le_add_right _ _
  obtain ⟨cur, hcur, _, hp, hnp⟩ := sp.demote hd
  have hI'' : MInv s'.priorities (npMid + 1) := hnp ▸ hI'
  rw [hnp, Nat.add_sub_cancel]
  have hc : prio s' cur = some npMid := by
    unfold prio; rw [hp, mapGet_mapInsert, if_pos rfl]
  refine ⟨cur, hcur, hc, fun k v hk hv => ?_, fun k v hv => Nat.lt_of_lt_of_le (hI.get_lt hv) hnple⟩
  exact Nat.lt_of_le_of_ne (Nat.le_of_lt_succ (hI''.get_lt hv)) fun e => hk (hI'.get_inj hv (e ▸ hc))

example : exSecond1 = some exSecond1S ∧ Inv exSecond1S ∧
    nextTask exSecond1S [0, 1, 17] (some 0) false = .ok 1 exSecond2S ∧
    Demote exSecond1S [0, 1, 17] false ∧ prio exSecond2S 0 = some 18 ∧ exSecond2S.nextPriority = 19 := by
  simp only [prio_eq_vals inv_exSecond2S, exRun.2.2.2.2]
  exact ⟨exRun.1.2.2, inv_exSecond1S, exRun.2.2.2.1, demote_exSecond1S, by decide⟩

/-- After `new_execution` on iteration ≥ 2: exactly `min (max_depth - 1) (max_steps - 1)` change points, pairwise distinct,
    all in `[1, max_steps)` (pct.rs:100-101 says `[1, max_steps]`; the sampled range is `[0, max_steps - 1)` shifted by one, and
    `steps` indeed only takes the values `0 … max_steps - 1` when the guard is evaluated).
    All four `index::sample` algorithms (Floyd, in-place, rejection u32/usize) return `amount` distinct indices below
    `length` (`indexSample_spec`).  The hypothesis `hloops : SampleLoopsInRange` (the integer rejection loops return
    `low + hi` with `hi < range`) is the theorem `sampleLoopsInRange`; the proof does not use it. -/
theorem pct_change_points (hloops : SampleLoopsInRange) {s s' : PctState} {seed : Nat} (hI : Inv s)
    (hit : s.iterations > 0) (h : newExecution s = .some seed s') :
    0 < s.maxSteps ∧
    s'.changePoints.length = min (s.maxDepth - 1) (s.maxSteps - 1) ∧ s'.changePoints.Nodup ∧
    ∀ c ∈ s'.changePoints, 1 ≤ c ∧ c < s.maxSteps := by
  have r := (newExecution_some hI h).later hit
  obtain ⟨g, cps, hix, hcp⟩ := r.sample
  obtain ⟨hl, hn, hb⟩ := indexSample_spec hix
  refine ⟨r.maxSteps_pos, by rw [hcp, List.length_map, hl], ?_, ?_⟩
  · rw [hcp]; unfold List.Nodup; rw [List.pairwise_map]
    exact List.Pairwise.imp (fun hab => Nat.succ_ne_succ_iff.2 hab) hn
  · intro c hc
    rw [hcp] at hc
    obtain ⟨c', hc', rfl⟩ := List.mem_map.1 hc
    exact ⟨Nat.succ_pos _, Nat.add_lt_of_lt_sub (hb c' hc')⟩

example : exFirst = some exFirstS ∧ Inv exFirstS ∧ exFirstS.iterations > 0 ∧
    newExecution exFirstS = .some 10580897095847554459 exSecondS ∧ exSecondS.changePoints = [2, 1] ∧
    exFirstS.maxDepth = 3 ∧ exFirstS.maxSteps = 3 :=
  ⟨exRun.1.1, inv_exFirstS, by decide +kernel, exRun.2.1.1, exRun.2.1.2.2.1, by decide +kernel⟩

/-- Within one execution (`new_execution`, then any sequence `cs` of `next_task` / `next_u64` calls that does not panic)
    the multi-choice decisions see `steps = 0, 1, 2, …` (`multiSteps`, each value exactly once), so every change point is
    matched by at most one decision, and the number of decisions at which the change-point guard `steps ∈ change_points`
    fires is at most `change_points.len()`, hence at most `max_depth - 1`.  (Demotions caused by `is_yielding` are not
    bounded.)  The bound `change_points.len() ≤ max_depth - 1` is re-established for the next execution.
    The hypothesis `hcp` holds initially (`change_points = []`) and is an output of this theorem. -/
theorem pct_at_most_d_minus_1_change_preemptions (hloops : SampleLoopsInRange) {s0 s1 s2 : PctState} {seed : Nat}
    {cs : List Call} (hI : Inv s0) (hcp : s0.changePoints.length ≤ s0.maxDepth - 1)
    (hex : newExecution s0 = .some seed s1) (hne : NoExec cs) (hrun : runCalls s1 cs = some s2) :
    multiSteps s1 cs = List.range' 0 (multiCount cs) ∧
    ((multiSteps s1 cs).filter (· ∈ s1.changePoints)).length ≤ s1.changePoints.length ∧
    s1.changePoints.length ≤ s1.maxDepth - 1 ∧
    s2.changePoints = s1.changePoints ∧ s2.maxDepth = s1.maxDepth := by
  have sp := newExecution_some hI hex
  obtain ⟨_, b, hsteps⟩ := runCalls_noExec (inv_newExecution hI hex) (sp.steps ▸ Nat.zero_le _) hne hrun
  rw [sp.steps] at hsteps
  have hlen : s1.changePoints.length ≤ s1.maxDepth - 1 := by
    by_cases hit : s0.iterations > 0
    · rw [(pct_change_points hloops hI hit hex).2.1, sp.maxDepth]; exact Nat.min_le_left _ _
    · rw [(sp.first (Nat.eq_zero_of_not_pos hit)).2.2.1, sp.maxDepth]; exact hcp
  refine ⟨hsteps, ?_, hlen, b.changePoints, b.maxDepth⟩
  apply List.Nodup.length_le_of_subset
  · rw [hsteps]; exact List.Nodup.sublist List.filter_sublist (List.nodup_range' (step := 1))
  · intro x hx
    simpa using (List.mem_filter.1 hx).2

example : exFirst = some exFirstS ∧ Inv exFirstS ∧ exFirstS.changePoints.length ≤ exFirstS.maxDepth - 1 ∧
    newExecution exFirstS = .some 10580897095847554459 exSecondS ∧ NoExec exBody2 ∧
    runCalls exSecondS exBody2 = some exSecond2S ∧ multiSteps exSecondS exBody2 = [0, 1] ∧
    (multiSteps exSecondS exBody2).filter (· ∈ exSecondS.changePoints) = [1] := by
  have a1 := applyCall_task exRun.2.2.1.1
  have a2 := applyCall_task exRun.2.2.2.1
  have hms : multiSteps exSecondS exBody2 = [0, 1] := by
    rw [exBody2, multiSteps_cons a1, multiSteps_cons a2, exRun.2.1.2.2.2, exRun.2.2.1.2.2.2]; rfl
  refine ⟨exRun.1.1, inv_exFirstS, by decide +kernel, exRun.2.1.1, by decide, ?_, hms, ?_⟩
  · rw [exBody2, runCalls_cons a1, runCalls_cons a2]; rfl
  · rw [hms, exRun.2.1.2.2.1]; decide

/-- `max_steps` never decreases, and after any number of whole executions (from a fresh scheduler) it equals the maximum,
    over the executions so far, of the number of multi-choice decisions (`multiCount`) of the execution. -/
theorem pct_k_estimate :
    (∀ s s' c, Inv s → s.steps ≤ s.maxSteps → applyCall s c = some s' →
      s.maxSteps ≤ s'.maxSteps ∧ s'.steps ≤ s'.maxSteps) ∧
    (∀ seed maxDepth maxIterations es s', (∀ e ∈ es, NoExec e) →
      runExecs (PctState.newFromSeed seed maxDepth maxIterations) es = some s' →
      s'.maxSteps = (es.map multiCount).foldl max 0) := by
  refine ⟨?_, ?_⟩
  · intro s s' c hI hsm h
    cases hc : c.isExec with
    | false =>
      obtain ⟨_, a⟩ := applyCall_noExec hI hsm hc h
      exact ⟨a.maxSteps_le, a.steps_le⟩
    | true =>
      cases c with
      | exec =>
        obtain ⟨seed, hex⟩ := applyCall_exec h
        have sp := newExecution_some hI hex
        rw [sp.maxSteps, sp.steps]
        exact ⟨Nat.le_refl _, Nat.zero_le _⟩
      | task r cur y => cases hc
      | u64 => cases hc
  · intro seed d N es s' hne h
    obtain ⟨_, _, _, _, _, hms⟩ := runExecs_spec (inv_newFromSeed seed d N) (Nat.zero_le _) hne h
    exact hms

example : (∀ e ∈ [exBody1, exBody2], NoExec e) ∧
    (runExecs (PctState.newFromSeed 42 3 10) [exBody1, exBody2]).map (fun s => (s.maxSteps, s.iterations)) = some (3, 2) ∧
    [exBody1, exBody2].map multiCount = [3, 2] := by decide +kernel

/-- `new_execution` returns `None` exactly when `iterations ≥ max_iterations`; after `k` whole executions from a fresh
    scheduler `iterations = k ≤ max_iterations`; so (absent panics) `new_execution` returns `Some` exactly
    `max_iterations` times and then `None`. -/
theorem pct_iterations_exact :
    (∀ s, newExecution s = .none ↔ s.iterations ≥ s.maxIterations) ∧
    (∀ seed maxDepth maxIterations es s', (∀ e ∈ es, NoExec e) →
      runExecs (PctState.newFromSeed seed maxDepth maxIterations) es = some s' →
      s'.iterations = es.length ∧ s'.maxIterations = maxIterations ∧ es.length ≤ maxIterations ∧
      (newExecution s' = .none ↔ es.length = maxIterations)) := by
  refine ⟨newExecution_eq_none_iff, ?_⟩
  intro seed d N es s' hne h
  obtain ⟨_, hmi, _, hits, hbound, _⟩ := runExecs_spec (inv_newFromSeed seed d N) (Nat.zero_le _) hne h
  have e1 : s'.iterations = es.length := hits.trans (Nat.zero_add _)
  have e2 : s'.maxIterations = N := hmi
  have hle : es.length ≤ N := by rw [← e1, ← e2]; exact hbound
  refine ⟨e1, e2, hle, ?_⟩
  rw [newExecution_eq_none_iff, e1, e2]
  exact ⟨fun h => Nat.le_antisymm hle h, fun h => Nat.le_of_eq h.symm⟩

example : runExecs (PctState.newFromSeed 42 3 2) [exBody1, exBody2] ≠ none ∧
    (∀ s', runExecs (PctState.newFromSeed 42 3 2) [exBody1, exBody2] = some s' → newExecution s' = .none) ∧
    runExecs (PctState.newFromSeed 42 3 2) [exBody1, exBody2, []] = none := by
  have hnone : ∀ s', runExecs (PctState.newFromSeed 42 3 2) [exBody1, exBody2] = some s' → newExecution s' = .none :=
    fun s' h => ((pct_iterations_exact.2 42 3 2 _ s' (by decide) h).2.2.2).2 rfl
  refine ⟨by decide +kernel, hnone, ?_⟩
  rw [show [exBody1, exBody2, []] = [exBody1, exBody2] ++ [[]] from rfl, runExecs_append]
  cases h : runExecs (PctState.newFromSeed 42 3 2) [exBody1, exBody2] with
  | none => rfl
  | some s' => simp only [Option.bind, runExecs, runCalls, applyCall, hnone s' h]

/-- The deliberate diagnostic of pct.rs:79: starting the second (or a later) execution when no execution so far contained a
    multi-choice decision panics with "test closure did not exercise any concurrency". -/
theorem pct_no_concurrency_panics {s : PctState} (hlt : s.iterations < s.maxIterations) (hit : s.iterations > 0)
    (hms : s.maxSteps = 0) :
    newExecution s = .panic "test closure did not exercise any concurrency" := by
  unfold newExecution
  have h1 : ¬ s.iterations ≥ s.maxIterations := by omega
  simp [h1, hit, hms]

example : exNoConc.iterations < exNoConc.maxIterations ∧ exNoConc.iterations > 0 ∧ exNoConc.maxSteps = 0 ∧
    Inv exNoConc ∧ newExecution exNoConc = .panic "test closure did not exercise any concurrency" := by
  refine ⟨?lt, ?pos, ?ms, by decide +kernel, pct_no_concurrency_panics ?lt ?pos ?ms⟩ <;> decide +kernel

/-- Under the invariant — with at least one known task (there are always `DEFAULT_INLINE_TASKS = 16`), a non-empty offer
    and, when the demotion guard holds, a `current` that is known or not larger than some offered id — none of the
    `unwrap()` / `expect("priority queue invariant")` / `expect("self.steps > 0 …")` / `debug_assert!` sites of
    `next_task` is reachable: the model returns `.ok`, or reports that the RNG model ran out of rejection-loop fuel.
    So on these inputs debug and release builds agree.  `gen_range(0..len) < len` is `genRangeUsize_lt`; `hloops`
    (the theorem `sampleLoopsInRange`) is not used. -/
theorem pct_next_task_no_invariant_panic (hloops : SampleLoopsInRange) {s : PctState} {runnable : List Nat}
    {current : Option Nat} {isYielding : Bool} (hI : Inv s) (hlen : 0 < s.priorities.length) (hr : runnable ≠ [])
    (hcur : Demote s runnable isYielding → ∃ cur, current = some cur ∧
      (cur < s.priorities.length ∨ ∃ t ∈ runnable, cur ≤ t)) :
    (∃ c s', nextTask s runnable current isYielding = .ok c s') ∨
    nextTask s runnable current isYielding = .panic "model: rng (gen_range)" :=
  nextTask_total hI hlen hr hcur

example : Inv exSecond1S ∧ 0 < exSecond1S.priorities.length ∧ [0, 1, 17] ≠ [] ∧ Demote exSecond1S [0, 1, 17] false ∧
    (∃ cur, some 0 = some cur ∧ (cur < exSecond1S.priorities.length ∨ ∃ t ∈ [0, 1, 17], cur ≤ t)) :=
  ⟨inv_exSecond1S, by rw [← vals_length, exRun.2.2.1.2.1]; decide, by decide, demote_exSecond1S, 0, rfl,
    Or.inr ⟨0, by decide, Nat.le_refl _⟩⟩

/-! Probability is NOT formalised: the PCT guarantee (a bug of depth `d` is found with probability at least `1/(n·k^(d-1))`) would need a
probability space over the generator outputs and the paper's reduction argument.  What the theorems above provide are
its deterministic ingredients: the initial priorities are a permutation of `0..n-1` produced by `SliceRandom::shuffle`
(`pct_inv` / `shuffle_perm`), the `d-1` change points are distinct values in `[1, k)` (`pct_change_points`), each of them
is hit by at most one scheduling decision (`pct_at_most_d_minus_1_change_preemptions`), the task run is always the
highest-priority offered one (`pct_runs_min_priority`) and a change point moves `current` below every other task
(`pct_demotes_only_current`). -/

end ShuttleProofs.Pct

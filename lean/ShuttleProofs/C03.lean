import ShuttleProofs.C13

/-!
# C03 — deadlock / termination verdicts of `run_to_completion`

Model: `ShuttleModel/Kernel.lean`; vocabulary from `Lemmas/KernelSchedule.lean` … `Lemmas/KernelProps.lean`.

`schedule()` (with `next_task = None` and the step bound not reached, `BoundOK`) sets `next_task = Finished` iff
`endsHere k = !any_runnable || (!unfinished_attached && all_runnable_detached)`; the loop then reports
`deadlock k.deadlockList` iff `k.unfinishedAttached`, else `ok`.  Tasks in state `Blocked{allow_spurious_wakeups}`
are *offered* but do not count as runnable.
-/

namespace ShuttleProofs.C03
open ShuttleModel ShuttleProofs.Kernel

variable {P : Program} {σ : Type}

/-- the condition under which the loop reports a deadlock at loop head `k` -/
def DeadlockAt (k : Kernel) : Prop :=
  BoundOK k ∧ k.anyRunnable = false ∧ k.unfinishedAttached = true

theorem deadlockAt_iff (k : Kernel) :
    DeadlockAt k ↔ BoundOK k ∧ (∀ (i : Nat) (tk : Task), k.tasks[i]? = some tk → tk.state ≠ .runnable) ∧
      ∃ (i : Nat) (tk : Task), k.tasks[i]? = some tk ∧ tk.state ≠ .finished ∧ tk.detached = false := by
  unfold DeadlockAt
  rw [anyRunnable_false_iff, unfinishedAttached_iff]
  simp only [Task.runnable_eq_false_iff, Task.finished_eq_false_iff]

/-- the list printed by the deadlock panic: exactly the unfinished tasks, ascending ids, each with its
`detached` flag and whether it is `Sleeping` -/
theorem deadlockList_exact (k : Kernel) :
    (∀ x : Nat × Bool × Bool, x ∈ k.deadlockList ↔
      ∃ tk, k.tasks[x.1]? = some tk ∧ tk.state ≠ .finished ∧ x.2.1 = tk.detached ∧
        x.2.2 = (tk.state == .sleeping)) ∧
    (k.deadlockList.map (·.1)).Pairwise (· < ·) := by
  refine ⟨fun x => ?_, deadlockList_ids_pairwise k⟩
  rw [mem_deadlockList]
  simp only [Task.finished_eq_false_iff]
  exact Iff.rfl

/-- **deadlock_iff** (iteration form): the iteration started at loop head `st` ends the run with
`deadlock L` iff the bound is not reached, no task is runnable, some attached task is unfinished, and `L` is
the list of unfinished tasks. -/
theorem deadlock_iff {ms : MaxSteps} (S : Scheduler σ) (segFuel : Nat) {st : ExecState P σ}
    (hi : LoopInv ms st) (L : List (Nat × Bool × Bool)) :
    (∃ st', loopStep S segFuel st = .inl ⟨.deadlock L, st'⟩) ↔ DeadlockAt st.k ∧ L = st.k.deadlockList := by
  constructor
  · rintro ⟨st', h⟩
    obtain ⟨h1, h2, h3, rfl, _⟩ := (loopStep_inl_final hi h).verdict
    exact ⟨⟨h1, (endsHere_iff_of_unfinishedAttached h3).mp h2, h3⟩, rfl⟩
  · rintro ⟨⟨h1, h2, h3⟩, rfl⟩
    have := loopStep_ends S segFuel hi.next hi.conts h1 ((endsHere_iff_of_unfinishedAttached h3).mpr h2)
    rw [h3] at this
    exact ⟨_, this⟩

/-- **deadlock_iff**, ⇒ for executions: if `execute` reports `deadlock L`, then in the final kernel state (whose
task table is the one `schedule()` examined) no task is runnable, some non-detached task is unfinished, and `L` is
the list of unfinished tasks with their flags. -/
theorem deadlock_verdict_sound (P : Program) (S : Scheduler σ) (ms : MaxSteps) (seed : Nat) (s : σ)
    (fuel segFuel : Nat) (L : List (Nat × Bool × Bool))
    (h : (execute P S ms seed s fuel segFuel).outcome = .deadlock L) :
    let k := (execute P S ms seed s fuel segFuel).st.k
    (∀ (i : Nat) (tk : Task), k.tasks[i]? = some tk → tk.state ≠ .runnable) ∧
    (∃ (i : Nat) (tk : Task), k.tasks[i]? = some tk ∧ tk.state ≠ .finished ∧ tk.detached = false) ∧
    L = k.deadlockList ∧ k.current = .finished := by
  obtain ⟨stf, _, _, hf⟩ := execute_final P S ms seed s fuel segFuel
  have hv := hf.verdict
  rw [h] at hv
  obtain ⟨h1, h2, h3, rfl, hst⟩ := hv
  obtain ⟨_, h4, h5⟩ := (deadlockAt_iff stf.k).mp ⟨h1, (endsHere_iff_of_unfinishedAttached h3).mp h2, h3⟩
  rw [hst]
  exact ⟨h4, h5, rfl, rfl⟩

/-- **deadlock_iff**, ⇐ for executions: if a loop head with no runnable task and an unfinished attached task
(bound not reached) is reached after `m` iterations, every run with more than `m` units of loop fuel reports
`deadlock` with that state's list. -/
theorem deadlock_verdict_complete (P : Program) (S : Scheduler σ) (ms : MaxSteps) (seed : Nat) (s : σ)
    (segFuel m : Nat) (st : ExecState P σ) (hr : ReachN S segFuel m (initState P ms seed s) st)
    (hd : DeadlockAt st.k) (fuel : Nat) (hfuel : m < fuel) :
    (execute P S ms seed s fuel segFuel).outcome = .deadlock st.k.deadlockList := by
  have hi : LoopInv ms st := (LoopInv.init P ms seed s).reach ⟨m, hr⟩
  obtain ⟨st', h⟩ := (deadlock_iff S segFuel hi _).mpr ⟨hd, rfl⟩
  rw [execute_eq, runLoop_of_reach hr h fuel hfuel]

/-- the `!unfinished_attached && all_runnable_detached` branch (even with runnable — detached — tasks left)
never produces a deadlock: it yields `ok`. -/
theorem detached_leftovers_ok {ms : MaxSteps} (S : Scheduler σ) (segFuel : Nat) {st : ExecState P σ}
    (hi : LoopInv ms st) (hb : BoundOK st.k) (hu : st.k.unfinishedAttached = false)
    (hd : st.k.allRunnableDetached = true) :
    ∃ st', loopStep S segFuel st = .inl ⟨.ok, st'⟩ := by
  have := loopStep_ends S segFuel hi.next hi.conts hb
    ((endsHere_iff_of_not_unfinishedAttached hu).mpr (Or.inr hd))
  rw [hu] at this
  exact ⟨_, this⟩

/-- **ok_iff** (iteration form): the iteration ends the run with `ok` iff the bound is not reached, every
attached task is finished, and (no task is runnable or all runnable tasks are detached). -/
theorem ok_iff {ms : MaxSteps} (S : Scheduler σ) (segFuel : Nat) {st : ExecState P σ} (hi : LoopInv ms st) :
    (∃ st', loopStep S segFuel st = .inl ⟨.ok, st'⟩) ↔
      BoundOK st.k ∧ st.k.unfinishedAttached = false ∧
        (st.k.anyRunnable = false ∨ st.k.allRunnableDetached = true) := by
  constructor
  · rintro ⟨st', h⟩
    obtain ⟨h1, h2, h3, _⟩ := (loopStep_inl_final hi h).verdict
    exact ⟨h1, h3, (endsHere_iff_of_not_unfinishedAttached h3).mp h2⟩
  · rintro ⟨h1, h2, h3⟩
    have := loopStep_ends S segFuel hi.next hi.conts h1 ((endsHere_iff_of_not_unfinishedAttached h2).mpr h3)
    rw [h2] at this
    exact ⟨_, this⟩

/-- **ok_iff** for executions: outcome `ok` ⇒ every non-detached task is finished (and every task still
runnable is detached). -/
theorem ok_verdict_sound (P : Program) (S : Scheduler σ) (ms : MaxSteps) (seed : Nat) (s : σ)
    (fuel segFuel : Nat) (h : (execute P S ms seed s fuel segFuel).outcome = .ok) :
    let k := (execute P S ms seed s fuel segFuel).st.k
    (∀ (i : Nat) (tk : Task), k.tasks[i]? = some tk → tk.detached = false → tk.state = .finished) ∧
    (∀ (i : Nat) (tk : Task), k.tasks[i]? = some tk → tk.state = .runnable → tk.detached = true) ∧
    k.current = .finished := by
  obtain ⟨stf, _, _, hf⟩ := execute_final P S ms seed s fuel segFuel
  have hv := hf.verdict
  rw [h] at hv
  obtain ⟨_, h2, h3, hst⟩ := hv
  rw [hst]
  refine ⟨?_, ?_, rfl⟩
  · intro i tk hk hd
    exact (Task.finished_iff tk).mp (unfinishedAttached_false_iff.mp h3 i tk hk hd)
  · intro i tk hk hr
    rcases (endsHere_iff_of_not_unfinishedAttached h3).mp h2 with h4 | h4
    · exact absurd hr ((Task.runnable_eq_false_iff tk).mp (anyRunnable_false_iff.mp h4 i tk hk))
    · exact allRunnableDetached_iff.mp h4 i tk hk ((Task.runnable_iff tk).mpr hr)

/-- **no_early_end**: at a loop head where some non-detached task is unfinished, some task is runnable and the
step bound is not reached, `schedule()` consults the scheduler; the loop cannot end there with `ok`, `deadlock`,
`abandoned` or `stepBoundFail` (only the scheduler — `None` or a panic — or the chosen task's segment can end it). -/
theorem no_early_end {ms : MaxSteps} (S : Scheduler σ) (segFuel : Nat) {st : ExecState P σ}
    (hi : LoopInv ms st) (hb : BoundOK st.k)
    (hu : ∃ (i : Nat) (tk : Task), st.k.tasks[i]? = some tk ∧ tk.state ≠ .finished ∧ tk.detached = false)
    (hr : ∃ (i : Nat) (tk : Task), st.k.tasks[i]? = some tk ∧ tk.state = .runnable) :
    Consults st.k ∧ ∀ r, loopStep S segFuel st = .inl r →
      r.outcome ≠ .ok ∧ (∀ L, r.outcome ≠ .deadlock L) ∧ r.outcome ≠ .abandoned ∧
        ∀ n, r.outcome ≠ .stepBoundFail n := by
  have hua : st.k.unfinishedAttached = true := by
    obtain ⟨i, tk, h1, h2, h3⟩ := hu
    exact unfinishedAttached_iff.mpr ⟨i, tk, h1, (Task.finished_eq_false_iff tk).mpr h2, h3⟩
  have har : st.k.anyRunnable = true := by
    obtain ⟨i, tk, h1, h2⟩ := hr
    exact anyRunnable_iff.mpr ⟨i, tk, h1, (Task.runnable_iff tk).mpr h2⟩
  have hne : endsHere st.k = false := by
    cases he : endsHere st.k
    · rfl
    · rw [(endsHere_iff_of_unfinishedAttached hua).mp he] at har; cases har
  have hc : Consults st.k := ⟨hi.next, hb, hne⟩
  refine ⟨hc, ?_⟩
  intro r h
  have hv := (loopStep_inl_final hi h).verdict
  refine ⟨fun ho => ?_, fun L ho => ?_, fun ho => ?_, fun n ho => ?_⟩ <;> rw [ho] at hv
  · exact hc.not_ends hv.2.1
  · exact hc.not_ends hv.2.1
  · obtain ⟨n, h1, h2, _⟩ := hv
    exact hb.not_continueAfter h1 h2
  · exact hb.not_failAfter hv.1 hv.2.1

/-- **spurious_not_progress**: a task in state `Blocked{allow_spurious_wakeups: true}` is offered to the
scheduler, yet does not count as runnable: if no task is `Runnable`, `schedule()` ends the execution without
consulting the scheduler — with a deadlock verdict whenever an attached task is unfinished. -/
theorem spurious_not_progress {ms : MaxSteps} (S : Scheduler σ) (segFuel : Nat) {st : ExecState P σ}
    (hi : LoopInv ms st) (hb : BoundOK st.k)
    (hno : ∀ (i : Nat) (tk : Task), st.k.tasks[i]? = some tk → tk.state ≠ .runnable) :
    (∀ (i : Nat) (tk : Task), st.k.tasks[i]? = some tk → tk.state = .blocked true → i ∈ st.k.offered) ∧
    ¬ Consults st.k ∧
    ∃ st', loopStep S segFuel st =
      .inl ⟨if st.k.unfinishedAttached then .deadlock st.k.deadlockList else .ok, st'⟩ := by
  have har : st.k.anyRunnable = false :=
    anyRunnable_false_iff.mpr fun i tk hk => (Task.runnable_eq_false_iff tk).mpr (hno i tk hk)
  have he : endsHere st.k = true := by simp [endsHere, har]
  refine ⟨?_, fun hc => hc.not_ends he, _, loopStep_ends S segFuel hi.next hi.conts hb he⟩
  intro i tk hk hs
  exact mem_offered.mpr ⟨tk, hk, Or.inr ((Task.canSpuriouslyWakeup_iff tk).mpr hs)⟩

/-- **terminates_under_bound** (proved in C13): under a step bound `n`, a program without `reset_step_count`
consults the scheduler at most `n` times; the loop makes at most `n` continuing iterations. -/
theorem terminates_under_bound (P : Program) (hP : NoReset P) (S : Scheduler σ) (ms : MaxSteps) (n : Nat)
    (hb : boundOf ms = some n) (seed : Nat) (s : σ) (fuel segFuel : Nat) :
    decCount (execute P S ms seed s fuel segFuel).st.log.toList ≤ n ∧
      ∀ m st, ReachN S segFuel m (initState P ms seed s) st → m ≤ n :=
  ⟨C13.terminates_under_bound P hP S ms n hb seed s fuel segFuel,
   (C13.terminates_under_bound_iterations P hP S ms n hb seed s segFuel).1⟩

/-- main blocks itself for good after spawning a child that just ends: `deadlock` listing main (attached, not
sleeping); no task runnable in the final state -/
example :
    (execute exDeadlock firstSched .none 0 () 20 20).outcome = .deadlock [(0, false, false)] ∧
    (execute exDeadlock firstSched .none 0 () 20 20).st.k.anyRunnable = false ∧
    (execute exDeadlock firstSched .none 0 () 20 20).st.k.unfinishedAttached = true := by decide

/-- main parks with nobody to unpark it: it is offered (`offered = [0]`) but the verdict is `deadlock` and the
scheduler is not consulted a second time -/
example :
    (execute exPark firstSched .none 0 () 20 20).outcome = .deadlock [(0, false, false)] ∧
    (execute exPark firstSched .none 0 () 20 20).st.k.offered = [0] ∧
    (execute exPark firstSched .none 0 () 20 20).st.log.toList = [.dec [0] none false (some 0)] := by decide

/-- main ends with a detached runnable child left: `ok`, the child is never run (`detached_leftovers_ok`) -/
example :
    (execute exDetached firstSched .none 0 () 20 20).outcome = .ok ∧
    (execute exDetached firstSched .none 0 () 20 20).st.k.anyRunnable = true ∧
    (execute exDetached firstSched .none 0 () 20 20).st.k.allRunnableDetached = true := by decide

/-- `DeadlockAt` holds in the final state of the deadlocking example -/
example : DeadlockAt (execute exDeadlock firstSched .none 0 () 20 20).st.k :=
  ⟨trivial, by decide, by decide⟩

end ShuttleProofs.C03

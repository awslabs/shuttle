import ShuttleProofs.C03
import ShuttleProofs.Lemmas.FutureExamples
import ShuttleProofs.Lemmas.FutureLts
import ShuttleProofs.Lemmas.FutureProg
import ShuttleProofs.Lemmas.FutureAsyncExamples

/-!
# C17 — futures: wakers, the poll loops, `JoinHandle`, `abort`

Property C17: "A spawned future is polled until it completes and is polled again after any wake of its waker that
happens during or after its latest poll, whichever task issues the wake; a pending future whose waker is never
invoked is not treated as able to progress, and block_on suspends the calling task while its future is pending and
then returns its output. Awaiting a JoinHandle yields the task's output exactly once, or Cancelled if and only if an
abort took effect before completion, in which case the future is dropped (its destructors run) and performs no
further steps; dropping a JoinHandle detaches the task without cancelling it, and abort is idempotent."

* Part 1 — kernel: `wake`, `sleep_unless_woken`, lost wake-ups, pending tasks, detached leftovers.
* Part 2 — `namespace Lts`: `JoinHandle` / `Wrapper` / `abort` over the pure transitions (most general client).
* Part 3 — the poll loops `Fut.taskLoop` and `Fut.blockOnLoop` run by the kernel, and executions of a concrete
  async program built from the model's wrappers.

Reading of "an abort took effect" (what the code does, `Lts.abort_mid_poll`): the `aborted` flag is read once, at the
start of `Wrapper::poll`; an `abort()` whose `swap` happens while the inner future is being polled does not cancel
that poll — if it returns `Ready` the joiner gets `Ok(output)` although `aborted` is set.  In the cancel path the
destructors of the inner future and the thread-local destructors may reach scheduling points; they do not touch the
`JoinHandle` state, so `Lts.step … .pollBegin` treats the path as one update of that state.

-/

namespace ShuttleProofs.C17
open ShuttleModel ShuttleProofs.Kernel

variable {P : Program} {σ : Type}

/-! # Part 1 — the kernel side (model: `ShuttleModel/Kernel.lean`)

It holds for **every** program, **every** scheduler, every `MaxSteps`, seed and fuel.  Its vocabulary (`Req`, `KStep`,
`KTrace`, `IterEv`, `ReachEv`, the ghost flag `ghostStep` / `wokenGhost`, `SleepingAt`, `disturbs`) is defined in
`Lemmas/FutureKernel*.lean`. -/

/-- **wake_sets_woken_and_unblocks_sleeper** (`Task::wake`): the flag is set; a `Sleeping` task becomes
`Runnable` (through `unblock`, which also clears `blocked_in_park`); the state of a task that is `Runnable`,
`Blocked` or `Finished` is not changed (only the flag is set). -/
theorem wake_sets_woken_and_unblocks_sleeper (t : Task) :
    (t.state = .sleeping →
      t.wake = .ok { t with woken := true, state := .runnable, blockedInPark := false }) ∧
    (t.state ≠ .sleeping → t.wake = .ok { t with woken := true }) :=
  ⟨Task.wake_sleeping t, Task.wake_not_sleeping t⟩

/-- the same for the kernel request (`raw_waker_wake`), whichever task `me` issues it — `me = t` included: in a
live execution, for an unfinished task `t`, the request never fails and does exactly `Task::wake` on `t`. -/
theorem wake_request (S : Scheduler σ) (me fuel : Nat) (st : ExecState P σ) (t : Nat) (tk : Task)
    (kont : Unit → Prog P.U Unit) (hc : st.k.current ≠ .stopped ∧ st.k.current ≠ .finished)
    (hk : st.k.tasks[t]? = some tk) (hf : tk.state ≠ .finished) :
    runSegment S me (fuel + 1) st (.op (.wake t) kont) =
      runSegment S me fuel { st with k := (st.k.setTask t
        (if tk.state = .sleeping then { tk with woken := true, state := .runnable, blockedInPark := false }
         else { tk with woken := true })) } (kont ()) := by
  rw [runSegment]
  have h1 : (st.k.current == Cur.stopped || st.k.current == Cur.finished) = false := by
    simp [hc.1, hc.2]
  simp only [h1, Bool.false_eq_true, if_false, Kernel.getTask?, hk, Task.finished, beq_iff_eq, hf,
    Kernel.modTask]
  by_cases hs : tk.state = .sleeping
  · rw [Task.wake_sleeping tk hs]; simp only [hs, if_true]
  · rw [Task.wake_not_sleeping tk hs]; simp only [hs, if_false]

example : (({ state := .sleeping } : Task).wake.toOption.map (fun t => (t.state, t.woken))) =
    some (.runnable, true) := by decide
example : (({ state := .blocked false } : Task).wake.toOption.map (fun t => (t.state, t.woken))) =
    some (.blocked false, true) := by decide
example : (({ state := .finished } : Task).wake.toOption.map (fun t => (t.state, t.woken))) =
    some (.finished, true) := by decide

/-- **finished_task_wake_is_noop** (`if waiter.finished() { return }`): the request changes nothing. -/
theorem finished_task_wake_is_noop (S : Scheduler σ) (me fuel : Nat) (st : ExecState P σ) (t : Nat)
    (tk : Task) (kont : Unit → Prog P.U Unit) (hk : st.k.tasks[t]? = some tk) (hf : tk.state = .finished) :
    runSegment S me (fuel + 1) st (.op (.wake t) kont) = runSegment S me fuel st (kont ()) := by
  by_cases hc : (st.k.current == .stopped || st.k.current == .finished) = true
  · exact if_pos hc
  · refine (if_neg hc).trans ?_
    show (match st.k.tasks[t]? with | none => _ | some tk => _) = _
    rw [hk]
    exact if_pos (by rw [Task.finished, hf]; rfl)

/-- **wake_after_execution_end_is_noop** (`if state.is_finished() { return }`): once `current_task` is `Stopped`
or `Finished`, invoking any waker — even one whose task id is unknown — changes nothing. -/
theorem wake_after_execution_end_is_noop (S : Scheduler σ) (me fuel : Nat) (st : ExecState P σ) (t : Nat)
    (kont : Unit → Prog P.U Unit) (hc : st.k.current = .stopped ∨ st.k.current = .finished) :
    runSegment S me (fuel + 1) st (.op (.wake t) kont) = runSegment S me fuel st (kont ()) :=
  if_pos (by rcases hc with hc | hc <;> rw [hc] <;> rfl)

/-- non-vacuity: a wake of a finished task / of a sleeping task after the execution has ended leaves the task
table as it is (the sleeping task stays asleep), while in a live execution the same request wakes it -/
example :
    (runSegment (P := exSelfWake) firstSched 0 5 (exEndedState exSelfWake)
      (.op (.wake 1) fun _ => .op (.wake 0) fun _ => .pure ())).st.k.tasks.map (fun t => (t.state, t.woken)) =
      [(.finished, false), (.sleeping, false)] ∧
    (runSegment (P := exSelfWake) firstSched 0 5
      { exEndedState exSelfWake with k := { (exEndedState exSelfWake).k with current := .some 0 } }
      (.op (.wake 1) fun _ => .op (.wake 0) fun _ => .pure ())).st.k.tasks.map (fun t => (t.state, t.woken)) =
      [(.finished, false), (.runnable, true)] := by decide +kernel

/-- `Task::sleep_unless_woken` as a kernel request of an unfinished task: the flag is consumed; the task goes to
sleep iff the flag was down. -/
theorem sleepUnlessWoken_request (S : Scheduler σ) (me fuel : Nat) (st : ExecState P σ) (tk : Task)
    (kont : Unit → Prog P.U Unit) (hk : st.k.tasks[me]? = some tk) (hf : tk.state ≠ .finished) :
    runSegment S me (fuel + 1) st (.op .sleepUnlessWoken kont) =
      runSegment S me fuel { st with k := (st.k.setTask me
        (if tk.woken = true then { tk with woken := false }
         else { tk with woken := false, state := .sleeping })) } (kont ()) := by
  rw [runSegment]
  simp only [Kernel.modTask, Kernel.getTask?, hk]
  cases hw : tk.woken
  · rw [Task.sleepUnlessWoken_not_woken tk hw hf]; simp
  · rw [Task.sleepUnlessWoken_woken tk hw]; simp

/-- **no_lost_wake**, one task: after `wake` (on an unfinished task in any state), `sleep_unless_woken` does not
put the task to sleep — it stays `Runnable` if it was `Runnable` or `Sleeping` — and consumes the flag; the
flag is consumed exactly once: a second `sleep_unless_woken` without a wake in between does sleep. -/
theorem wake_then_sleepUnlessWoken (t : Task) (hf : t.state ≠ .finished) :
    ∃ t1 t2 t3, t.wake = .ok t1 ∧ t1.sleepUnlessWoken = .ok t2 ∧ t2.sleepUnlessWoken = .ok t3 ∧
      t1.woken = true ∧ t1.state ≠ .sleeping ∧
      t2.woken = false ∧ t2.state = t1.state ∧ (t.state = .sleeping ∨ t.state = .runnable → t2.state = .runnable) ∧
      t3.woken = false ∧ t3.state = .sleeping := by
  by_cases hs : t.state = .sleeping
  · refine ⟨_, _, _, Task.wake_sleeping t hs, Task.sleepUnlessWoken_woken _ rfl,
      Task.sleepUnlessWoken_not_woken _ rfl (by simp), ?_⟩
    exact ⟨rfl, by simp, rfl, rfl, fun _ => rfl, rfl, rfl⟩
  · refine ⟨_, _, _, Task.wake_not_sleeping t hs, Task.sleepUnlessWoken_woken _ rfl,
      Task.sleepUnlessWoken_not_woken _ rfl (by simpa using hf), ?_⟩
    exact ⟨rfl, hs, rfl, rfl, fun h => h.resolve_left hs, rfl, rfl⟩

/-- **no_lost_wake**, executions: at every loop head `st` reachable in any execution there is a list `evs` of the
requests executed so far (`ReachEv`: task, request, in execution order) such that for every unfinished task `i`
 * the `woken` flag is exactly the ghost flag "some task — `i` itself included — executed `wake i` after the latest
   `sleepUnlessWoken` executed by `i`", and
 * if `i` is `Sleeping`, the ghost flag is down: no wake for `i` has been executed since its latest
   `sleepUnlessWoken` started.
Hence (with `sleepUnlessWoken_request`) the next `sleep_unless_woken` of `i` after such a wake finds `woken = true`,
leaves `i` runnable and clears the flag. -/
theorem no_lost_wake (P : Program) (S : Scheduler σ) (ms : MaxSteps) (seed : Nat) (s : σ) (segFuel n : Nat)
    (st : ExecState P σ) (h : ReachN S segFuel n (initState P ms seed s) st) :
    ∃ evs, ReachEv S segFuel (initState P ms seed s) evs st ∧
      ∀ i tk, st.k.tasks[i]? = some tk → tk.state ≠ .finished →
        tk.woken = wokenGhost i false evs ∧ (tk.state = .sleeping → wokenGhost i false evs = false) := by
  obtain ⟨evs, he⟩ := reachEv_of_reachN (LoopInv.init P ms seed s) h
  refine ⟨evs, he, ?_⟩
  intro i tk hk hf
  have hw := (WokenIs.reachEv he i false (WokenIs.init P ms seed s i)).1 tk hk
    (by simpa [Task.finished] using hf)
  have hsl := SleepInv.reachEv he (SleepInv.init P ms seed s) i tk hk
  exact ⟨hw, fun hs => by rw [← hw]; exact hsl hs⟩

/-- **no_lost_wake** inside a segment (the granularity at which `wake` and `sleep_unless_woken` interleave): in a
segment of task `me` (`current_task = me`) whose start state satisfies both, after every executed request the
`woken` flag of an unfinished task `i` is the ghost flag folded over the requests executed so far, and
`Sleeping ⇒ !woken`. -/
theorem no_lost_wake_in_segment (S : Scheduler σ) (me fuel : Nat) (st : ExecState P σ) (p : Prog P.U Unit)
    (hc : st.k.current = .some me) (hinv : SleepInv st.k.tasks) (i : Nat) (g0 : Bool)
    (h0 : WokenIs i g0 st.k.tasks) :
    ∃ l, KTrace S me st p l (runSegment S me fuel st p) ∧
      ∀ a x b, l = a ++ x :: b →
        WokenIs i (((a ++ [x]).map (·.1)).foldl (ghostStep i me) g0) x.2.k.tasks ∧ SleepInv x.2.k.tasks := by
  obtain ⟨l, htr⟩ := runSegment_ktrace S me fuel st p
  refine ⟨l, htr, ?_⟩
  intro a x b hl
  have h1 := (KTrace.ghost_inv (ghostStep i me) (WokenIs i) htr
    (fun g r st1 st2 _ hc1 hi hs => hi.kstep (hc1.trans hc) hs) g0 h0).1 a x b hl
  exact ⟨h1, (SleepInv.ktrace htr hinv).1 a x b hl⟩

/-- `Sleeping ⇒ !woken` also holds in the state in which any execution ends, whatever the outcome. -/
theorem sleeping_implies_not_woken_final (P : Program) (S : Scheduler σ) (ms : MaxSteps) (seed : Nat) (s : σ)
    (fuel segFuel : Nat) (i : Nat) (tk : Task)
    (hk : (execute P S ms seed s fuel segFuel).st.k.tasks[i]? = some tk) (hs : tk.state = .sleeping) :
    tk.woken = false := by
  obtain ⟨stf, ⟨n, hr⟩, _, hf⟩ := execute_final P S ms seed s fuel segFuel
  obtain ⟨evs, he⟩ := reachEv_of_reachN (LoopInv.init P ms seed s) hr
  exact SleepInv.final (SleepInv.reachEv he (SleepInv.init P ms seed s)) hf i tk hk hs

/-- non-vacuity (`exSelfWake`): the task invokes its own waker during its "poll"; the first
`sleep_unless_woken` then does not sleep (the task is scheduled again and gets to `setU 1`), the second one does:
the run ends in a deadlock with the task `Sleeping`, `woken = false`. -/
example :
    (execute exSelfWake firstSched .none 0 () 20 20).outcome = .deadlock [(0, false, true)] ∧
    uVal (execute exSelfWake firstSched .none 0 () 20 20).st = 1 ∧
    obsTask (execute exSelfWake firstSched .none 0 () 20 20).st.k 0 = some (.sleeping, false, false) := by
  decide +kernel

/-- non-vacuity: a wake by another task that arrives *before* the `sleep_unless_woken` is not lost
(`exWakeEarly`: the child completes, `u = 7`); without any wake the child would sleep forever (`exPending`). -/
example :
    (execute exWakeEarly firstSched .none 0 () 20 20).outcome = .ok ∧
    uVal (execute exWakeEarly firstSched .none 0 () 20 20).st = 7 ∧
    (execute (exPending false) lastSched .none 0 () 20 20).outcome = .deadlock [(1, false, true)] ∧
    uVal (execute (exPending false) lastSched .none 0 () 20 20).st = 0 := by decide +kernel

/-- non-vacuity of the ghost flag: the requests of `exSelfWake` up to its first `switch` -/
example : wokenGhost 0 false [(0, .wake 0)] = true ∧
    wokenGhost 0 false [(0, .wake 0), (0, .sleepUnlessWoken)] = false ∧
    wokenGhost 1 false [(0, .wake 1), (0, .sleepUnlessWoken), (1, .other)] = true := by decide

/-- one iteration: the sleeping task is not the one chosen, and only a request naming it can end its sleep -/
theorem pending_not_chosen {S : Scheduler σ} {segFuel : Nat} {st b : ExecState P σ} {t : Nat}
    {l : List (Req × ExecState P σ)} (h : IterEv S segFuel st t l b) {i : Nat} {w : Bool}
    (h0 : SleepingAt i w st.k.tasks) :
    t ≠ i ∧ ((∀ x ∈ l, disturbs i x.1 = false) → SleepingAt i w b.k.tasks) := by
  have hti : t ≠ i := fun ht => h0.not_offered (ht ▸ h.chosen_offered)
  refine ⟨hti, fun hq => ?_⟩
  -- what the loop does to the chosen task is not done to `i`; the requests of `t` do not disturb `i`
  refine h.ghost_inv (G := Unit) (fun g _ => g) (fun _ ts => SleepingAt i w ts) ()
    (fun _ ts tk s b hi _ _ _ => by unfold SleepingAt; rw [List.getElem?_set_ne hti]; exact hi) ?_ h0
  rintro _ r st1 st2 hr _ ⟨tk, hk, hsl, hw⟩ hs
  obtain ⟨x, hx, rfl⟩ := List.mem_map.mp hr
  obtain ⟨tk', hk', he⟩ := hs.old i tk hk
  obtain ⟨h1, h2⟩ := he.sleeping_stable hsl hti (hq x hx)
  exact ⟨tk', hk', h1, h2.trans hw⟩

/-- **pending_without_wake_not_runnable**: a task that is `Sleeping` at loop head `st0` (i.e. it executed
`sleep_unless_woken` with `woken = false`, `sleepUnlessWoken_request`) is still `Sleeping` (flag down) at every later
loop head `st`, as long as no `wake i` / `unblock i` / `blockTask i` request has been executed by any task.  Until
then it is not offered to the scheduler, does not count as runnable, and executes no request at all. -/
theorem pending_without_wake_not_runnable {S : Scheduler σ} {segFuel : Nat} {st0 st : ExecState P σ}
    {evs : List (Nat × Req)} (h : ReachEv S segFuel st0 evs st) {i : Nat} {w : Bool}
    (h0 : SleepingAt i w st0.k.tasks) (hq : ∀ e ∈ evs, disturbs i e.2 = false) :
    SleepingAt i w st.k.tasks ∧ i ∉ st.k.offered ∧
      (∀ tk, st.k.tasks[i]? = some tk → tk.runnable = false) ∧ ∀ e ∈ evs, e.1 ≠ i := by
  have key : SleepingAt i w st.k.tasks ∧ ∀ e ∈ evs, e.1 ≠ i := by
    induction h with
    | refl => exact ⟨h0, nofun⟩
    | @tail st b evs t l _ hit ih =>
      obtain ⟨ih1, ih2⟩ := ih (fun e he => hq e (List.mem_append_left _ he))
      obtain ⟨hti, hst⟩ := pending_not_chosen hit ih1
      refine ⟨hst fun x hx => hq (t, x.1) (List.mem_append_right _ (List.mem_map.mpr ⟨x, hx, rfl⟩)), ?_⟩
      intro e he
      rcases List.mem_append.mp he with he | he
      · exact ih2 e he
      · obtain ⟨x, _, rfl⟩ := List.mem_map.mp he
        exact hti
  obtain ⟨h1, h2⟩ := key
  refine ⟨h1, h1.not_offered, ?_, h2⟩
  intro tk hk
  obtain ⟨tk', hk', hs, _⟩ := h1
  rw [hk] at hk'; cases hk'
  simp [Task.runnable, hs]

/-- sleeping tasks are not progress: at a loop head where no task is `Runnable` (every unfinished task is
`Sleeping` or `Blocked`), the execution ends without consulting the scheduler — with a deadlock listing the
unfinished tasks whenever one of them is attached (C03). -/
theorem all_pending_ends_execution {ms : MaxSteps} (S : Scheduler σ) (segFuel : Nat) {st : ExecState P σ}
    (hi : LoopInv ms st) (hb : BoundOK st.k)
    (hno : ∀ (i : Nat) (tk : Task), st.k.tasks[i]? = some tk →
      tk.state = .sleeping ∨ tk.state = .finished ∨ ∃ sp, tk.state = .blocked sp) :
    ¬ Consults st.k ∧ ∃ st', loopStep S segFuel st =
      .inl ⟨if st.k.unfinishedAttached then .deadlock st.k.deadlockList else .ok, st'⟩ := by
  have := C03.spurious_not_progress S segFuel hi hb (fun i tk hk hr => by
    rcases hno i tk hk with h | h | ⟨sp, h⟩ <;> rw [h] at hr <;> cases hr)
  exact ⟨this.2.1, this.2.2⟩

/-- non-vacuity: in `exPending false` under `lastSched`, after two iterations the child (task 1) is `Sleeping`;
the hypotheses of `pending_without_wake_not_runnable` hold at that loop head, and main (the only other task)
never names task 1 afterwards: the run deadlocks on it. -/
example : ∃ st, ReachN lastSched 20 2 (initState (exPending false) .none 0 ()) st ∧
    SleepingAt 1 false st.k.tasks ∧ st.k.offered = [0] := by
  have h : (iterate lastSched 20 2 (initState (exPending false) .none 0 ())).map
      (fun st => (obsTask st.k 1, st.k.offered)) = some (some (.sleeping, false, false), [0]) := by decide +kernel
  obtain ⟨st, hi, h⟩ := Option.map_eq_some_iff.mp h
  obtain ⟨h1, h2⟩ := Prod.mk.inj h
  obtain ⟨tk, hk, h3⟩ := Option.map_eq_some_iff.mp h1
  exact ⟨st, iterate_reachN hi, ⟨tk, hk, (Prod.mk.inj h3).1, (Prod.mk.inj (Prod.mk.inj h3).2).1⟩, h2⟩

/-- non-vacuity (`exWakeOther`): the sleeping child is polled again after main invokes its waker, and completes -/
example :
    (execute exWakeOther lastSched .none 0 () 20 20).outcome = .ok ∧
    uVal (execute exWakeOther lastSched .none 0 () 20 20).st = 7 ∧
    (iterate lastSched 20 2 (initState exWakeOther .none 0 ())).map (fun st => obsTask st.k 1) =
      some (some (.sleeping, false, false)) ∧
    (iterate lastSched 20 3 (initState exWakeOther .none 0 ())).map (fun st => obsTask st.k 1) =
      some (some (.runnable, true, false)) := by decide +kernel

/-- **detached_only_remainder_ends_ok**: at a loop head where every unfinished task is detached — e.g. spawned
futures whose `JoinHandle` was dropped, whether `Sleeping` (pending, never woken) or still `Runnable` — the
execution ends with `ok`; it is never reported as a deadlock, and the leftover tasks are not run. -/
theorem detached_only_remainder_ends_ok {ms : MaxSteps} (S : Scheduler σ) (segFuel : Nat) {st : ExecState P σ}
    (hi : LoopInv ms st) (hb : BoundOK st.k)
    (hd : ∀ (i : Nat) (tk : Task), st.k.tasks[i]? = some tk → tk.state ≠ .finished → tk.detached = true) :
    ∃ st', loopStep S segFuel st = .inl ⟨.ok, st'⟩ := by
  apply C03.detached_leftovers_ok S segFuel hi hb
  · apply unfinishedAttached_false_iff.mpr
    intro i tk hk hdt
    cases hf : tk.finished
    · have := hd i tk hk (by simpa [Task.finished] using hf)
      rw [hdt] at this; cases this
    · rfl
  · apply allRunnableDetached_iff.mpr
    intro i tk hk hr
    exact hd i tk hk (by rw [(Task.runnable_iff tk).mp hr]; simp)

/-- `detach` (what dropping a `JoinHandle` does to the task) only sets the `detached` flag: the task's `state` and
`woken` flag — whether and when it runs — are untouched. -/
theorem detach_request (S : Scheduler σ) (me fuel : Nat) (st : ExecState P σ) (t : Nat) (tk : Task)
    (kont : Unit → Prog P.U Unit) (hk : st.k.tasks[t]? = some tk) :
    runSegment S me (fuel + 1) st (.op (.detach t) kont) =
      runSegment S me fuel { st with k := st.k.setTask t { tk with detached := true } } (kont ()) := by
  rw [runSegment]
  simp [Kernel.modTask, Kernel.getTask?, hk]

/-- no request ever clears `detached` -/
theorem detached_is_never_cleared {me : Nat} {r : Req} {st st' : ExecState P σ} (h : KStep me r st st')
    (i : Nat) (tk : Task) (hk : st.k.tasks[i]? = some tk) (hd : tk.detached = true) :
    ∃ tk', st'.k.tasks[i]? = some tk' ∧ tk'.detached = true := by
  obtain ⟨tk', h1, h2⟩ := h.old i tk hk
  exact ⟨tk', h1, h2.detached_mono hd⟩

/-- non-vacuity: with the `JoinHandle` dropped (`detach`) the never-woken child is left `Sleeping` and the run is
`ok`; the same program without the `detach` is a deadlock -/
example :
    (execute (exPending true) lastSched .none 0 () 20 20).outcome = .ok ∧
    obsTask (execute (exPending true) lastSched .none 0 () 20 20).st.k 1 = some (.sleeping, false, true) ∧
    (execute (exPending false) lastSched .none 0 () 20 20).outcome = .deadlock [(1, false, true)] := by decide +kernel


/-! # Part 2 — `JoinHandle`, `Wrapper`, `abort`: every interleaving of the operations of `Lemmas/FutureLts.lean`
on one spawned future (`Lts.Reach tid g`: `g` is reachable from the state after `spawn`) -/

namespace Lts

/-- **join_result_once**: over any interleaving, at most one `JoinHandle::poll` returns `Ready`; what it returns
is the value the Wrapper published; `publish` itself (and the thread-local destructors) ran at most once. -/
theorem join_result_once {tid : Nat} {g : G} (h : Reach tid g) :
    g.takenCount ≤ 1 ∧ g.pubCount ≤ 1 ∧ g.tlsRun = g.pubCount ∧ g.takenCount ≤ g.pubCount ∧
      (∀ v, g.taken = some v → g.published = some v) := by
  have hi := reach_inv h
  have hle : g.pubCount ≤ 1 := by rw [hi.pubCount]; split <;> omega
  -- the slot is full and nothing was taken, or what was taken is what was published
  have key : g.takenCount ≤ g.pubCount ∧ ∀ v, g.taken = some v → g.published = some v := by
    cases hr : g.j.result with
    | some r =>
      obtain ⟨_, b, c⟩ := hi.slotFull r hr
      rw [b, c]
      exact ⟨Nat.zero_le _, nofun⟩
    | none =>
      obtain ⟨a, b⟩ := hi.slotEmpty hr
      rw [a, b]
      exact ⟨Nat.le_refl _, fun _ hv => hv⟩
  exact ⟨Nat.le_trans key.1 hle, hle, hi.tls, key⟩

/-- the `Ready` poll consumes the handle (the `.await` drops it): every later attempt to join — by any task —
finds no handle (`"nohandle"` in the harness; in Rust the moved-out `JoinHandle` cannot be named again) and
changes nothing. -/
theorem join_after_ready_nohandle {tid : Nat} {g : G} (h : Reach tid g) (ht : g.takenCount ≥ 1) (cx : Nat) :
    step tid g (.joinPoll cx) = some (g, .nohandle, []) := by
  obtain ⟨h1, h2⟩ := (reach_inv h).takenGone ht
  simp [step, h1, h2]

/-- `JoinHandle::poll` is `result.take()`: a `Ready` poll empties the slot, and polling the same handle again
(possible in Rust through `&mut JoinHandle`) is not a panic — it registers the waker and is `Pending`; since
`publish` never runs twice (`join_result_once`) it stays `Pending` for ever. -/
theorem pollJoin_takes (j : JoinState) (cx cx' : Nat) (r : Bool) (h : j.result = some r) :
    j.pollJoin cx = (some r, { j with result := none }) ∧
    ({ j with result := none } : JoinState).pollJoin cx' =
      (none, { j with result := none, waker := some cx' }) := by
  simp [JoinState.pollJoin, h]

/-- **cancelled_iff_abort_before_completion**: in every reachable state, the Wrapper published `Err(Cancelled)` iff
it is done and its last `pollBegin` read `aborted = true`; in that case the flag is set, the inner future was
dropped un-completed (its destructors ran) and the thread-local destructors ran once; if it published `Ok`, the
inner future completed and was never dropped.  What a joiner observes is the published value. -/
theorem cancelled_iff_abort_before_completion {tid : Nat} {g : G} (h : Reach tid g) :
    (g.published = some false ↔ g.phase = .done ∧ g.cancelSeen = true) ∧
    (g.published = some true ↔ g.phase = .done ∧ g.cancelSeen = false) ∧
    (g.published = some false → g.j.aborted = true ∧ g.dropped = true ∧ g.innerCompleted = false ∧ g.tlsRun = 1) ∧
    (g.published = some true → g.dropped = false ∧ g.innerCompleted = true ∧ g.tlsRun = 1) ∧
    (∀ v, g.taken = some v → g.published = some v) := by
  have hi := reach_inv h
  have key : ∀ v, g.published = some v ↔ g.phase = .done ∧ g.cancelSeen = !v := by
    refine fun v => ⟨fun hv => ⟨hi.pubDone.mpr (by rw [hv]; rfl), by rw [hi.value v hv, Bool.not_not]⟩, ?_⟩
    rintro ⟨hd, hc⟩
    cases hp : g.published with
    | none => have := hi.pubDone.mp hd; rw [hp] at this; cases this
    | some w => rw [hi.value w hp, hc, Bool.not_not]
  have tls1 : ∀ v, g.published = some v → g.tlsRun = 1 := fun v hv => by rw [hi.tls, hi.pubCount, hv]; rfl
  refine ⟨key false, key true, fun hv => ?_, fun hv => ?_, (join_result_once h).2.2.2.2⟩
  · obtain ⟨hd, hc⟩ := (key false).mp hv
    exact ⟨hi.seenAborted hc, (hi.cancelFx hd hc).1, (hi.cancelFx hd hc).2, tls1 _ hv⟩
  · obtain ⟨hd, hc⟩ := (key true).mp hv
    exact ⟨(hi.okFx hd hc).1, (hi.okFx hd hc).2, tls1 _ hv⟩

/-- the Wrapper checks the flag BEFORE polling the inner future: with the flag set, `pollBegin` does not poll
(`innerPolls` unchanged) — it drops the inner future, runs the thread-local destructors, publishes
`Err(Cancelled)` (waking the registered joiner, if any) and is `Ready`. -/
theorem pollBegin_aborted (tid : Nat) (g : G) (hp : g.phase = .idle) (ha : g.j.aborted = true) :
    ∃ g', step tid g .pollBegin = some (g', .began true,
        match g.j.waker with | some t => [Eff.wake t] | none => []) ∧
      g'.innerPolls = g.innerPolls ∧ g'.dropped = true ∧ g'.tlsRun = g.tlsRun + 1 ∧ g'.phase = .done ∧
      g'.published = some false ∧ g'.j.result = some false ∧ g'.j.waker = none :=
  ⟨_, (if_neg (not_not_intro hp)).trans (if_pos ha), rfl, rfl, rfl, rfl, rfl, rfl, rfl⟩

/-- with the flag down, `pollBegin` enters the poll of the inner future -/
theorem pollBegin_not_aborted (tid : Nat) (g : G) (hp : g.phase = .idle) (ha : g.j.aborted = false) :
    step tid g .pollBegin =
      some ({ g with phase := .midPoll, cancelSeen := false, innerPolls := g.innerPolls + 1 }, .began false, []) := by
  simp [step, hp, ha]

/-- an abort that arrives while the inner future is mid-poll does not cancel that poll: if the poll reaches
`Ready` the Wrapper publishes `Ok` although `aborted` is set (the joiner gets the output, not `Cancelled`); if it
returns `Pending`, the next `pollBegin` takes the cancel path. -/
theorem abort_mid_poll (tid : Nat) (g : G) (hp : g.phase = .midPoll) :
    ∃ g1 effs, step tid g .abort = some (g1, .unit, effs) ∧ g1.j.aborted = true ∧ g1.phase = .midPoll ∧
      (∃ g2 effs2, step tid g1 (.pollEnd true) = some (g2, .polled true, effs2) ∧
        g2.published = some true ∧ g2.j.result = some true ∧ g2.j.aborted = true) ∧
      (∃ g2 g3 effs3, step tid g1 (.pollEnd false) = some (g2, .polled false, []) ∧
        step tid g2 .pollBegin = some (g3, .began true, effs3) ∧ g3.published = some false ∧
        g3.innerPolls = g.innerPolls) := by
  -- `abort` writes only the flag; `pollEnd` does not read it, the next `pollBegin` does
  have hmid : ¬ g.phase ≠ .midPoll := not_not_intro hp
  exact ⟨_, _, step_abort tid g, rfl, hp, ⟨_, _, (if_neg hmid).trans (if_pos rfl), rfl, rfl, rfl⟩,
    ⟨_, _, _, (if_neg hmid).trans (if_neg Bool.false_ne_true), rfl, rfl, rfl⟩⟩

/-- once the Wrapper is done — completed or cancelled — it performs no further step: neither `pollBegin` nor
`pollEnd` can happen, and no other operation changes what it did (`innerPolls`, `dropped`, `tlsRun`, the
published value). -/
theorem done_no_further_steps {tid : Nat} {g g' : G} {op : FOp} {o : Out} {effs : List Eff}
    (hd : g.phase = .done) :
    step tid g .pollBegin = none ∧ (∀ r, step tid g (.pollEnd r) = none) ∧
    (step tid g op = some (g', o, effs) →
      g'.phase = .done ∧ g'.innerPolls = g.innerPolls ∧ g'.dropped = g.dropped ∧ g'.tlsRun = g.tlsRun ∧
        g'.published = g.published ∧ g'.innerCompleted = g.innerCompleted) := by
  refine ⟨by simp [step, hd], fun r => by simp [step, hd], fun hs => ?_⟩
  cases step_sound hs with
  | cancel h | begin h | ready h | pending h => rw [hd] at h; cases h
  | _ => exact ⟨hd, rfl, rfl, rfl, rfl, rfl⟩

/-- **abort_idempotent**: the first `abort` sets the flag and wakes the task (`Task::abort` = `wake` unless
finished); every further `abort` — through the `JoinHandle` or any clone of the `AbortHandle` — changes nothing
and wakes nobody (`if aborted.swap(true) { return }`). -/
theorem abort_idempotent (tid : Nat) (g : G) :
    ∃ g1, step tid g .abort = some (g1, .unit, if g.j.aborted then [] else [Eff.wake tid]) ∧
      g1.j.aborted = true ∧ step tid g1 .abort = some (g1, .unit, []) :=
  ⟨_, step_abort tid g, rfl, step_abort tid _⟩

/-- **abort_finished_is_noop**: aborting a future whose Wrapper is done changes nothing but the flag: the
published result, the result slot (what a later join returns) and everything the Wrapper did stay as they are; the
only effect is a `wake` of the future's task, which the kernel ignores for a finished task
(`finished_task_wake_is_noop`). -/
theorem abort_finished_is_noop {tid : Nat} {g : G} (hd : g.phase = .done) :
    ∃ g1 effs, step tid g .abort = some (g1, .unit, effs) ∧ (∀ e ∈ effs, e = Eff.wake tid) ∧
      g1 = { g with j := { g.j with aborted := true } } ∧ g1.j.result = g.j.result ∧
      g1.published = g.published ∧ g1.phase = .done ∧ step tid g1 .pollBegin = none := by
  refine ⟨_, _, step_abort tid g, fun e he => ?_, rfl, rfl, rfl, hd, if_pos (hd.symm ▸ by decide)⟩
  split at he
  · cases he
  · exact List.mem_singleton.mp he

/-- **drop_detaches_not_cancels**: dropping the `JoinHandle` detaches the task and does nothing else: the
`aborted` flag, the Wrapper's phase and the result slot are untouched — the Wrapper is polled exactly as before. -/
theorem drop_detaches_not_cancels (tid : Nat) (g : G) (hh : g.j.handle = true) :
    step tid g .dropHandle = some ({ g with j := { g.j with handle := false }, detached := true }, .unit, []) ∧
    ∀ g', g' = { g with j := { g.j with handle := false }, detached := true } →
      g'.j.aborted = g.j.aborted ∧ g'.phase = g.phase ∧ g'.j.result = g.j.result ∧
      (step tid g' .pollBegin).isSome = (step tid g .pollBegin).isSome ∧
      (∀ r, (step tid g' (.pollEnd r)).isSome = (step tid g (.pollEnd r)).isSome) := by
  refine ⟨if_pos hh, ?_⟩
  rintro g' rfl
  exact ⟨rfl, rfl, rfl, by rw [pollBegin_isSome, pollBegin_isSome], fun r => by rw [pollEnd_isSome, pollEnd_isSome]⟩

/-- only `abort` sets the flag -/
theorem flag_only_by_abort {tid : Nat} {g g' : G} {op : FOp} {o : Out} {effs : List Eff}
    (hs : step tid g op = some (g', o, effs)) (hop : op ≠ .abort) : g'.j.aborted = g.j.aborted := by
  cases step_sound hs with
  | abort => exact absurd rfl hop
  | _ => rfl

/-- hence a future nobody aborts is never cancelled, whatever happens to its handle: a joiner that got
`Cancelled` finds the flag set -/
theorem cancelled_only_if_aborted {tid : Nat} {g : G} (h : Reach tid g) (hc : g.taken = some false) :
    g.j.aborted = true := by
  obtain ⟨_, _, h3, _, h5⟩ := cancelled_iff_abort_before_completion h
  exact (h3 (h5 false hc)).1

/-- abort before the first poll: the joiner gets `Cancelled`, the inner future is never polled, it is dropped,
the thread-local destructors run once; a second join finds no handle; a second abort wakes nobody -/
example :
    (run 1 (init 1) [.joinPoll 0, .abort, .abort, .pollBegin, .joinPoll 0, .joinPoll 0, .pollBegin]).2 =
      [.joined none, .unit, .unit, .began true, .joined (some false), .nohandle] ∧
    (let g := (run 1 (init 1) [.joinPoll 0, .abort, .abort, .pollBegin, .joinPoll 0, .joinPoll 0]).1
     (g.innerPolls, g.dropped, g.tlsRun, g.takenCount, g.taken, g.detached) =
       (0, true, 1, 1, some false, true)) ∧
    (step 1 (init 1) .abort).map (·.2.2) = some [Eff.wake 1] ∧
    (step 1 (run 1 (init 1) [.abort]).1 .abort).map (·.2.2) = some [] := by decide +kernel

/-- abort while the inner future is mid-poll, the poll reaches `Ready`: the joiner gets the output (`Ok`) although
the flag is set; abort after completion changes nothing -/
example :
    (run 1 (init 1) [.pollBegin, .abort, .pollEnd true, .abort, .joinPoll 0]).2 =
      [.began false, .unit, .polled true, .unit, .joined (some true)] ∧
    (let g := (run 1 (init 1) [.pollBegin, .abort, .pollEnd true, .abort, .joinPoll 0]).1
     (g.j.aborted, g.innerPolls, g.dropped, g.innerCompleted, g.tlsRun, g.taken) =
       (true, 1, false, true, 1, some true)) := by decide +kernel

/-- abort mid-poll, the poll returns `Pending`: the next poll of the Wrapper cancels without polling the inner
future again; dropping the handle instead of aborting never cancels -/
example :
    (run 1 (init 1) [.pollBegin, .abort, .pollEnd false, .pollBegin, .pollBegin]).2 =
      [.began false, .unit, .polled false, .began true] ∧
    (run 1 (init 1) [.pollBegin, .abort, .pollEnd false, .pollBegin]).1.innerPolls = 1 ∧
    (run 1 (init 1) [.dropHandle, .pollBegin, .pollEnd false, .pollBegin, .pollEnd true, .joinPoll 0]).2 =
      [.unit, .began false, .polled false, .began false, .polled true, .nohandle] ∧
    (let g := (run 1 (init 1) [.dropHandle, .pollBegin, .pollEnd false, .pollBegin, .pollEnd true]).1
     (g.detached, g.j.aborted, g.published, g.innerPolls)) = (true, false, some true, 2) := by decide +kernel

example : Reach 1 (run 1 (init 1) [.joinPoll 0, .abort, .pollBegin, .joinPoll 0]).1 :=
  run_reach .init _

end Lts


/-! # Part 3 — the poll loops `Fut.taskLoop` (`Task::from_future` around `Wrapper::poll`) and `Fut.blockOnLoop`
(`future::block_on`), run by the kernel

A poll is described by what running it does (`AtomicPoll`: so many requests, no scheduling point, no panic, stated
for every continuation).  The theorems are for every scheduler, every kernel state, every inner future. -/

/-- what both poll loops do after a `Pending` poll — `sleep_unless_woken(); switch()`: the task goes to sleep iff
its waker was not invoked since its latest `sleep_unless_woken`, and stops at the scheduling point with `rest` (the
loop, resumed from the pending state) as its continuation. -/
theorem runSegment_suspend (S : Scheduler σ) (me fuel : Nat) (st : ExecState P σ) (tk : Task)
    (hk : st.k.tasks[me]? = some tk) (hf : tk.state ≠ .finished) (rest : Prog P.U Unit) :
    runSegment S me (fuel + 2) st (Prog.bind K.sleepUnlessWoken fun _ => Prog.bind K.switch fun _ => rest) =
      .atSwitch (parkedAt st me tk rest) := by
  show runSegment S me (fuel + 1 + 1) st (.op .sleepUnlessWoken fun _ => .op .switch fun _ => rest) = _
  rw [sleepUnlessWoken_request S me (fuel + 1) st tk _ hk hf, runSegment]
  rfl

/-- **task_loop_polls_until_ready**, the shape of the loop: read the `aborted` flag; set ⇒ drop the inner future
and `finish(Err(Cancelled))`; else poll; `Ready` ⇒ `finish(Ok)` and return; `Pending` ⇒ `sleep_unless_woken();
switch()` and poll again. -/
theorem task_loop_polls_until_ready {U : Type} {τ : Type} (F : Lens U FutHeap) (b : Nat)
    (poll : τ → Prog U (Option τ)) (dropFut : τ → Prog U Unit) (tls : Prog U Unit) (fuel : Nat) (s : τ) :
    Fut.taskLoop F b poll dropFut tls (fuel + 1) s =
      Prog.bind (K.getL (Fut.joinL F b)) fun j =>
        if j.aborted = true then Prog.bind (dropFut s) fun _ => Fut.finish F b false tls
        else Prog.bind (poll s) fun r =>
          match r with
          | none => Fut.finish F b true tls
          | some s' =>
            Prog.bind K.sleepUnlessWoken fun _ => Prog.bind K.switch fun _ =>
              Fut.taskLoop F b poll dropFut tls fuel s' :=
  rfl

/-- with the flag set, the kernel runs: the destructors of the inner future, then `Wrapper::finish(Err(Cancelled))`
(thread-local destructors, `publish false`, wake the joiner) — and nothing else: the inner future's `poll` does
not occur in what remains of the task (the right-hand side is the same for every `poll`). -/
theorem task_loop_aborted_never_polls {τ : Type} (S : Scheduler σ) (me fuel : Nat) (st : ExecState P σ)
    (F : Lens P.U FutHeap) (b : Nat) (poll : τ → Prog P.U (Option τ)) (dropFut : τ → Prog P.U Unit)
    (tls : Prog P.U Unit) (n : Nat) (s : τ) (ha : ((Fut.joinL F b).get st.u).aborted = true) :
    runSegment S me (fuel + 1) st (Fut.taskLoop F b poll dropFut tls (n + 1) s) =
      runSegment S me fuel st (Prog.bind (dropFut s) fun _ => Fut.finish F b false tls) := by
  rw [task_loop_polls_until_ready, runSegment_getL]
  simp only [ha, if_true]

/-- flag down, the poll returns `Ready`: the task goes on with `Wrapper::finish(Ok)` and then returns (finishes) -/
theorem task_loop_ready_finishes {τ : Type} (S : Scheduler σ) (me : Nat) (st st1 : ExecState P σ)
    (F : Lens P.U FutHeap) (b : Nat) (poll : τ → Prog P.U (Option τ)) (dropFut : τ → Prog P.U Unit)
    (tls : Prog P.U Unit) (n c : Nat) (s : τ) (ha : ((Fut.joinL F b).get st.u).aborted = false)
    (hp : AtomicPoll S me st (poll s) c st1 none) (fuel : Nat) :
    runSegment S me (fuel + c + 1) st (Fut.taskLoop F b poll dropFut tls (n + 1) s) =
      runSegment S me fuel st1 (Fut.finish F b true tls) := by
  rw [task_loop_polls_until_ready, runSegment_getL]
  simp only [ha, Bool.false_eq_true, if_false]
  rw [hp fuel]

/-- flag down, the poll returns `Pending`: the task executes `sleep_unless_woken()` — it goes to sleep iff its
waker was not invoked during the poll — and stops at `switch()`; when it is scheduled again it polls again (its
continuation is the loop, resumed from the pending state). -/
theorem task_loop_pending_suspends {τ : Type} (S : Scheduler σ) (me : Nat) (st st1 : ExecState P σ)
    (F : Lens P.U FutHeap) (b : Nat) (poll : τ → Prog P.U (Option τ)) (dropFut : τ → Prog P.U Unit)
    (tls : Prog P.U Unit) (n c : Nat) (s s' : τ) (ha : ((Fut.joinL F b).get st.u).aborted = false)
    (hp : AtomicPoll S me st (poll s) c st1 (some s')) (tk : Task) (hk : st1.k.tasks[me]? = some tk)
    (hf : tk.state ≠ .finished) (fuel : Nat) :
    runSegment S me (fuel + 2 + c + 1) st (Fut.taskLoop F b poll dropFut tls (n + 1) s) =
      .atSwitch (parkedAt st1 me tk (Fut.taskLoop F b poll dropFut tls n s')) := by
  rw [task_loop_polls_until_ready, runSegment_getL]
  simp only [ha, Bool.false_eq_true, if_false]
  rw [hp (fuel + 2)]
  exact runSegment_suspend S me fuel st1 tk hk hf _

/-- **block_on_returns_output_after_ready**: when the poll of its future is `Ready(v)`, `block_on` returns `v` to
its caller at once — no `sleep_unless_woken`, no scheduling point. -/
theorem block_on_returns_output_after_ready (S : Scheduler σ) (me : Nat) (st st1 : ExecState P σ)
    (poll : Stage → Prog P.U LeafRes) (n c : Nat) (s : Stage) (v : String)
    (hp : AtomicPoll S me st (poll s) c st1 (.ready v)) (kont : String → Prog P.U Unit) (fuel : Nat) :
    runSegment S me (fuel + c) st (Prog.bind (Fut.blockOnLoop poll (n + 1) s) kont) =
      runSegment S me fuel st1 (kont v) := by
  rw [blockOnLoop_succ, Prog.bind_assoc, hp fuel]
  rfl

/-- while its future is `Pending`, `block_on` suspends the calling task: `sleep_unless_woken()` (asleep unless the
waker — the caller's own — was invoked during the poll), then `switch()`; when the caller runs again, it polls
again, and only a `Ready` poll makes `block_on` return (previous theorem). -/
theorem block_on_suspends_while_pending (S : Scheduler σ) (me : Nat) (st st1 : ExecState P σ)
    (poll : Stage → Prog P.U LeafRes) (n c : Nat) (s s' : Stage)
    (hp : AtomicPoll S me st (poll s) c st1 (.pending s')) (tk : Task) (hk : st1.k.tasks[me]? = some tk)
    (hf : tk.state ≠ .finished) (kont : String → Prog P.U Unit) (fuel : Nat) :
    runSegment S me (fuel + 2 + c) st (Prog.bind (Fut.blockOnLoop poll (n + 1) s) kont) =
      .atSwitch (parkedAt st1 me tk (Prog.bind (Fut.blockOnLoop poll n s') kont)) := by
  rw [blockOnLoop_succ, Prog.bind_assoc, hp (fuel + 2)]
  exact runSegment_suspend S me fuel st1 tk hk hf _

/-- `JoinHandle::abort` / `AbortHandle::abort`: a scheduling point first, then exactly `JoinState.setAborted`
(the `swap`, and the `wake` of the task unless the flag was already set) -/
theorem abort_eq {U : Type} (F : Lens U FutHeap) (b : Nat) :
    Fut.abort F b =
      Prog.bind (K.getL (Fut.joinL F b)) fun j =>
        match j.tid with
        | none => Prog.pure "nohandle"
        | some tid => Prog.bind K.switch fun _ => Prog.bind (K.getL (Fut.joinL F b)) fun j =>
            Prog.bind (K.setL (Fut.joinL F b) (j.setAborted tid).1) fun _ =>
              Prog.bind (runEffs (j.setAborted tid).2) fun _ => Prog.pure "ok" := by
  rfl

/-- `Wrapper::finish` = thread-local destructors, then exactly `JoinState.publish` and its wake -/
theorem finish_is_publish {U : Type} (F : Lens U FutHeap) (b : Nat) (ok : Bool) (tls : Prog U Unit) :
    Fut.finish F b ok tls =
      Prog.bind tls fun _ => Prog.bind (K.getL (Fut.joinL F b)) fun j =>
        Prog.bind (K.setL (Fut.joinL F b) (j.publish ok).1) fun _ => runEffs (j.publish ok).2 :=
  rfl

/-- `AtomicPoll` is satisfiable: a poll that reads and writes the shared state and wakes its own task -/
example (S : Scheduler σ) (st : ExecState (exAsync 1 false 0) σ) (tk : Task) (hk : st.k.tasks[1]? = some tk)
    (hc : st.k.current = .some 1) (hf : tk.state ≠ .finished) (hs : tk.state ≠ .sleeping) :
    AtomicPoll S 1 st (exPoll false 1) 4
      { st with u := { (st.u : AU) with polls := (st.u : AU).polls + 1 },
                k := st.k.setTask 1 { tk with woken := true } } (some 0) := by
  intro fuel k
  have h1 : (st.k.current == Cur.stopped || st.k.current == Cur.finished) = false := by simp [hc]
  simp [exPoll, bump, K.getU, K.setU, K.me, K.wake, Prog.lift, Bind.bind, Prog.bind, runSegment, Pure.pure,
    h1, Kernel.getTask?, hk, Task.finished, hf, Kernel.modTask, Task.wake_not_sleeping tk hs]

/-- spawn + `block_on(join handle)`: the future is polled until `Ready` (twice: `Pending` with a self-wake, then
`Ready`), the thread-local destructors run once, `block_on` returns `Ok`, the handle is consumed (task detached),
the slot is empty -/
example : (execute (exAsync 1 false 0) firstSched .none 0 () 50 200).outcome = .ok ∧
    obsAsync (execute (exAsync 1 false 0) firstSched .none 0 () 50 200) =
      ([2, 0, 1, 1], none, false, [(.finished, false), (.finished, true)]) := by decide +kernel

/-- `abort` before the first poll, then `block_on(join handle)`, then `abort` again: the inner future is never
polled, it is dropped once, the thread-local destructors run once, the join returns `Err(Cancelled)` -/
example : (execute (exAsync 1 false 1) firstSched .none 0 () 50 200).outcome = .ok ∧
    obsAsync (execute (exAsync 1 false 1) firstSched .none 0 () 50 200) =
      ([0, 1, 1, 2], none, true, [(.finished, false), (.finished, true)]) := by decide +kernel

/-- `abort` takes effect while the inner future is mid-poll (the poll contains a scheduling point) and the poll
reaches `Ready`: not cancelled — the join returns `Ok` although the flag is set;  if instead that poll returns
`Pending`, the next poll of the Wrapper cancels (1 poll, dropped once, `Err(Cancelled)`) -/
example :
    obsAsync (execute (exAsync 0 true 1) listSched .none 0 [0, 1, 0] 50 200) =
      ([1, 0, 1, 1], none, true, [(.finished, false), (.finished, true)]) ∧
    obsAsync (execute (exAsync 1 true 1) listSched .none 0 [0, 1, 0] 50 200) =
      ([1, 1, 1, 2], none, true, [(.finished, false), (.finished, true)]) := by decide +kernel

/-- dropping the handle detaches and does not cancel: if main ends first the run is `ok` with the future never
polled; if the scheduler runs the detached future, it is polled to completion (2 polls, no drop, result
published `Ok`, nobody takes it);  a second join after a `Ready` one finds no handle (`joined = 1 + 10`) -/
example :
    (execute (exAsync 1 false 2) firstSched .none 0 () 50 200).outcome = .ok ∧
    obsAsync (execute (exAsync 1 false 2) firstSched .none 0 () 50 200) =
      ([0, 0, 0, 0], none, false, [(.finished, false), (.runnable, true)]) := by decide +kernel

example :
    obsAsync (execute (exAsync 1 false 4) lastSched .none 0 () 50 200) =
      ([2, 0, 1, 0], some true, false, [(.finished, false), (.finished, true)]) ∧
    obsAsync (execute (exAsync 0 false 3) firstSched .none 0 () 50 200) =
      ([1, 0, 1, 11], none, false, [(.finished, false), (.finished, true)]) := by decide +kernel

end ShuttleProofs.C17

import ShuttleProofs.Lemmas.SemNFrame
import ShuttleProofs.Lemmas.SemProg
/-
  C18 — BatchSemaphore (`shuttle-engine/src/future/batch_semaphore.rs`, model
  `ShuttleModel/Prim/Sem.lean`).

  "At all times the permits available plus the permits held by completed, unreleased acquisitions
   equal the initial permits plus those added, an acquisition completes only by removing exactly
   its requested permits, and try_acquire succeeds exactly when an acquire would complete
   immediately. A strictly fair semaphore grants requests strictly in arrival order (no later
   request, blocking or not, overtakes a queued one, and a waiter at the head is granted as soon as
   enough permits exist), while an unfair one lets any waiter that fits win. Dropping an
   acquisition before it completes returns whatever it was granted, leaves no trace in the queue
   and never strands the waiters behind it; close fails every pending and future acquisition; and
   the task released is always the one currently awaiting."

  All statements are about the most-general client of `Lemmas/SemLts.lean`: `Reach s0 g` = the
  ghost-annotated state `g` is reachable from `s0` by any sequence of the atomic state updates the
  `Prog` wrappers of `Sem.lean` perform between two scheduling points (`tryAcquire`, `newAcq`,
  `poll`, `dropAcquire`, `release`, `poisonRelease`, `close`), each step with its own arbitrary
  `fin : Nat → Bool` (finished tasks) and arbitrary clocks.  `Initial n s0` = `s0` is
  `BatchSemaphore::new(n, _)` or `const_new(n, _)`.

  The invariants of a reachable state are `reach_Inv_Balance` (`Lemmas/SemStep.lean`) and
  `reach_WakerInv` (`Lemmas/SemNFrame.lean`); `Served` and the queue order are in `Lemmas/SemFifo.lean`.
-/
namespace ShuttleModel
namespace C18
open SemLts
open Sem (PollOut)

-- concrete runs for the non-vacuity examples

def fin0 : Nat → Bool := fun _ => false
/-- fair, 2 permits: task 1 takes both, tasks 2 and 3 queue for one each, task 1 releases both -/
def opsFair : List SemOp :=
  [.tryAcquire 1 2 [1], .newAcq 2 1 [0, 1], .poll 0 2 2 [0, 1], .newAcq 3 1 [0, 0, 1],
   .poll 1 3 3 [0, 0, 1], .release 1 2 [2]]
/-- unfair, 0 permits: task 1 queues for one permit, task 2 adds one -/
def opsUnfair : List SemOp := [.newAcq 1 1 [], .poll 0 1 1 [], .release 2 1 []]
/-- fair, 1 permit: W0 wants 2, W1 wants 1, W0 is dropped -/
def opsCancel : List SemOp :=
  [.newAcq 1 2 [], .poll 0 1 1 [], .newAcq 2 1 [], .poll 1 2 2 []]
/-- fair, 0 permits: a waiter, then close -/
def opsClose : List SemOp := [.newAcq 1 1 [], .poll 0 1 1 [], .close]

/-- "the number of permits available is equal to the sum of the batch sizes in the queue" (once the
lazily initialised deque exists) -/
theorem batches_sum_eq_avail {n : Nat} {s0 : SemState} (h0 : Initial n s0) {g : G} (hr : Reach s0 g) :
    ∀ b, g.s.batches = some b → bsum b = g.s.avail :=
  (reach_Inv_Balance h0 hr).1.batch

example : ∃ g, Reach (SemState.new 2 true []) g ∧ g.s.batches = some [] ∧ g.s.avail = 0 :=
  ⟨finalOf fin0 _ opsFair, finalOf_reach (by decide), by decide, by decide⟩
example : ∃ g b, Reach (SemState.constNew 0 false) g ∧ g.s.batches = some b ∧ bsum b = 1 :=
  ⟨finalOf fin0 _ opsUnfair, _, finalOf_reach (by decide), rfl, by decide⟩

/-- permits available + permits granted to acquisitions that have not completed yet (`pend`: the
waiters with `has_permits` whose `Acquire` is not `completed`) + permits held by completed,
unreleased acquisitions (`held`) = initial permits + permits added by releases that did not give
back a held acquisition. -/
theorem conservation {n : Nat} {s0 : SemState} (h0 : Initial n s0) {g : G} (hr : Reach s0 g) :
    g.s.avail + pend g.s.table + heldSum g.held = n + g.added :=
  (reach_Inv_Balance h0 hr).2

/-- per step: `avail + pend` changes by exactly the permits handed to / taken from the client -/
theorem conservation_step {n : Nat} {s0 : SemState} (h0 : Initial n s0) {g : G} (hr : Reach s0 g)
    (fin : Nat → Bool) {op : SemOp} {o : StepOut} (h : step fin g.s op = .ok o) :
    o.s.avail + pend o.s.table + permitsOf (acquiredBy g.s op o.out)
      = g.s.avail + pend g.s.table + permitsOf (releasedBy op) :=
  (step_spec fin (reach_Inv_Balance h0 hr).1 h).2

example : ∃ g, Reach (SemState.new 2 true []) g ∧ g.s.avail = 0 ∧ pend g.s.table = 2 ∧
    g.held = [] ∧ g.added = 0 :=
  ⟨finalOf fin0 _ opsFair, finalOf_reach (by decide), by decide, by decide, by decide, by decide⟩
example : ∃ g, Reach (SemState.new 2 true []) g ∧ g.s.avail = 0 ∧ g.held = [(1, 2)] :=
  ⟨finalOf fin0 _ (opsFair.take 5), finalOf_reach (by decide), by decide, by decide⟩

/-- (1) for a STRICTLY FAIR semaphore the head waiter never fits at rest (also when it is stale);
(2) `W ∈ waiters ↔ W.is_queued` (and the queue has no duplicates and only live waiters);
(3) `W.is_queued → !W.has_permits`; (4) `closed → waiters.is_empty()`. -/
theorem source_invariants_1_to_4 {n : Nat} {s0 : SemState} (h0 : Initial n s0) {g : G}
    (hr : Reach s0 g) :
    (g.s.fair = true → ∀ head rest w, g.s.queue = head :: rest → g.s.getW head = some w →
        g.s.avail < w.n) ∧
    ((∀ w ∈ g.s.table, (w.isQueued = true ↔ w.wid ∈ g.s.queue)) ∧
      (∀ wid ∈ g.s.queue, ∃ w ∈ g.s.table, w.wid = wid) ∧ g.s.queue.Nodup ∧
      (g.s.table.map (·.wid)).Nodup) ∧
    (∀ w ∈ g.s.table, w.isQueued = true → w.hasPermits = false) ∧
    (g.s.closed = true → g.s.queue = []) := by
  have hi := (reach_Inv_Balance h0 hr).1
  exact ⟨hi.headBlocked, ⟨hi.tq.queued_iff, hi.tq.sub, hi.tq.nodupQ, hi.tq.nodupT⟩,
    fun w hw hq => (hi.tq.queuedOk w hw hq).1, hi.closedEmpty⟩

/-- Invariant (1) as written in the source ("we are never in a state where there are enough permits
available for the first waiter") is FALSE for an unfair semaphore: `release` only wakes the
waiters, they stay queued until they poll again. -/
theorem source_invariant_1_unfair_fails_witness :
    ∃ g w, Reach (SemState.new 0 false []) g ∧ g.s.fair = false ∧ g.s.queue = [0] ∧
      g.s.getW 0 = some w ∧ w.n ≤ g.s.avail :=
  ⟨finalOf fin0 _ opsUnfair, _, finalOf_reach (by decide), by decide, by decide, rfl, by decide⟩

example : ∃ g, Reach (SemState.new 2 true []) g ∧ g.s.fair = true ∧ g.s.queue = [0, 1] :=
  ⟨finalOf fin0 _ (opsFair.take 5), finalOf_reach (by decide), by decide, by decide⟩

/-- `try_acquire(n)` that succeeds takes exactly `n`; a poll that returns `Ready(Ok)` either
consumes a grant made earlier (which moved exactly `w.n` permits from `avail` to the waiter, see
`conservation_step`) or takes exactly `w.n` now; every other poll result leaves `avail` alone. -/
theorem acquire_removes_exactly_n {n : Nat} {s0 : SemState} (h0 : Initial n s0) {g : G}
    (hr : Reach s0 g) (fin : Nat → Bool) :
    (∀ task k clk o, step fin g.s (.tryAcquire task k clk) = .ok o →
        (o.out = .tried (.ok ()) → o.s.avail + k = g.s.avail) ∧
        (o.out ≠ .tried (.ok ()) → o.s = g.s)) ∧
    (∀ wid me cx clk o w0, g.s.getW wid = some w0 → step fin g.s (.poll wid me cx clk) = .ok o →
        (o.out = .polled (.ready true) →
          (w0.hasPermits = true ∧ o.s.avail = g.s.avail) ∨
          (w0.hasPermits = false ∧ o.s.avail + w0.n = g.s.avail)) ∧
        (o.out ≠ .polled (.ready true) → o.s.avail = g.s.avail)) := by
  have hi := (reach_Inv_Balance h0 hr).1
  constructor
  · intro task k clk o h
    cases step_ok_iff.mp h with
    | tryOk hacq => exact ⟨fun _ => (acquirePermits_frame hacq).2, fun hne => absurd rfl hne⟩
    | tryErr => exact ⟨(fun he => by cases he), fun _ => rfl⟩
  · intro wid me cx clk o w0 hw h
    obtain ⟨hnc, po, hpp, rfl⟩ := step_poll hw h
    have pf := (pollPure_spec hi hw hnc hpp).facts
    constructor
    · intro ho
      simp only [Out.polled.injEq] at ho
      rcases pf.readyOk ho with h1 | h2
      · exact Or.inl h1
      · exact Or.inr ⟨h2.1, h2.2.1⟩
    · intro ho
      exact pf.otherwise (fun e => ho (by simp [e]))

example : ∃ o, step fin0 (SemState.new 2 true []) (.tryAcquire 1 2 []) = .ok o ∧
    o.out = .tried (.ok ()) ∧ o.s.avail = 0 := ⟨_, rfl, rfl, by decide⟩

/-- `try_acquire(n)` succeeds exactly when a fresh `acquire(n)` polled once in the same state
returns `Ready(Ok(()))` (whatever the clocks) -/
theorem try_iff_immediate {n : Nat} {s0 : SemState} (h0 : Initial n s0) {g : G} (hr : Reach s0 g)
    (fin : Nat → Bool) (task k : Nat) (c c' : Clock) :
    (∃ o, step fin g.s (.tryAcquire task k c) = .ok o ∧ o.out = .tried (.ok ())) ↔
    (∃ o, stepPollNew fin g.s task k c' = .ok o ∧ o.out = .polled (.ready true)) :=
  try_iff_immediate_aux fin (reach_Inv_Balance h0 hr).1 task k c c'

/-- … and both happen exactly when the semaphore is open, enough permits are available and (fair)
nobody is queued -/
theorem try_succeeds_iff (fin : Nat → Bool) (s : SemState) (task k : Nat) (c : Clock) :
    (∃ o, step fin s (.tryAcquire task k c) = .ok o ∧ o.out = .tried (.ok ())) ↔
      0 < k ∧ s.closed = false ∧ (s.queue = [] ∨ s.fair = false) ∧ k ≤ s.avail :=
  (tryAcquire_ok_iff fin s task k c).trans (acquirePermits_ok_iff s k c)

example : (∃ o, step fin0 (SemState.new 2 true []) (.tryAcquire 1 2 []) = .ok o ∧ o.out = .tried (.ok ())) :=
  ⟨_, rfl, rfl⟩
example : ∃ o, stepPollNew fin0 (SemState.new 2 true []) 1 2 [] = .ok o ∧ o.out = .polled (.ready true) :=
  ⟨_, rfl, rfl⟩

/-- (a) under EVERY step (fair or not) the queue only loses entries and gains at most one, at the
back: the survivors keep their relative order, nobody is inserted in front of a queued waiter;
(b) fair: neither `try_acquire` nor a poll that takes permits itself succeeds while somebody is
queued — a later request, blocking or not, never overtakes;
(c) fair: after every step the head does not fit (`source_invariants_1_to_4`), i.e. a head that
fits has been granted within the same atomic step;
(d) fair: a `release` serves a PREFIX of the queue in queue order — each served waiter is either
granted exactly its request (task unblocked, waker woken) or discarded as stale — leaves the rest
untouched, and stops at the first waiter that does not fit. -/
theorem fair_fifo {n : Nat} {s0 : SemState} (h0 : Initial n s0) {g : G} (hr : Reach s0 g)
    (fin : Nat → Bool) :
    (∀ op o, step fin g.s op = .ok o → QueueEvolves g.s.queue o.s.queue) ∧
    (g.s.fair = true → g.s.queue ≠ [] →
      (∀ task k c o, step fin g.s (.tryAcquire task k c) = .ok o → o.out ≠ .tried (.ok ())) ∧
      (∀ task k c o, stepPollNew fin g.s task k c = .ok o → o.out ≠ .polled (.ready true)) ∧
      (∀ wid me cx c o w0, g.s.getW wid = some w0 → w0.hasPermits = false →
        step fin g.s (.poll wid me cx c) = .ok o → o.out ≠ .polled (.ready true))) ∧
    (g.s.fair = true → ∀ task k c o, 0 < k → step fin g.s (.release task k c) = .ok o →
      ∃ pre, g.s.queue = pre ++ o.s.queue ∧
        (∀ x ∈ pre, Served fin g.s o.s o.effs x) ∧
        (∀ x ∈ o.s.queue, o.s.getW x = g.s.getW x) ∧
        (∀ head rest w, o.s.queue = head :: rest → o.s.getW head = some w → o.s.avail < w.n)) := by
  have hi := (reach_Inv_Balance h0 hr).1
  refine ⟨fun op o h => step_queue fin hi h, ?_, ?_⟩
  · intro hf hne
    have hno : ∀ task k c, ¬ ∃ o, step fin g.s (.tryAcquire task k c) = .ok o ∧ o.out = .tried (.ok ()) := by
      intro task k c hex
      have := (try_succeeds_iff fin g.s task k c).mp hex
      rcases this.2.2.1 with h | h
      · exact hne h
      · rw [hf] at h; cases h
    refine ⟨fun task k c o h ho => hno task k c ⟨o, h, ho⟩, ?_, ?_⟩
    · intro task k c o h ho
      exact hno task k c ((try_iff_immediate h0 hr fin task k c c).mpr ⟨o, h, ho⟩)
    · intro wid me cx c o w0 hw hp h ho
      obtain ⟨hnc, po, hpp, rfl⟩ := step_poll hw h
      simp only [Out.polled.injEq] at ho
      rcases (pollPure_spec hi hw hnc hpp).facts.readyOk ho with h1 | h2
      · rw [hp] at h1; cases h1.1
      · exact hne (h2.2.2.2.2 hf)
  · intro hf task k c o hk h
    cases step_ok_iff.mp h with
    | releaseZero => cases hk
    | release => exact releasePure_fair_served fin k c hi hf

example : ∃ g, Reach (SemState.new 2 true []) g ∧ g.s.fair = true ∧ g.s.queue ≠ [] :=
  ⟨finalOf fin0 _ (opsFair.take 5), finalOf_reach (by decide), by decide, by decide⟩
/-- the release of the example serves both queued waiters, in order -/
example : effsOf fin0 (SemState.new 2 true []) opsFair =
    [[], [], [], [], [], [.joinClock 2 [2], .unblock 2, .wake 2, .joinClock 3 [2], .unblock 3, .wake 3]] := by
  decide

theorem order_prefix {pre rest A B C l : List Nat} {a b : Nat} (hnd : l.Nodup) (hl : l = pre ++ rest)
    (hord : l = A ++ a :: (B ++ b :: C)) (hb : b ∈ pre) : a ∈ pre := by
  subst hl
  have hbr : b ∉ rest := fun h => (List.nodup_append.mp hnd).2.2 b hb b h rfl
  rcases List.append_eq_append_iff.mp hord with ⟨a', _, h⟩ | ⟨c', hpre, h⟩
  · exact absurd (by rw [h]; simp) hbr
  · cases c' with
    | nil => exact absurd (by rw [← List.nil_append rest, ← h]; simp) hbr
    | cons x c' => rw [hpre, (List.cons.inj h).1]; simp

/-- no overtaking, spelled out: if `a` is queued before `b` in a strictly fair semaphore and a
`release` takes `b` out of the queue (grants it, or discards it as stale), it takes `a` out too -/
theorem fair_no_overtaking {n : Nat} {s0 : SemState} (h0 : Initial n s0) {g : G} (hr : Reach s0 g)
    (fin : Nat → Bool) (hf : g.s.fair = true) {task k : Nat} {c : Clock} {o : StepOut} (hk : 0 < k)
    (h : step fin g.s (.release task k c) = .ok o) {a b : Nat} {A B C : List Nat}
    (hord : g.s.queue = A ++ a :: (B ++ b :: C)) (hb : b ∉ o.s.queue) : a ∉ o.s.queue := by
  have hi := (reach_Inv_Balance h0 hr).1
  obtain ⟨pre, hp, _, _, _⟩ := (fair_fifo h0 hr fin).2.2 hf task k c o hk h
  have hbq : b ∈ g.s.queue := by rw [hord]; simp
  have hbpre : b ∈ pre := by
    rw [hp] at hbq
    rcases List.mem_append.mp hbq with h1 | h1
    · exact h1
    · exact absurd h1 hb
  have hapre : a ∈ pre := order_prefix hi.tq.nodupQ hp hord hbpre
  intro ha
  have hnd := hi.tq.nodupQ
  rw [hp, List.nodup_append] at hnd
  exact hnd.2.2 a hapre a ha rfl

/-- the amount an `Acquire` asks for never changes, and waiters only come from `Acquire::new`: a
property of the requested amounts that holds for every created waiter holds for the whole table -/
theorem request_amount_immutable {n : Nat} {s0 : SemState} (h0 : Initial n s0) {g : G}
    (hr : Reach s0 g) (P : Nat → Prop) (fin : Nat → Bool) {op : SemOp} {o : StepOut}
    (h : ∀ w ∈ g.s.table, P w.n) (hnew : ∀ task k c, op = .newAcq task k c → P k)
    (hs : step fin g.s op = .ok o) : ∀ w ∈ o.s.table, P w.n :=
  step_allN P fin (reach_Inv_Balance h0 hr).1 h hnew hs

/-- an unfair `release(k)` changes nothing but the permits, and unblocks (and wakes) exactly the
queued, unfinished waiters whose request fits the new number of available permits — all of them,
not only the head (they stay queued and race for the permits at their next poll) -/
theorem unfair_any_fitting_waiter_woken (fin : Nat → Bool) (s : SemState) (k : Nat) (c : Clock)
    (hf : s.fair = false) :
    (s.releasePure fin k c).1 = s.paRelease k c ∧
    ∀ e, e ∈ (s.releasePure fin k c).2 ↔
      ∃ wid ∈ s.queue, ∃ w, s.getW wid = some w ∧ w.n ≤ s.avail + k ∧ fin w.taskId = false ∧
        (e = Eff.unblock w.taskId ∨ ∃ t, w.waker = some t ∧ e = Eff.wake t) := by
  refine ⟨releasePure_unfair_state fin k c hf, fun e => ?_⟩
  rw [show (s.releasePure fin k c).2 = _ from
    congrArg Prod.snd (if_neg (c := (s.paRelease k c).fair = true) (Bool.eq_false_iff.mp hf))]
  refine mem_queueEffs (s := s.paRelease k c) (fun _ => rfl) fun w => ?_
  rw [List.mem_ite_nil_right, List.mem_ite_nil_left, Bool.not_eq_true, List.mem_append,
    List.mem_singleton]
  exact and_congr_right fun _ => and_congr_right fun _ => or_congr_right mem_wakeList

/-- `reblock_if_unfair` (run after every successful acquisition) blocks exactly the queued,
unfinished waiters that no longer fit -/
theorem unfair_losers_reblocked (fin : Nat → Bool) (s : SemState) (e : Eff) :
    e ∈ s.reblockEffs fin ↔
      s.fair = false ∧ ∃ wid ∈ s.queue, ∃ w, s.getW wid = some w ∧ s.avail < w.n ∧
        fin w.taskId = false ∧ e = Eff.block w.taskId := by
  unfold SemState.reblockEffs
  cases hf : s.fair with
  | true => simp
  | false =>
    rw [if_neg (by simp)]
    refine (mem_queueEffs (fun _ => rfl) fun w => ?_).trans (and_iff_right rfl).symm
    simp only [List.mem_ite_nil_right, List.mem_singleton, Bool.and_eq_true, decide_eq_true_eq,
      Bool.not_eq_eq_eq_not, Bool.not_true, and_assoc]

example : effsOf fin0 (SemState.new 0 false []) opsUnfair = [[], [], [.unblock 1, .wake 1]] := by decide
/-- the winner of the race re-blocks the loser: two waiters for one permit, waiter 1 polls first -/
example : effsOf fin0 (SemState.new 0 false [])
    [.newAcq 1 1 [], .poll 0 1 1 [], .newAcq 2 1 [], .poll 1 2 2 [], .release 3 1 [], .poll 1 2 2 []]
    = [[], [], [], [], [.unblock 1, .wake 1, .unblock 2, .wake 2], [.block 1]] := by decide

/-- `Drop for Acquire` in any reachable state: (a) the step (which is always defined, see
`no_internal_assertion_fails`) leaves no trace — the waiter is in neither queue nor table, so it cannot stay
`is_queued` —, keeps every invariant and the permit balance; (b) dropping the head of a strictly
fair semaphore serves the successors that now fit, in order, and re-establishes invariant (1):
the waiters behind it are never stranded; (c) dropping a granted but uncompleted acquisition hands
back exactly `w.n` permits through a full `release` (the wrapper's next step). -/
theorem cancel_safe {n : Nat} {s0 : SemState} (h0 : Initial n s0) {g : G} (hr : Reach s0 g)
    (fin : Nat → Bool) (task wid : Nat) :
    (∀ o, step fin g.s (.dropAcquire task wid) = .ok o →
      o.s.getW wid = none ∧ wid ∉ o.s.queue ∧ (∀ w ∈ o.s.table, w.wid ≠ wid) ∧ Inv o.s ∧
      o.s.avail + pend o.s.table + permitsOf (acquiredBy g.s (.dropAcquire task wid) o.out)
        = g.s.avail + pend g.s.table) ∧
    (∀ rest o, g.s.fair = true → g.s.queue = wid :: rest →
      step fin g.s (.dropAcquire task wid) = .ok o →
      o.out = .dropped 0 ∧ ∃ pre, rest = pre ++ o.s.queue ∧
        (∀ x ∈ pre, Served fin g.s o.s o.effs x) ∧
        (∀ head rest' w, o.s.queue = head :: rest' → o.s.getW head = some w → o.s.avail < w.n)) ∧
    (∀ w, g.s.getW wid = some w → w.hasPermits = true → w.completed = false →
      step fin g.s (.dropAcquire task wid) = .ok { s := g.s.dropW wid, out := .dropped w.n }) := by
  have hi := (reach_Inv_Balance h0 hr).1
  refine ⟨?_, ?_, ?_⟩
  · intro o h
    obtain ⟨h1, h2, h3⟩ := drop_no_trace fin hi h
    obtain ⟨h4, h5⟩ := step_spec fin hi h
    exact ⟨h1, h2, h3, h4, by simpa [releasedBy, permitsOf] using h5⟩
  · intro rest o hf hq h
    exact drop_fair_head fin hi hf hq h
  · intro w hw hp hc
    have hq : w.isQueued = false := Bool.eq_false_iff.mpr fun hq => by
      rw [(hi.tq.queuedOk w (tget_some_mem hw).1 hq).1] at hp; cases hp
    exact wpend_full hp hc ▸ step_ok_iff.mpr (.dropUnqueued hw hq)

/-- W0 (wants 2) heads the queue of a fair semaphore with 1 permit, W1 (wants 1) waits behind it;
dropping W0 grants W1 -/
example : ∃ g, Reach (SemState.new 1 true []) g ∧ g.s.fair = true ∧ g.s.queue = [0, 1] :=
  ⟨finalOf fin0 _ opsCancel, finalOf_reach (by decide), by decide, by decide⟩
example : effsOf fin0 (SemState.new 1 true []) (opsCancel ++ [.dropAcquire 1 0])
    = [[], [], [], [], [.joinClock 2 [], .unblock 2, .wake 2]] := by decide
/-- a granted, never completed acquisition gives its permit back when dropped -/
example : (finalOf fin0 (SemState.new 0 true [])
    [.newAcq 1 1 [], .poll 0 1 1 [], .release 2 1 [], .dropAcquire 1 0, .release 1 1 []]).s.avail = 1 := by
  decide

/-- after `close`: the semaphore is closed and the queue empty; every queued waiter's task was
unblocked (unless finished) and its waker woken; `closed` is permanent; on a closed semaphore
every `try_acquire` fails with `Closed` and every poll returns `Ready(Err)` — unless the permits
had already been granted, then `Ready(Ok)` — without touching `avail`, and never panics. -/
theorem close_fails_all {n : Nat} {s0 : SemState} (h0 : Initial n s0) {g : G} (hr : Reach s0 g)
    (fin : Nat → Bool) :
    ((g.s.closePure fin).1.closed = true ∧ (g.s.closePure fin).1.queue = [] ∧
      (g.s.closed = false → ∀ wid ∈ g.s.queue, ∃ w, g.s.getW wid = some w ∧
        (fin w.taskId = false → Eff.unblock w.taskId ∈ (g.s.closePure fin).2) ∧
        (∃ t, w.waker = some t ∧ Eff.wake t ∈ (g.s.closePure fin).2))) ∧
    (g.s.closed = true →
      (∀ op o, step fin g.s op = .ok o → o.s.closed = true) ∧
      (∀ task k c, 0 < k →
        step fin g.s (.tryAcquire task k c) = .ok { s := g.s, out := .tried (.error .closed) }) ∧
      (∀ wid me cx c w0, g.s.getW wid = some w0 → w0.completed = false →
        ∃ o, step fin g.s (.poll wid me cx c) = .ok o ∧ o.out = .polled (.ready w0.hasPermits) ∧
          o.s.avail = g.s.avail)) := by
  have hi := (reach_Inv_Balance h0 hr).1
  obtain ⟨_, _, _, hc, hq⟩ := closePure_spec fin hi
  refine ⟨⟨hc, hq, ?_⟩, ?_⟩
  · intro hnc wid hm
    obtain ⟨w, hw, hwq⟩ := hi.tq.tget_of_mem_queue hm
    rw [← getW_eq] at hw
    have hwk := (hi.tq.queuedOk w (tget_some_mem hw).1 hwq).2.2.1
    refine ⟨w, hw, ?_, ?_⟩
    · intro hfin
      exact (mem_closePure_effs fin hnc _).mpr ⟨wid, hm, w, hw, Or.inl ⟨hfin, rfl⟩⟩
    · cases hwk' : w.waker with
      | none => rw [hwk'] at hwk; cases hwk
      | some t => exact ⟨t, rfl, (mem_closePure_effs fin hnc _).mpr ⟨wid, hm, w, hw, Or.inr ⟨t, hwk', rfl⟩⟩⟩
  · intro hcl
    refine ⟨fun op o h => step_closed_mono fin hi h hcl,
      fun task k c hk => ?_, fun wid me cx c w0 hw hnc => poll_closed fin hi hcl hw hnc⟩
    have := acquirePermits_spec g.s k c
    split at this
    · exact absurd this (Nat.ne_of_gt hk)
    · next e => exact step_ok_iff.mpr (.tryErr e)
    · rw [hcl] at this; cases this.2.1
    · rw [hcl] at this; cases this.2.1

example : ∃ g, Reach (SemState.new 0 true []) g ∧ g.s.closed = true ∧ g.s.queue = [] ∧
    g.s.table.length = 1 :=
  ⟨finalOf fin0 _ opsClose, finalOf_reach (by decide), by decide, by decide, by decide⟩
example : effsOf fin0 (SemState.new 0 true []) opsClose = [[], [], [.unblock 1, .wake 1]] := by decide

/-- The poisoning `release` (a guard dropped while `should_stop()`) also closes the semaphore and
empties the queue, but — unlike `close` — performs NO kernel effect: the pending acquisitions are
neither failed nor woken, their tasks stay blocked (known finding F11; the source says "we should
not unblock the threads at this point").  So "close fails every pending acquisition" holds for
`close` only. -/
theorem poison_release_wakes_nobody {n : Nat} {s0 : SemState} (h0 : Initial n s0) {g : G}
    (hr : Reach s0 g) (fin : Nat → Bool) (task k : Nat) (hk : 0 < k) :
    ∃ o, step fin g.s (.poisonRelease task k) = .ok o ∧ o.effs = [] ∧ o.s.closed = true ∧
      o.s.queue = [] ∧ o.s.avail = g.s.avail + k := by
  have hi := (reach_Inv_Balance h0 hr).1
  refine ⟨_, step_ok_iff.mpr (.poison (by omega)), rfl, (releasePoison_spec k hi).2.2.1,
    (releasePoison_spec k hi).2.2.2, ?_⟩
  · rw [releasePoison_eq]
    have cs := clear_spec (fun w => { w with isQueued := false })
      (fun w => ⟨rfl, rfl, rfl⟩) (g.s.paRelease k Clock.new).queue (g.s.paRelease k Clock.new)
      g.s.nextWid hi.tq
    exact cs.avail

/-- a queued waiter, then a poisoning release: nobody is woken, the waiter is simply forgotten -/
example : effsOf fin0 (SemState.new 0 true []) [.newAcq 1 1 [], .poll 0 1 1 [], .poisonRelease 2 1]
    = [[], [], []] := by decide

/-- a poll that returns `Pending` (re)points the waiter at the polling task `me` and at the waker
`cx` it was given; and when a waiter of an unfinished task is served (`Served`, see `fair_fifo`,
`cancel_safe`) it is granted, and the effects contain the unblock of `w.taskId` and the wake of
`w.waker` of the waiter's table entry at that moment — i.e. the values stored by the latest poll.
(Membership only: nothing here excludes further unblocks or wakes among the effects.) -/
theorem wakes_current_poller {n : Nat} {s0 : SemState} (h0 : Initial n s0) {g : G} (hr : Reach s0 g)
    (fin : Nat → Bool) :
    (∀ wid me cx c o w0, g.s.getW wid = some w0 → step fin g.s (.poll wid me cx c) = .ok o →
      o.out = .polled .pending →
      ∃ w', o.s.getW wid = some w' ∧ w'.isQueued = true ∧ wid ∈ o.s.queue ∧
        w'.taskId = me ∧ w'.waker = some cx ∧ w'.n = w0.n) ∧
    (∀ (r : SemState) (effs : List Eff) (wid : Nat) (w : Waiter),
      g.s.getW wid = some w → fin w.taskId = false → Served fin g.s r effs wid →
      Eff.unblock w.taskId ∈ effs ∧ (∀ t, w.waker = some t → Eff.wake t ∈ effs) ∧
      r.getW wid = some (grantedW w)) := by
  have hi := (reach_Inv_Balance h0 hr).1
  constructor
  · intro wid me cx c o w0 hw h ho
    obtain ⟨hnc, po, hpp, rfl⟩ := step_poll hw h
    simp only [Out.polled.injEq] at ho
    obtain ⟨w', h1, h2, h3, h4, h5, _, h7⟩ := (pollPure_spec hi hw hnc hpp).facts.pending ho
    exact ⟨w', h1, h2, h7, h3, h4, h5⟩
  · intro r effs wid w hw hfin hs
    cases hs with
    | stale w' hw' hf' _ => rw [hw] at hw'; cases hw'; rw [hfin] at hf'; cases hf'
    | granted w' hw' hf' hr' hu hwk => rw [hw] at hw'; cases hw'; exact ⟨hu, hwk, hr'⟩

/-- … and nobody else touches a waiter while it stays queued: after any step other than a poll of
this very `Acquire`, a waiter that is still in the queue has exactly the table entry it had
before — so at the moment it is granted, `task_id` / `waker` are those of its latest poll. -/
theorem waiter_untouched_by_others {n : Nat} {s0 : SemState} (h0 : Initial n s0) {g : G}
    (hr : Reach s0 g) (fin : Nat → Bool) {op : SemOp} {o : StepOut} (h : step fin g.s op = .ok o)
    {wid : Nat} {w : Waiter} (hw : g.s.getW wid = some w) (hq : wid ∈ o.s.queue)
    (hop : ∀ me cx c, op ≠ .poll wid me cx c) : o.s.getW wid = some w :=
  step_frame_queued fin (reach_Inv_Balance h0 hr).1 h hw hq hop

/-- task 2 polls an `Acquire` created by task 1: the waiter follows the poller -/
example : (finalOf fin0 (SemState.new 0 true []) [.newAcq 1 1 [], .poll 0 1 1 [], .poll 0 2 2 []]).s.table.map
    (fun w => (w.taskId, w.waker)) = [(2, some 2)] := by decide
example : effsOf fin0 (SemState.new 0 true [])
    [.newAcq 1 1 [], .poll 0 1 1 [], .poll 0 2 2 [], .release 3 1 []]
    = [[], [], [], [.joinClock 2 [], .unblock 2, .wake 2]] := by decide

/-- In every reachable state: (a) a waiter that is not queued has no waker registered unless it
holds permits, is completed, or the semaphore is closed (`assert_eq!(is_queued, waker.is_some())`
of `Acquire::poll`, together with `source_invariants_1_to_4`); (b) every operation of the client is
defined — none of the `assert!`/`expect`/`unreachable!` of `poll`, `remove_waiter`,
`unblock_waiters_from_front`, `close` can fail — with the single exception of
`assert!(num_permits > 0)` in `acquire_permits` (`try_acquire(0)`, or polling `acquire(0)` on an
open semaphore), and of polling an `Acquire` that is completed or gone (excluded by `&mut self` /
`assert!(!self.completed)`). -/
theorem no_internal_assertion_fails {n : Nat} {s0 : SemState} (h0 : Initial n s0) {g : G}
    (hr : Reach s0 g) (fin : Nat → Bool) :
    (∀ w ∈ g.s.table, w.isQueued = false →
      w.waker = none ∨ w.hasPermits = true ∨ w.completed = true ∨ g.s.closed = true) ∧
    (∀ task k c, 0 < k → ∃ o, step fin g.s (.tryAcquire task k c) = .ok o) ∧
    (∀ wid me cx c w0, g.s.getW wid = some w0 → w0.completed = false →
      (0 < w0.n ∨ w0.hasPermits = true ∨ g.s.closed = true) →
      ∃ o, step fin g.s (.poll wid me cx c) = .ok o) ∧
    (∀ task wid, ∃ o, step fin g.s (.dropAcquire task wid) = .ok o) ∧
    (∀ task k c, ∃ o, step fin g.s (.release task k c) = .ok o) ∧
    (∀ task k, ∃ o, step fin g.s (.poisonRelease task k) = .ok o) ∧
    (∃ o, step fin g.s .close = .ok o) ∧
    (∀ task k c, ∃ o, step fin g.s (.newAcq task k c) = .ok o) := by
  have hi := reach_WakerInv h0 hr
  refine ⟨fun w hw hq => hi.wok w hw (by simp) hq,
    fun task k c hk => step_progress fin hi (.tryAcquire task k c) hk,
    fun wid me cx c w0 hw hnc hn => step_progress fin hi (.poll wid me cx c) ⟨w0, hw, hnc, hn⟩,
    fun task wid => step_progress fin hi (.dropAcquire task wid) trivial,
    fun task k c => step_progress fin hi (.release task k c) trivial,
    fun task k => step_progress fin hi (.poisonRelease task k) trivial,
    step_progress fin hi .close trivial,
    fun task k c => step_progress fin hi (.newAcq task k c) trivial⟩

/-- the one assertion that CAN fail: `try_acquire(0)` panics (the std/tokio semaphores accept 0) -/
theorem try_acquire_zero_panics (fin : Nat → Bool) (s : SemState) (task : Nat) (c : Clock) :
    step fin s (.tryAcquire task 0 c) = .error "assertion failed: num_permits > 0" := rfl

example : ∃ g, Reach (SemState.new 2 true []) g ∧ g.s.queue = [0, 1] ∧
    (∃ o, step fin0 g.s (.dropAcquire 2 0) = .ok o) :=
  ⟨finalOf fin0 _ (opsFair.take 5), finalOf_reach (by decide), by decide, _, rfl⟩

/-- Where the scheduling points of the `Prog` wrappers are: `try_acquire`, `release`, `close` are
ONE `thread::switch()` followed by a body without scheduling point; `Acquire::new` has none;
`Acquire::poll` reads the state, yields at most once, and then runs `Sem.pollBody` — i.e.
`SemState.pollPure` on the state it re-reads, followed by the kernel effects — without scheduling
point. A switch-free body runs inside one segment (`runSegment_switchFree`); `SemLts.step` models
these bodies as the steps `tryAcquire` / `release` / `poisonRelease` / `close` / `newAcq` / `poll`
(a correspondence by reading the two definitions side by side: no theorem relates them). -/
theorem wrappers_atomic_granularity {U : Type} (L : Lens U SemState) :
    (∀ k, Sem.tryAcquire L k = Prog.op .switch (fun _ => Sem.tryAcquireBody L k) ∧
      (Sem.tryAcquireBody L k).SwitchFree) ∧
    (∀ k, Sem.release L k = Prog.op .switch (fun _ => Sem.releaseBody L k) ∧
      (Sem.releaseBody L k).SwitchFree) ∧
    (Sem.close L = Prog.op .switch (fun _ => Sem.closeNoSwitch L) ∧ (Sem.closeNoSwitch L).SwitchFree) ∧
    (∀ k, (Sem.newAcquire L k).SwitchFree) ∧
    (∀ wid cx, (Sem.pollBody L wid cx).SwitchFree ∧
      Sem.poll L wid cx = (do
        let s ← K.getL L
        match s.getW wid with
        | none => K.panic "poll: unknown Acquire"
        | some w =>
          if w.completed then K.panic "assertion failed: !self.completed"
          else if w.neverPolled && ((w.hasPermits || s.closed || s.avail ≥ w.n) || s.fair)
            then Prog.op .switch (fun _ => Sem.pollBody L wid cx)
            else Sem.pollBody L wid cx)) :=
  ⟨fun k => ⟨Sem.tryAcquire_eq L k, Sem.tryAcquireBody_switchFree L k⟩,
   fun k => ⟨Sem.release_eq L k, Sem.releaseBody_switchFree L k⟩,
   ⟨Sem.close_eq L, Sem.closeNoSwitch_switchFree L⟩,
   fun k => Sem.newAcquire_switchFree L k,
   fun wid cx => ⟨Sem.pollBody_switchFree L wid cx, Sem.poll_eq L wid cx⟩⟩

end C18
end ShuttleModel

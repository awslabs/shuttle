import ShuttleProofs.Lemmas.KernelExamples

/-!
# C13 — step bounds (`MaxSteps::FailAfter(n)` / `MaxSteps::ContinueAfter(n)`)

Model: `ShuttleModel/Kernel.lean`; vocabulary as in `ShuttleProofs/C08.lean`.  `boundOf ms = some n` means
`ms = .failAfter n ∨ ms = .continueAfter n`.  The bound compares `CurrentSchedule::len() - steps_reset_at`
(`k.schedLen - k.stepsResetAt`) with `n` **only inside `schedule()`**.

The informal property "an execution never performs more than `n` steps, random draws included" is **false** in
the code (and in the model): `ExecutionState::next_u64` pushes a `.random` step without looking at the bound.
`steps_overshoot_witness` exhibits it; `steps_total_bound_partial` is the exact true statement.
-/

namespace ShuttleProofs.C13
open ShuttleModel ShuttleProofs.Kernel

variable {P : Program} {σ : Type}

/-- **no_decision_beyond_bound**: whenever the scheduler is consulted, fewer than `n` steps have been recorded
since the last `reset_step_count`. -/
theorem no_decision_beyond_bound {S : Scheduler σ} {segFuel : Nat} {ms : MaxSteps} {n : Nat}
    {st0 st : ExecState P σ} {ev : Ev} (h0 : LoopInv ms st0) (hb : boundOf ms = some n)
    (h : Decision S segFuel st0 st ev) : st.k.schedLen - st.k.stepsResetAt < n :=
  h.consults.bound.lt (by rw [(h.inv h0).maxSteps]; exact hb)

/-- the same for the executions of `execute` -/
theorem no_decision_beyond_bound_exec (P : Program) (S : Scheduler σ) (ms : MaxSteps) (n : Nat)
    (hb : boundOf ms = some n) (seed : Nat) (s : σ) (fuel segFuel : Nat)
    (off : List Nat) (cur : Option Nat) (y : Bool) (ch : Option Nat)
    (h : .dec off cur y ch ∈ (execute P S ms seed s fuel segFuel).st.log.toList) :
    ∃ st, Decision S segFuel (initState P ms seed s) st (.dec off cur y ch) ∧
      st.k.schedLen - st.k.stepsResetAt < n := by
  rw [execute_eq] at h
  rcases runLoop_dec_origin S segFuel fuel ms _ (LoopInv.init P ms seed s) _ h rfl with h | ⟨st, h⟩
  · simp [initState] at h
  · exact ⟨st, h, no_decision_beyond_bound (LoopInv.init P ms seed s) hb h⟩

/-- **fail_after_outcome** (iteration form, `FailAfter`): if `schedule()` is entered with the bound reached,
the loop ends at once with `stepBoundFail n`: no consultation, no further segment, log and schedule unchanged. -/
theorem fail_after_iter {ms : MaxSteps} (S : Scheduler σ) (segFuel : Nat) {st : ExecState P σ} {n : Nat}
    (hi : LoopInv ms st) (hm : ms = .failAfter n) (he : n ≤ st.k.schedLen - st.k.stepsResetAt) :
    ∃ st', loopStep S segFuel st = .inl ⟨.stepBoundFail n, st'⟩ ∧ st'.log = st.log ∧
      st'.k.schedRev = st.k.schedRev ∧ st'.k.tasks = st.k.tasks :=
  ⟨_, loopStep_boundFail S segFuel hi.next hi.conts (by rw [hi.maxSteps, hm])
    ((stepBoundExceeded_iff _ _).mpr he), rfl, rfl, rfl⟩

/-- **fail_after_outcome** (iteration form, `ContinueAfter`): same, with the silent outcome `abandoned`. -/
theorem continue_after_iter {ms : MaxSteps} (S : Scheduler σ) (segFuel : Nat) {st : ExecState P σ} {n : Nat}
    (hi : LoopInv ms st) (hm : ms = .continueAfter n) (he : n ≤ st.k.schedLen - st.k.stepsResetAt) :
    ∃ st', loopStep S segFuel st = .inl ⟨.abandoned, st'⟩ ∧ st'.log = st.log ∧
      st'.k.schedRev = st.k.schedRev ∧ st'.k.tasks = st.k.tasks ∧ st'.k.current = .stopped :=
  ⟨_, loopStep_boundStop S segFuel hi.next hi.conts (by rw [hi.maxSteps, hm])
    ((stepBoundExceeded_iff _ _).mpr he), rfl, rfl, rfl, rfl⟩

/-- **fail_after_outcome** (execution form): the outcome `stepBoundFail m` arises only under `FailAfter m`,
only with the bound reached in the final state; `abandoned` only under `ContinueAfter m`, likewise.  (The final
state's schedule and `steps_reset_at` are those `schedule()` saw.) -/
theorem bound_outcomes (P : Program) (S : Scheduler σ) (ms : MaxSteps) (seed : Nat) (s : σ)
    (fuel segFuel : Nat) :
    let r := execute P S ms seed s fuel segFuel
    (∀ m, r.outcome = .stepBoundFail m → ms = .failAfter m ∧ m ≤ r.st.k.schedLen - r.st.k.stepsResetAt) ∧
    (r.outcome = .abandoned → ∃ m, ms = .continueAfter m ∧ m ≤ r.st.k.schedLen - r.st.k.stepsResetAt) := by
  obtain ⟨stf, _, hi, hf⟩ := execute_final P S ms seed s fuel segFuel
  have hv := hf.verdict
  refine ⟨fun m hm => ?_, fun hm => ?_⟩ <;> rw [hm] at hv
  · obtain ⟨h1, h2, hst⟩ := hv
    rw [hst]
    exact ⟨hi.maxSteps.symm.trans h1, (stepBoundExceeded_iff stf.k m).mp h2⟩
  · obtain ⟨n, h1, h2, hst⟩ := hv
    rw [hst]
    exact ⟨n, hi.maxSteps.symm.trans h1, (stepBoundExceeded_iff stf.k n).mp h2⟩

/-- **fail_after_outcome**, converse: if a loop head with the bound reached is reached after `m` iterations,
every run with more than `m` units of loop fuel ends there with `stepBoundFail n` (resp. `abandoned`). -/
theorem bound_hit_ends (P : Program) (S : Scheduler σ) (ms : MaxSteps) (n : Nat) (hb : boundOf ms = some n)
    (seed : Nat) (s : σ) (segFuel m : Nat) (st : ExecState P σ)
    (hr : ReachN S segFuel m (initState P ms seed s) st) (he : n ≤ st.k.schedLen - st.k.stepsResetAt)
    (fuel : Nat) (hfuel : m < fuel) :
    (execute P S ms seed s fuel segFuel).outcome = (match ms with | .failAfter _ => .stepBoundFail n | _ => .abandoned) ∧
      (execute P S ms seed s fuel segFuel).st.log = st.log := by
  have hi : LoopInv ms st := (LoopInv.init P ms seed s).reach ⟨m, hr⟩
  rw [execute_eq]
  cases ms with
  | none => cases hb
  | failAfter n' =>
    cases hb
    obtain ⟨st', h1, h2, _⟩ := fail_after_iter S segFuel hi rfl he
    rw [runLoop_of_reach hr h1 fuel hfuel]
    exact ⟨rfl, h2⟩
  | continueAfter n' =>
    cases hb
    obtain ⟨st', h1, h2, _⟩ := continue_after_iter S segFuel hi rfl he
    rw [runLoop_of_reach hr h1 fuel hfuel]
    exact ⟨rfl, h2⟩

/-- **below_bound_unaffected**, kernel form: when the bound is not reached, `schedule()` under
`FailAfter n`/`ContinueAfter n` answers exactly as it does with `MaxSteps::None` (same kernel up to the
configuration field). -/
theorem schedule_below_bound (S : Scheduler σ) (ms : MaxSteps) (n : Nat) (hb : boundOf ms = some n)
    (k : Kernel) (s : σ) (hk : k.maxSteps = .none) (hlt : k.schedLen - k.stepsResetAt < n) :
    (withMS ms k).schedule S s = stepMS ms (k.schedule S s) := by
  apply schedule_withMS S ms k s hk
  intro n' hn'
  rw [hb] at hn'
  cases hn'
  exact (stepBoundExceeded_eq_false_iff k n).mpr hlt

/-- **below_bound_unaffected**: if every loop head of the execution *without* a bound stays below `n` recorded
steps (since the last reset), then the execution under `FailAfter n` / `ContinueAfter n` — same program,
scheduler, seed, fuel — is the same execution: same outcome, same log, same final state up to the `maxSteps`
configuration field (in particular the same recorded schedule). -/
theorem below_bound_unaffected (P : Program) (S : Scheduler σ) (ms : MaxSteps) (n : Nat)
    (hb : boundOf ms = some n) (seed : Nat) (s : σ) (fuel segFuel : Nat)
    (hbelow : ∀ st, Reach S segFuel (initState P .none seed s) st → st.k.schedLen - st.k.stepsResetAt < n) :
    (execute P S ms seed s fuel segFuel).outcome = (execute P S .none seed s fuel segFuel).outcome ∧
    (execute P S ms seed s fuel segFuel).st.log = (execute P S .none seed s fuel segFuel).st.log ∧
    (execute P S ms seed s fuel segFuel).st.k.schedule_ = (execute P S .none seed s fuel segFuel).st.k.schedule_ ∧
    (execute P S ms seed s fuel segFuel).st = stMS ms (execute P S .none seed s fuel segFuel).st := by
  have h0 : initState P ms seed s = stMS ms (initState P .none seed s) := rfl
  have key : execute P S ms seed s fuel segFuel = resMS ms (execute P S .none seed s fuel segFuel) := by
    rw [execute_eq, execute_eq, h0]
    apply runLoop_stMS S segFuel ms fuel _ (LoopInv.init P .none seed s)
    intro st' hr n' hn'
    rw [hb] at hn'
    cases hn'
    exact (stepBoundExceeded_eq_false_iff st'.k n).mpr (hbelow st' hr)
  rw [key]
  exact ⟨rfl, rfl, rfl, rfl⟩

/-- **steps_total_bound_partial** — what is true of "never more than `n` steps, draws included" (false as stated:
`steps_overshoot_witness`).  For every iteration that continues (`a` → `b`): the consultation in `a` happened
strictly below the bound, and the recorded schedule of `b` is that of `a` plus the chosen `.task t` plus only
`.random` steps (pushed by `next_u64` inside the segment, which never checks the bound). -/
theorem steps_total_bound_partial {S : Scheduler σ} {segFuel : Nat} {ms : MaxSteps} {n : Nat}
    {a b : ExecState P σ} (hi : LoopInv ms a) (hb : boundOf ms = some n) (h : loopStep S segFuel a = .inr b) :
    a.k.schedLen - a.k.stepsResetAt < n ∧
      ∃ t rs, b.k.schedule_ = a.k.schedule_ ++ .task t :: rs ∧ ∀ x ∈ rs, x = .random := by
  obtain ⟨hbd, t, rs, hs, hr, _⟩ := iter_schedule_growth hi h
  refine ⟨hbd.lt (by rw [hi.maxSteps]; exact hb), t, rs.reverse, ?_, ?_⟩
  · simp [Kernel.schedule_, hs]
  · intro x hx; exact hr x (List.mem_reverse.mp hx)

/-- **steps_overshoot_witness**: ten `next_u64` in a row under `FailAfter 5`: the run fails with
`stepBoundFail 5` only at the *next* `schedule()`, with 11 recorded steps. -/
theorem steps_overshoot_witness :
    (execute exRand10 firstSched (.failAfter 5) 0 () 20 20).outcome = .stepBoundFail 5 ∧
    (execute exRand10 firstSched (.failAfter 5) 0 () 20 20).st.k.schedule_.length = 11 ∧
    (execute exRand10 firstSched (.failAfter 5) 0 () 20 20).st.k.stepsResetAt = 0 := by decide

/-- **terminates_under_bound**: under a bound `n`, a program that never calls `reset_step_count` (neither in
its task bodies nor while unwinding) consults the scheduler at most `n` times in any execution … -/
theorem terminates_under_bound (P : Program) (hP : NoReset P) (S : Scheduler σ) (ms : MaxSteps) (n : Nat)
    (hb : boundOf ms = some n) (seed : Nat) (s : σ) (fuel segFuel : Nat) :
    decCount (execute P S ms seed s fuel segFuel).st.log.toList ≤ n := by
  obtain ⟨stf, hr, hi, hf⟩ := execute_final P S ms seed s fuel segFuel
  exact ((BoundInv.init hP ms seed s n).reach hP hb (LoopInv.init P ms seed s) hr).final hb hi hf

/-- … so the recorded schedule contains at most `n` `.task` steps (its `.random` steps are not bounded, see
`steps_overshoot_witness`) … -/
theorem task_steps_le_bound (P : Program) (hP : NoReset P) (S : Scheduler σ) (ms : MaxSteps) (n : Nat)
    (hb : boundOf ms = some n) (seed : Nat) (s : σ) (fuel segFuel : Nat) :
    taskCount (execute P S ms seed s fuel segFuel).st.k.schedule_ ≤ n := by
  have h1 := terminates_under_bound P hP S ms n hb seed s fuel segFuel
  have h2 := taskCount_logSteps_le (execute P S ms seed s fuel segFuel).st.log.toList
  obtain ⟨stf, _, hi, hf⟩ := execute_final P S ms seed s fuel segFuel
  rcases hf.record hi with h | ⟨_, _, h⟩
  · rw [h]; omega
  · rw [h, taskCount_append]
    have : taskCount [SStep.random] = 0 := rfl
    omega

/-- … hence the loop performs at most `n` continuing iterations, and `n + 1` units of loop fuel always suffice:
the result is produced by a terminal iteration (`outOfFuel` can then only come from the segment fuel). -/
theorem terminates_under_bound_iterations (P : Program) (hP : NoReset P) (S : Scheduler σ) (ms : MaxSteps)
    (n : Nat) (hb : boundOf ms = some n) (seed : Nat) (s : σ) (segFuel : Nat) :
    (∀ m st, ReachN S segFuel m (initState P ms seed s) st → m ≤ n) ∧
    ∀ fuel, n < fuel → ∃ stf, Reach S segFuel (initState P ms seed s) stf ∧
      loopStep S segFuel stf = .inl (execute P S ms seed s fuel segFuel) := by
  have hcount : ∀ m st, ReachN S segFuel m (initState P ms seed s) st → m ≤ n := by
    intro m st hr
    -- `m` iterations have logged `m` consultations, and `BoundInv` allows at most `n`
    have h2 := ((BoundInv.init hP ms seed s n).reach hP hb (LoopInv.init P ms seed s) ⟨m, hr⟩).decs
    rw [hr.decCount (LoopInv.init P ms seed s)] at h2
    omega
  refine ⟨hcount, ?_⟩
  intro fuel hfuel
  rw [execute_eq]
  obtain ⟨m, stf, hr, hc⟩ := runLoop_reach S segFuel fuel (initState P ms seed s)
  rcases hc with ⟨h1, _⟩ | ⟨_, h2⟩
  · have := hcount m stf hr
    omega
  · exact ⟨stf, ⟨m, hr⟩, h2⟩

/-- a spin loop of 10 switches under a bound of 5: exactly 5 consultations, then the verdict -/
example :
    (execute (exSpin 10) firstSched (.failAfter 5) 0 () 20 20).outcome = .stepBoundFail 5 ∧
    decCount (execute (exSpin 10) firstSched (.failAfter 5) 0 () 20 20).st.log.toList = 5 ∧
    (execute (exSpin 10) firstSched (.continueAfter 5) 0 () 20 20).outcome = .abandoned ∧
    (execute (exSpin 3) firstSched (.failAfter 5) 0 () 20 20).outcome = .ok := by decide

example : NoReset (exSpin 10) := by
  have hs : ∀ n, Never (P := exSpin 10) isReset (spin n) := by
    intro n
    induction n with
    | zero => exact Never.pure
    | succ n ih => exact Never.op _ _ rfl (fun _ => ih)
  exact ⟨fun _ => hs 10, fun _ => Never.pure⟩

/-- three switches under a bound of 5: same outcome and log as without a bound -/
example :
    (execute (exSpin 3) firstSched (.failAfter 5) 0 () 20 20).outcome =
      (execute (exSpin 3) firstSched .none 0 () 20 20).outcome ∧
    (execute (exSpin 3) firstSched (.failAfter 5) 0 () 20 20).st.log.toList =
      (execute (exSpin 3) firstSched .none 0 () 20 20).st.log.toList ∧
    (execute (exSpin 3) firstSched .none 0 () 20 20).st.k.schedLen = 4 := by decide

example : boundOf (.failAfter 5) = some 5 ∧ boundOf (.continueAfter 5) = some 5 := ⟨rfl, rfl⟩

end ShuttleProofs.C13

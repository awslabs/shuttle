import ShuttleModel.Lang
import ShuttleProofs.Lemmas.RunnerIso
import ShuttleProofs.Lemmas.Continuation
import ShuttleProofs.Lemmas.KernelExamples

/-!
# C14 — every execution of a run starts from the same initial world

Model: `execute` (`Execution::run`, Kernel.lean) builds a fresh `Kernel` and takes the shared state from
`P.init`; `runner` (`Runner::run`, Runner.lean) threads only the scheduler state from one execution to the next.
`ShuttleModel/Continuation.lean` is the life-cycle of the one other thing the real `Runner::run` shares between
executions: the `ContinuationPool`.

## Not covered (process-global state outside the model)

* **The OS thread's std panic count — known defect F19.**  `std::thread::panicking()` is a per-OS-thread counter
  owned by std.  An execution that ends while a task is suspended in the middle of unwinding (a destructor reached
  `thread::switch()` during a panic, then another task failed the execution) never finishes that unwinding: cleanup
  `force_reset`/`force_unwind`s the coroutine and the count stays raised, so `panicking()` — hence
  `ExecutionState::should_stop()` and every `Drop` impl that consults it — is `true` in every later execution and
  `Runner::run` on that OS thread.  Witness: /verif/corpus/C14/f19_panic_count_leak.vp (`f19_b` is correct alone and
  "deadlocks" after `f19_a`).  In the model `Kernel.panicking` is a field of the fresh kernel (`none` by
  `fresh_world`): the model describes what the property asks for, not the real behaviour; the differential check
  for C14 is what exposes F19.
* **`LABELS` / `TASK_ID_TO_TAGS`** (not modelled) — `thread_local!`s of the OS thread, cleared by
  `ExecutionState::cleanup()`, which is skipped when `Execution::run` leaves by a panic: a caller that catches the
  panic and starts another run on the same thread sees the old entries until that run's first `cleanup()`
  (`set_labels_for_new_task` overwrites per task id, so ids the new execution does not reach keep stale labels).
* **`CURRENT_SCHEDULE`** — re-initialised by `CurrentSchedule::init` at the start of `Execution::run`
  (modelled: `schedRev = []`, `seed`).
* **The panic hook and `SCHEDULE_PERSISTED_AT`** (F5/F6, property C12), `UNGRACEFUL_SHUTDOWN_CONFIG`
  (set per execution), tracing spans (`ResetSpanOnDrop`).
* **The real continuation pool's stacks**: `Continuation.lean` models which continuations are pooled and what
  happens to their closures, not the memory of a recycled coroutine stack (that nothing of the previous function's
  frames is live in states `NotReady`/`FinishedIteration` is corosensei's guarantee), nor the TODO at
  continuation.rs:240 (a recycled stack may be smaller than the `stack_size` requested).
* `runner` does not model `max_time`.
-/

namespace ShuttleProofs.C14
open ShuttleModel ShuttleProofs.Kernel ShuttleProofs.RunnerIso

variable {σ : Type}

/-- **fresh_world.**  `Execution::run` enters its loop in a state that is a function of `(P, maxSteps, seed, s)`
alone: one task — id 0, runnable, attached, no park token, no waiter, no parent, clock `[0]` (what
`spawn_main_thread` builds) —, no current or next task, no pending yield request, zero context switches, step counter
origin zero, an empty recorded schedule carrying the execution's seed, nobody panicking, the shared state `P.init`,
the single continuation `P.bodies 0`, an empty event log, and the scheduler state it was handed. -/
theorem fresh_world (P : Program) (S : Scheduler σ) (ms : MaxSteps) (seed : Nat) (s : σ) (fuel segFuel : Nat) :
    ∃ st0 : ExecState P σ,
      execute P S ms seed s fuel segFuel = runLoop S segFuel fuel st0 ∧
      st0.k.tasks = [{ state := .runnable, detached := false, tokenAvail := false, blockedInPark := false,
                       woken := false, waiter := none, clock := Clock.ofList [0], parent := none }] ∧
      (({ seed := seed, maxSteps := ms } : Kernel).spawnTask none).1 = 0 ∧
      st0.k.current = .none ∧ st0.k.next = .none ∧ st0.k.hasYielded = false ∧
      st0.k.ctxSwitches = 0 ∧ st0.k.stepsResetAt = 0 ∧
      st0.k.schedRev = [] ∧ st0.k.seed = seed ∧ st0.k.maxSteps = ms ∧
      st0.k.panicking = none ∧ st0.k.alsoPanicking = [] ∧
      st0.u = P.init ∧ st0.conts = [P.bodies 0] ∧ st0.log = #[] ∧ st0.sch = s :=
  ⟨initState P ms seed s, execute_eq P S ms seed s fuel segFuel, rfl, rfl, rfl, rfl, rfl, rfl, rfl, rfl, rfl, rfl,
    rfl, rfl, rfl, rfl, rfl, rfl⟩

example : (execute exP firstSched .none 5 () 20 20).outcome = .ok ∧
    (initState exP (σ := Unit) .none 5 ()).k.tasks.length = 1 := by decide

/-- **runner_iteration_eq_standalone.**  In `Runner::run` the `i`-th execution (0-based) is *equal* — outcome,
final kernel, final shared state, event log, final scheduler state — to a stand-alone
`Execution::run(P, scheduler, maxSteps)` started with the seed and scheduler state that `new_execution` returned
from the scheduler state the runner held at that moment: the initial one (`i = 0`) or the final scheduler state of
execution `i - 1`.  An execution receives nothing else from its predecessors, whether they passed, were abandoned by
the step bound or stopped by the scheduler. -/
theorem runner_iteration_eq_standalone (P : Program) (F : FullScheduler σ) (ms : MaxSteps)
    (fuel segFuel iters : Nat) (s0 : σ) (es : List (Nat × Result P σ))
    (hes : es = (runner P F ms fuel segFuel iters s0 []).execs) (i : Nat) (hi : i < es.length) :
    ∃ sBefore s', F.newExec sBefore = .some es[i].1 s' ∧
      es[i].2 = execute P F.sched ms es[i].1 s' fuel segFuel ∧
      (i = 0 → sBefore = s0) ∧
      (∀ j (hj : j + 1 = i), sBefore = (es[j]'(by omega)).2.st.sch) := by
  subst hes
  exact (runner_chain F ms fuel segFuel iters s0).get i hi

/-- the same, as a chain: see `RunnerIso.Chain` -/
theorem runner_is_chain (P : Program) (F : FullScheduler σ) (ms : MaxSteps) (fuel segFuel iters : Nat) (s0 : σ) :
    Chain P F ms fuel segFuel s0 (runner P F ms fuel segFuel iters s0 []).execs :=
  runner_chain F ms fuel segFuel iters s0

/-- What the runner does from a scheduler state `s` on does not depend on the executions it has already performed
(`acc`): the remaining executions, the final scheduler state and a `new_execution` panic are those of a fresh
`Runner::run` started with scheduler state `s`. -/
theorem runner_suffix_eq_fresh_run (P : Program) (F : FullScheduler σ) (ms : MaxSteps) (fuel segFuel iters : Nat)
    (s : σ) (acc : List (Nat × Result P σ)) :
    (runner P F ms fuel segFuel iters s acc).execs = acc.reverse ++ (runner P F ms fuel segFuel iters s []).execs ∧
    (runner P F ms fuel segFuel iters s acc).final = (runner P F ms fuel segFuel iters s []).final ∧
    (runner P F ms fuel segFuel iters s acc).newExecPanic = (runner P F ms fuel segFuel iters s []).newExecPanic :=
  let h := runner_acc (P := P) F ms fuel segFuel iters s acc
  ⟨h.1, h.2.1, h.2.2⟩

/-- every execution of a run starts in the fresh world of `fresh_world` -/
theorem every_execution_starts_fresh (P : Program) (F : FullScheduler σ) (ms : MaxSteps)
    (fuel segFuel iters : Nat) (s0 : σ) (e : Nat × Result P σ)
    (he : e ∈ (runner P F ms fuel segFuel iters s0 []).execs) :
    ∃ s', e.2 = runLoop F.sched segFuel fuel (initState P ms e.1 s') := by
  obtain ⟨i, hi, rfl⟩ := List.getElem_of_mem he
  obtain ⟨_, s', _, h, _, _⟩ := runner_iteration_eq_standalone P F ms fuel segFuel iters s0 _ rfl i hi
  exact ⟨s', by rw [h, execute_eq]⟩

/-- non-vacuity: three round-robin executions of `exP`; the third equals a stand-alone execution -/
example :
    let R := runner exP rrScheduler .none 20 20 5 { maxIterations := 3 } []
    R.execs.length = 3 ∧ R.count = some 3 ∧ (R.execs.map (·.2.outcome)) = [.ok, .ok, .ok] := by decide

open ShuttleModel.Continuation ShuttleProofs.Continuation in
/-- **pool_only_reusable.**  Let `p` satisfy the pool invariant (every pooled continuation is `reusable()` and holds
no function — true of `ContinuationPool::new()`), and let `c` be a well-formed continuation.  When its
`PooledContinuation` is dropped:

* the invariant still holds — so the next `acquire` + `initialize` (`Task::from_closure`) cannot trip
  `initialize`'s assertions and starts from a continuation that holds no function;
* `c` goes back to the pool iff its state is `NotReady`, `FinishedIteration` or `Initialized`;
* `NotReady` / `FinishedIteration` (never given a function / finished its function): pooled as is;
* `Initialized` (function set, never started): the function is taken out of the cell and dropped — or forgotten,
  exactly when `std::thread::panicking()` and the configured behaviour is `Leak` — *before* the continuation is
  pooled in state `NotReady` with an empty cell;
* `Ready` (suspended in the middle of its function): never pooled; its stack is unwound, or leaked
  (`force_reset`) when `std::thread::panicking()`;
* `Running` (left there by a function that panicked) / `Exited`: never pooled. -/
theorem pool_only_reusable {F : Type} {p : Pool F} (hp : PoolInv p) {c : Cont F} (hc : ContWF c)
    (panicking : Bool) (beh : FunctionBehavior) :
    let r := p.dropPooled c panicking beh
    PoolInv r.pool ∧
    (∀ f, ∃ c' p', r.pool.spawn f = .ok (c', p') ∧ c'.state = .initialized ∧ c'.function = some f ∧
        c'.onStack = none ∧ PoolInv p') ∧
    (r.pooled = true ↔ c.state = .notReady ∨ c.state = .finishedIteration ∨ c.state = .initialized) ∧
    (c.state = .notReady ∨ c.state = .finishedIteration → r.pool.queue = p.queue ++ [c] ∧ r.fate = none) ∧
    (c.state = .initialized → ∃ f, c.function = some f ∧
        r.pool.queue = p.queue ++ [{ c with function := none, state := .notReady }] ∧
        r.fate = some (if panicking = true ∧ beh = .leak then .forgotten f else .droppedUnrun f)) ∧
    (c.state = .ready → r.pooled = false ∧ r.pool = p ∧ ∃ f, c.onStack = some f ∧
        r.fate = some (if panicking = true then .leaked f else .unwound f)) ∧
    (c.state = .running ∨ c.state = .exited → r.pooled = false ∧ r.pool = p ∧ r.fate = none) := by
  obtain ⟨h1, h2, h3, h4, h5, h6⟩ := dropPooled_spec hp hc panicking beh
  refine ⟨h1, fun f => ?_, h2, fun h => h3 ((reusable_iff c).2 h), h4, h5, h6⟩
  obtain ⟨c', p', e, _, hs, hf, ho, hp'⟩ := spawn_spec h1 f
  exact ⟨c', p', e, hs, hf, ho, hp'⟩

open ShuttleModel.Continuation ShuttleProofs.Continuation in
/-- the life-cycle is inhabited: a continuation is created, given closure `1`, yields once, and is dropped
suspended — not pooled, unwound; a second one finishes closure `2` and is pooled; a third is dropped
`Initialized` while panicking with `Leak` — closure `3` is forgotten, the continuation is pooled empty -/
example :
    let p0 : Pool Nat := Pool.new
    (∃ c1 p1, p0.spawn 1 = .ok (c1, p1) ∧
      ∃ c1', c1.resume .yielded = .ok false c1' none ∧ c1'.state = .ready ∧
        (p1.dropPooled c1' false .drop).pooled = false ∧ (p1.dropPooled c1' false .drop).fate = some (.unwound 1)) ∧
    (∃ c2 p2, p0.spawn 2 = .ok (c2, p2) ∧
      ∃ c2', c2.resume .finished = .ok true c2' (some (.completed 2)) ∧
        (p2.dropPooled c2' false .drop).pooled = true ∧ (p2.dropPooled c2' false .drop).pool.queue = [c2']) ∧
    (∃ c3 p3, p0.spawn 3 = .ok (c3, p3) ∧
      (p3.dropPooled c3 true .leak).fate = some (.forgotten 3) ∧
      (p3.dropPooled c3 true .leak).pool.queue = [{ state := .notReady, function := none, onStack := none }]) :=
  ⟨⟨_, _, rfl, _, rfl, rfl, rfl, rfl⟩, ⟨_, _, rfl, _, rfl, rfl, rfl⟩, ⟨_, _, rfl, rfl, rfl⟩⟩

/-- **once_and_lazy_per_execution.**  For a harness program `ir`, the shared state every execution starts from
(`fresh_world`: `st0.u = P.init`) is `ir.initHeap`, in which every object is built from its declaration alone
(`mkObj`): a `once` object is in its initial state — no storage slot (`mutex = none`), not `Complete`, cell `0` —,
a `lazy` / `wlazy` object has an uninitialised cell and no value slot, every task's thread-local storage map is
empty (no slot, empty destruction order), and there is no open `thread::scope`.  Together with
`every_execution_starts_fresh`, a `Once` that ran, a lazy static that was forced or a thread-local that was
initialised in one execution is uninitialised again in the next. -/
theorem once_and_lazy_per_execution (ir : IR) :
    ir.program.init = ir.initHeap ∧
    ir.initHeap.objs = ir.objs.map mkObj ∧
    (∀ d : ObjDecl, d.kind = "once" →
      mkObj d = .once { mutex := none, complete := none } 0) ∧
    (∀ d : ObjDecl, d.kind = "lazy" ∨ d.kind = "wlazy" →
      mkObj d = .lazy { cell := { mutex := none, complete := none }, initialized := false }) ∧
    (∀ l ∈ ir.initHeap.locals, l.tlsSlots = [] ∧ l.tlsOrder = [] ∧ l.scopes = [] ∧ l.guards = []) ∧
    ir.initHeap.scopes = [] ∧
    (∀ (S : Scheduler σ) (ms : MaxSteps) (seed : Nat) (s : σ) (fuel segFuel : Nat),
      ∃ st0 : ExecState ir.program σ, execute ir.program S ms seed s fuel segFuel = runLoop S segFuel fuel st0 ∧
        st0.u = ir.initHeap) := by
  refine ⟨rfl, rfl, ?_, ?_, ?_, rfl, fun S ms seed s fuel segFuel => ⟨initState ir.program ms seed s, rfl, rfl⟩⟩
  · intro d h; simp [mkObj, h]
  · intro d h; rcases h with h | h <;> simp [mkObj, h]
  · intro l hl
    simp only [IR.initHeap, List.mem_cons, List.mem_replicate] at hl
    rcases hl with rfl | ⟨_, rfl⟩ <;> exact ⟨rfl, rfl, rfl, rfl⟩

example : ∃ ir : IR, (∃ d ∈ ir.objs, d.kind = "once") ∧ (∃ d ∈ ir.objs, d.kind = "lazy") ∧ ir.initHeap.locals.length = 2 :=
  ⟨{ objs := [{ name := "o", kind := "once", args := [] }, { name := "z", kind := "lazy", args := [] }],
     tasks := [{}, {}] }, ⟨_, List.mem_cons_self, rfl⟩, ⟨_, List.mem_cons_of_mem _ List.mem_cons_self, rfl⟩, rfl⟩

end ShuttleProofs.C14

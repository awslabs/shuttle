import ShuttleProofs.Lemmas.ChanWitness
/-
  C06 — mpsc channels deliver each message exactly once, in order, within capacity.

  Text of the property:
    "Each value sent successfully on a channel is received exactly once, values from one sender are
    received in the order sent (and in global send order for a single receiver), and nothing is
    received that was not sent. A bounded channel never holds more than its capacity (a rendezvous
    channel hands off only to a waiting receiver), send and recv block exactly while full or empty,
    try_send/try_recv report Full/Empty exactly then, and once the other side is gone send fails and
    recv drains the remaining messages before reporting disconnection. A blocked sender or receiver
    is always released when space, a message or a disconnection arrives."

  Setting: `Reachable bound c` (Lemmas/ChanLts.lean) — every history of the most general client
  of one channel created with `bound` (`none` unbounded, `some 0` rendezvous, `some k`): any number
  of tasks sending / try-sending, one `Receiver`, clones and drops at any point, every interleaving
  of the atomic segments of ShuttleModel/Prim/Chan.lean (the model validated against
  shuttle-std/src/sync/mpsc.rs by the differential harness), every vector-clock value; the ghost
  fields of `Cfg` record the history.

  Three clauses are FALSE for the code; each has a witness on a reachable state and a `_partial`
  form that holds: `send_blocks_while_not_full` / `try_send_full_while_not_full` (a freed slot stays
  reserved for a queued sender), `try_recv_blocks_on_rendezvous`, `stranded_after_skipped_drop`
  (an endpoint dropped while `should_stop()` is not counted).

  Concrete histories (Lemmas/ChanWitness.lean): `After b ls P` states `P` of the configuration the
  labels `ls` reach from a fresh channel; `hReserved`, `hRdvQueued`, `hSkipped` are such lists of
  labels; `sendRes` / `recvRes` are the result of a first segment in a form `decide` can compare.
-/
namespace ShuttleModel.C06
open ShuttleModel

/-- What has been received is exactly the first `received.length` values successfully sent, in the
order of their pushes: no loss before the read position, no duplication, nothing invented, global
send order for the single receiver.  (The values not yet received are exactly the buffer:
`fifo_buffer`.) -/
theorem received_is_prefix_of_sent {b : Option Nat} {c : Cfg} (h : Reachable b c) :
    c.received = (c.sent.map (·.2)).take c.received.length := by
  rw [(reachable_inv h).fifo]; simp

example : After (some 1) hReserved (fun c => c.received = [7] ∧ c.sent = [(0, 7)]) := by decide

/-- the values sent and not yet received are exactly the buffer, in order -/
theorem fifo_buffer {b : Option Nat} {c : Cfg} (h : Reachable b c) :
    c.sent.map (·.2) = c.received ++ c.ch.messages.map (·.1) :=
  (reachable_inv h).fifo

example : After (some 2) [.sendStart 0 7 true [], .sendStart 1 8 true []]
    (fun c => c.sent = [(0, 7), (1, 8)] ∧ c.received = [] ∧ c.ch.messages.map (·.1) = [7, 8]) := by
  decide

/-- per sender: the values received from sender `t` are a prefix of the values `t` sent, in the
order `t` sent them (`received` is `(sent.take n).map value`, see `received_is_prefix_of_sent`) -/
theorem per_sender_order {b : Option Nat} {c : Cfg} (h : Reachable b c) (t : Nat) :
    c.received = (c.sent.take c.received.length).map (·.2) ∧
    (((c.sent.take c.received.length).filter (·.1 == t)).map (·.2)) <+:
      ((c.sent.filter (·.1 == t)).map (·.2)) := by
  constructor
  · rw [List.map_take]; exact received_is_prefix_of_sent h
  · exact ((List.take_prefix _ _).filter _).map _

example : After none [.sendStart 1 5 true [], .sendStart 2 6 true [], .sendStart 1 7 true [],
      .recvStart 0 true [], .recvStart 0 true []]
    (fun c => c.received = [5, 6] ∧ c.sent = [(1, 5), (2, 6), (1, 7)]) := by decide

/-- A `sync_channel(k)`, `k ≥ 1`, never holds more than `k` messages.  A rendezvous channel
(`k = 0`; the code treats its capacity as `max(bound, 1) = 1`) holds at most ONE message, and only
while the (single) receiver sits in `waiting_receivers` and has already been unblocked to take it:
the hand-off is in flight. -/
theorem capacity_invariant {b : Option Nat} {c : Cfg} (h : Reachable b c) :
    (∀ k, b = some k → 0 < k → c.ch.messages.length ≤ k) ∧
    (b = some 0 → c.ch.messages.length ≤ 1 ∧
      (c.ch.messages ≠ [] → ∃ r, c.ch.waitingReceivers = [r] ∧ r ∈ c.ub)) := by
  have hi := reachable_inv h
  have hb := reachable_bound h
  constructor
  · intro k hk h0
    obtain ⟨l, -, hl⟩ := hi.rc k (hb.trans hk)
    have := hl h0
    omega
  · intro h0
    exact hi.rdv (hb.trans h0)

example : After (some 1) [.sendStart 0 7 true [], .sendStart 1 8 true []]
    (fun c => c.ch.messages.length = 1 ∧ c.ch.waitingSenders = [1]) := by decide
example : After (some 0) [.recvStart 0 true [], .sendStart 1 8 true []]
    (fun c => c.ch.messages.length = 1 ∧ c.ch.waitingReceivers = [0] ∧ 0 ∈ c.ub) := by decide

/-- a rendezvous `send` that finds no waiting receiver does not deposit its message -/
theorem rendezvous_no_deposit_without_receiver {b : Option Nat} {c : Cfg} (h : Reachable b c)
    (hb : b = some 0) (hw : c.ch.waitingReceivers = []) : c.ch.messages = [] := by
  have := (capacity_invariant h).2 hb
  by_cases hm : c.ch.messages = []
  · exact hm
  · obtain ⟨r, hr, -⟩ := this.2 hm
    rw [hw] at hr; cases hr

example : After (some 0) [.sendStart 1 8 true []]
    (fun c => c.ch.messages = [] ∧ c.ch.waitingSenders = [1]) := by decide

/-- what `sender_must_block` means: buffer at capacity, OR an earlier sender still queued, OR
rendezvous without a waiting receiver (the right-hand side of `senderMustBlock_iff`) -/
def MustBlockS (s : ChanState) : Prop :=
  (∃ k, s.bound = some k ∧ max k 1 ≤ s.messages.length) ∨ s.waitingSenders ≠ [] ∨
  (s.bound = some 0 ∧ s.waitingReceivers = [])

/-- FULL STATEMENT ("send blocks exactly while full") is FALSE: see `send_blocks_while_not_full`.
What the code guarantees: the first segment of `send(v)` blocks iff a receiver exists and
`MustBlockS`; in particular it always blocks when the buffer is at capacity. -/
theorem send_blocks_iff_full_partial {s s' : ChanState} {me v : Nat} {clk : Clock}
    {r : Option SendRes} {e : List Eff} (h : sendSeg1 s me v true clk = .ok (s', r, e)) :
    (r = none ↔ s.knownReceivers ≠ 0 ∧ MustBlockS s) ∧
    (r = none → s' = { s with waitingSenders := s.waitingSenders ++ [me] } ∧ ubOf e = []) := by
  unfold MustBlockS
  rw [← senderMustBlock_iff]
  cases sendSeg1_cases s me v true clk with
  | disconnected h0 heq => rw [heq] at h; cases h; simp [h0]
  | full _ _ hcb _ => cases hcb
  | queued h0 hm _ heq => rw [heq] at h; cases h; simp [h0, hm]
  | push _ hm heq => rw [heq] at h; obtain ⟨rfl, -⟩ := sendSeg_push_ok h; simp [hm]

example : ∃ s' e, sendSeg1 { bound := some 1, messages := [(7, [])], receiverClock := some [] }
    1 8 true [] = .ok (s', none, e) := ⟨_, _, rfl⟩

/-- NEGATION of "send blocks exactly while full", on a concrete reachable state: bounded(1),
buffer EMPTY, a receiver exists — and a new `send` blocks (the slot is reserved for the sender that
`recv` has just unblocked and that has not run yet). -/
theorem send_blocks_while_not_full :
    ∃ c, Reachable (some 1) c ∧ enabled c (.sendStart 2 9 true []) ∧ c.ch.messages = [] ∧
      c.ch.knownReceivers ≠ 0 ∧ ∃ s' e, sendSeg1 c.ch 2 9 true [] = .ok (s', none, e) := by
  have h : After (some 1) hReserved (fun c => enabled c (.sendStart 2 9 true []) ∧
      c.ch.messages = [] ∧ c.ch.knownReceivers ≠ 0 ∧ sendRes c.ch 2 9 true = some none) := by decide
  obtain ⟨c, hr, he, hm, hk, hs⟩ := h.reachable
  exact ⟨c, hr, he, hm, hk, sendRes_eq hs⟩

/-- `recv` blocks exactly while the buffer is empty and some sender exists (single receiver:
`waiting_receivers = []` when a `recv` starts) -/
theorem recv_blocks_iff_empty {s s' : ChanState} {me : Nat} {mine : Clock}
    {r : Option RecvRes} {e : List Eff} (hw : s.waitingReceivers = [])
    (h : recvSeg1 s me true mine = .ok (s', r, e)) :
    (r = none ↔ s.messages = [] ∧ s.knownSenders ≠ 0) ∧
    (r = none → s' = { s with waitingReceivers := [me] }) := by
  cases recvSeg1_cases s me true mine hw with
  | disconnected _ hk heq => rw [heq] at h; cases h; simp [hk]
  | empty _ _ hcb _ _ => cases hcb
  | queued hm hk _ e1 heq _ => rw [heq] at h; cases h; simp [hm, hk]
  | pop _ heq => rw [heq] at h; obtain ⟨item, rest, hm, rfl, -⟩ := recvSeg_pop_ok h; simp [hm]

example : ∃ s' e, recvSeg1 (ChanState.new (some 2)) 0 true [] = .ok (s', none, e) := ⟨_, _, rfl⟩
example : ∃ s' e, recvSeg1 { bound := none, messages := [(7, [])] } 0 true [] =
    .ok (s', some (.ok 7), e) := ⟨_, _, rfl⟩

/-- FULL STATEMENT ("try_send reports Full exactly when the buffer is full, try_recv reports Empty
exactly when it is empty") is FALSE for `try_send` (`try_send_full_while_not_full`) and has a
blocking corner for `try_recv` on rendezvous channels (`try_recv_blocks_on_rendezvous`).
What the code guarantees:
  * `try_send` never blocks; it reports `Full` iff a receiver exists and `MustBlockS`
    (at capacity, or an earlier sender queued, or rendezvous without a waiting receiver);
  * `try_recv` reports `Empty` iff the buffer is empty, a sender exists and it is not the case that
    the channel is a rendezvous channel with a queued sender; in that last case it BLOCKS;
    with a non-empty buffer it returns the first message. -/
theorem try_full_empty_exact_partial {s : ChanState} {me v : Nat} {clk mine : Clock} :
    (∀ s' r e, sendSeg1 s me v false clk = .ok (s', r, e) →
      r ≠ none ∧ (r = some .full ↔ s.knownReceivers ≠ 0 ∧ MustBlockS s) ∧
      (r = some .full → s' = s ∧ ubOf e = [])) ∧
    (s.waitingReceivers = [] → ∀ s' r e, recvSeg1 s me false mine = .ok (s', r, e) →
      (r = some .empty ↔ s.messages = [] ∧ s.knownSenders ≠ 0 ∧
          ¬ (s.bound = some 0 ∧ s.waitingSenders ≠ [])) ∧
      (r = some .empty → s' = s ∧ ubOf e = []) ∧
      (r = none ↔ s.messages = [] ∧ s.knownSenders ≠ 0 ∧ s.bound = some 0 ∧ s.waitingSenders ≠ []) ∧
      (∀ item rest, s.messages = item :: rest → r = some (.ok item.1))) := by
  constructor
  · intro s' r e h
    unfold MustBlockS
    rw [← senderMustBlock_iff]
    cases sendSeg1_cases s me v false clk with
    | disconnected h0 heq => rw [heq] at h; cases h; simp [h0]
    | full h0 hm _ heq => rw [heq] at h; cases h; simp [h0, hm]
    | queued _ _ hcb _ => cases hcb
    | push _ hm heq => rw [heq] at h; obtain ⟨rfl, -⟩ := sendSeg_push_ok h; simp [hm]
  · intro hw s' r e h
    cases recvSeg1_cases s me false mine hw with
    | disconnected hm hk heq => rw [heq] at h; cases h; simp [hm, hk]
    | empty hm hk _ hz heq => rw [heq] at h; cases h; simp [hm, hk]; simpa using hz
    | queued hm hk hcb e1 heq _ =>
      rw [heq] at h; cases h; simp [hm, hk]
      rcases hcb with hcb | hcb
      · cases hcb
      · simpa using hcb
    | pop _ heq => rw [heq] at h; obtain ⟨item, rest, hm, rfl, -⟩ := recvSeg_pop_ok h; simp [hm]

example : ∃ s' e, sendSeg1 { bound := some 1, messages := [(7, [])], receiverClock := some [] }
    1 8 false [] = .ok (s', some .full, e) := ⟨_, _, rfl⟩
example : ∃ s' e, recvSeg1 (ChanState.new (some 1)) 0 false [] = .ok (s', some .empty, e) :=
  ⟨_, _, rfl⟩

/-- NEGATION of "try_send reports Full exactly when full", on a concrete reachable state:
bounded(1), buffer EMPTY, receiver alive — `try_send` reports `Full`.
Real runtime (harness IR, `vh run`), prints `v:7`, `err:full`, `err:empty` for ops 3–5 of task 0:
```
=== try_send_reserved
config steps=none clocks=0
obj c chan cap:1
task 0 thread
  send c 7
  spawn 1
  yield
  recv c
  try_send c 9
  try_recv c
  join 1
end
task 1 thread
  send c 8
end
run replay:91010cf8acd19101000a08
```
(`try_send → Full` followed by `try_recv → Empty` with no other operation completing in between is
impossible for a linearizable bounded queue.) -/
theorem try_send_full_while_not_full :
    ∃ c, Reachable (some 1) c ∧ enabled c (.sendStart 0 9 false []) ∧ c.ch.messages = [] ∧
      c.ch.knownReceivers ≠ 0 ∧ (∃ s' e, sendSeg1 c.ch 0 9 false [] = .ok (s', some .full, e)) ∧
      (∃ s' e, recvSeg1 c.ch 0 false [] = .ok (s', some .empty, e)) := by
  have h : After (some 1) hReserved (fun c => enabled c (.sendStart 0 9 false []) ∧
      c.ch.messages = [] ∧ c.ch.knownReceivers ≠ 0 ∧ sendRes c.ch 0 9 false = some (some .full) ∧
      recvRes c.ch 0 false = some (some .empty)) := by decide
  obtain ⟨c, hr, he, hm, hk, hs, hrr⟩ := h.reachable
  exact ⟨c, hr, he, hm, hk, sendRes_eq hs, recvRes_eq hrr⟩

/-- `try_recv` on a rendezvous channel with a queued sender does not return: it unblocks that
sender and blocks in `waiting_receivers` (it is then released by the sender's push, see
`no_stranded_waiter`, and returns the value). -/
theorem try_recv_blocks_on_rendezvous :
    ∃ c, Reachable (some 0) c ∧ enabled c (.recvStart 0 false []) ∧
      ∃ s' e, recvSeg1 c.ch 0 false [] = .ok (s', none, e) ∧ ubOf e = [1] := by
  have h : After (some 0) hRdvQueued (fun c => enabled c (.recvStart 0 false []) ∧
      c.ch.messages = [] ∧ c.ch.knownSenders ≠ 0 ∧ c.ch.bound = some 0 ∧
      c.ch.waitingSenders = [1]) := by decide
  obtain ⟨c, hr, he, hm, hk, hb, hw⟩ := h.reachable
  cases recvSeg1_cases c.ch 0 false [] he.2.1 with
  | disconnected _ hk' _ => exact absurd hk' hk
  | empty _ _ _ hz _ => exact absurd ⟨hb, hw ▸ List.cons_ne_nil 1 []⟩ hz
  | queued _ _ _ e heq hu => exact ⟨c, hr, he, _, e, heq, by rw [hu, if_pos hb, hw]; rfl⟩
  | pop hm' _ => exact absurd hm hm'

/-- once no receiver is left, `send` / `try_send` fail with `Disconnected` and leave the channel
untouched; a sender that was blocked at that moment fails too and only leaves the queue -/
theorem disconnect_send_fails {s : ChanState} {me v : Nat} {cb : Bool} {clk : Clock}
    (h0 : s.knownReceivers = 0) :
    (∃ e, sendSeg1 s me v cb clk = .ok (s, some .disconnected, e) ∧ ubOf e = []) ∧
    (∃ e, sendSeg2 s me v clk =
      .ok ({ s with waitingSenders := s.waitingSenders.filter (· != me) }, some .disconnected, e) ∧
      ubOf e = []) := by
  constructor
  · refine ⟨[], ?_, rfl⟩
    simp [sendSeg1, sendSeg, bindStep, ChanState.sendStart, h0]
  · refine ⟨[], ?_, rfl⟩
    simp [sendSeg2, sendSeg, bindStep, ChanState.sendWake, h0]

example : After (some 1) [.dropR false]
    (fun c => c.ch.knownReceivers = 0 ∧ sendRes c.ch 0 5 true = some (some .disconnected) ∧
      sendRes c.ch 0 5 false = some (some .disconnected)) := by decide

/-- once no sender is left (`known_senders = 0`), every `recv` / `try_recv` of the idle receiver
returns the next buffered message, in order, and `Disconnected` exactly when the buffer is empty.
The successor configuration satisfies the same hypotheses, so the statement iterates: the receiver
drains `messages` front to back, then gets `Disconnected` forever. -/
theorem disconnect_recv_drains_then_fails {b : Option Nat} {c : Cfg} {t : Nat} {cb : Bool}
    {mine : Clock} (h : Reachable b c) (hk : c.ch.knownSenders = 0)
    (he : enabled c (.recvStart t cb mine)) :
    ∃ c' s' r e, fire c (.recvStart t cb mine) = .ok c' ∧ Reachable b c' ∧
      recvSeg1 c.ch t cb mine = .ok (s', r, e) ∧ c'.ch = s' ∧
      c'.ch.knownSenders = 0 ∧ enabled c' (.recvStart t cb mine) ∧
      (c.ch.messages = [] → r = some .disconnected ∧ c'.ch.messages = [] ∧
        c'.received = c.received) ∧
      (∀ item rest, c.ch.messages = item :: rest → r = some (.ok item.1) ∧
        c'.ch.messages = rest ∧ c'.received = c.received ++ [item.1]) := by
  obtain ⟨c', hf⟩ := fire_total h he
  have hr' := Reachable.step _ h he hf
  obtain ⟨⟨s', r, e⟩, hx, rfl⟩ := map_eq_ok (fire_recvStart.symm.trans hf)
  simp only [enabled] at he
  refine ⟨_, s', r, e, hf, hr', hx, rfl, ?_⟩
  cases recvSeg1_cases c.ch t cb mine he.2.1 with
  | disconnected hm _ heq =>
    rw [heq] at hx
    cases hx
    refine ⟨hk, ?_, ?_, ?_⟩
    · simpa [enabled, Cfg.afterRecv] using he
    · intro _; simp [Cfg.afterRecv, hm]
    · intro item rest hm'; rw [hm] at hm'; cases hm'
  | empty _ hk' _ _ _ => exact absurd hk hk'
  | queued _ hk' _ _ _ _ => exact absurd hk hk'
  | pop _ heq =>
    rw [heq] at hx
    obtain ⟨item, rest, hm, rfl, -, rfl⟩ := recvSeg_pop_ok hx
    refine ⟨hk, ?_, ?_, ?_⟩
    · simpa [enabled, Cfg.afterRecv] using he
    · intro hm'; rw [hm] at hm'; cases hm'
    · intro item' rest' hm'
      rw [hm] at hm'; cases hm'
      simp [Cfg.afterRecv]

example : After none [.sendStart 0 5 true [], .sendStart 0 6 true [], .dropS false,
      .recvStart 0 true [], .recvStart 0 true []]
    (fun c => c.ch.knownSenders = 0 ∧ c.received = [5, 6] ∧ c.ch.messages = [] ∧
      recvRes c.ch 0 true = some (some .disconnected)) := by decide

/-- Whenever the condition a waiter waits for holds, the waiter at the head of its queue HAS been
unblocked (it is in the ghost set `ub` of tasks that received `Eff.unblock` since they blocked):
  * bounded `k ≥ 1`: a free slot and a receiver exist  ⇒ the head sender is unblocked;
  * rendezvous: the buffer is empty and the receiver waits ⇒ the head sender is unblocked;
  * a message is buffered ⇒ the waiting receiver is unblocked;
  * `known_receivers = 0` ⇒ every waiting sender is unblocked;
  * `known_senders = 0` ⇒ the waiting receiver is unblocked. -/
theorem no_stranded_waiter {b : Option Nat} {c : Cfg} (h : Reachable b c) :
    (c.ch.knownReceivers ≠ 0 → ∀ k, b = some k → 0 < k → c.ch.messages.length < k →
      ∀ t, c.ch.waitingSenders.head? = some t → t ∈ c.ub) ∧
    (c.ch.knownReceivers ≠ 0 → b = some 0 → c.ch.messages = [] → c.ch.waitingReceivers ≠ [] →
      ∀ t, c.ch.waitingSenders.head? = some t → t ∈ c.ub) ∧
    (c.ch.messages ≠ [] → ∀ r, c.ch.waitingReceivers.head? = some r → r ∈ c.ub) ∧
    (c.ch.knownReceivers = 0 → ∀ t ∈ c.ch.waitingSenders, t ∈ c.ub) ∧
    (c.ch.knownSenders = 0 → ∀ r ∈ c.ch.waitingReceivers, r ∈ c.ub) := by
  have hi := reachable_inv h
  have hb := reachable_bound h
  exact ⟨fun h0 k hk => hi.ns_space h0 k (hb.trans hk), fun h0 hk => hi.ns_rdv h0 (hb.trans hk),
    hi.ns_msg, hi.ns_noR, hi.ns_noS⟩

example : After (some 1) hReserved (fun c => c.ch.knownReceivers ≠ 0 ∧ c.ch.messages.length < 1 ∧
    c.ch.waitingSenders.head? = some 1 ∧ 1 ∈ c.ub) := by decide
example : After none [.recvStart 0 true [], .dropS false]
    (fun c => c.ch.knownSenders = 0 ∧ c.ch.waitingReceivers = [0] ∧ 0 ∈ c.ub) := by decide

/-- an unblocked waiter's second segment is enabled, does not panic, and completes the operation
(it never blocks again): the waiter is really released -/
theorem unblocked_waiter_completes {b : Option Nat} {c : Cfg} (h : Reachable b c) (t : Nat)
    (clk : Clock) (hu : t ∈ c.ub) :
    (t ∈ c.ch.waitingSenders → ∃ s' r e, sendSeg2 c.ch t (c.pv t) clk = .ok (s', some r, e) ∧
      t ∉ s'.waitingSenders) ∧
    (t ∈ c.ch.waitingReceivers → ∃ s' r e, recvSeg2 c.ch t clk = .ok (s', some r, e) ∧
      t ∉ s'.waitingReceivers) := by
  have hi := reachable_inv h
  exact ⟨fun hw => hi.sendWake_completes hw hu _ clk, fun hw => hi.recvWake_completes hw hu clk⟩

example : After (some 1) hReserved (fun c => 1 ∈ c.ub ∧ 1 ∈ c.ch.waitingSenders) := by decide

/-- FULL STATEMENT ("when the last endpoint of the other side is dropped every waiter has been
unblocked", in terms of the endpoints that really exist: `liveS = 0 → ∀ r ∈ waiting_receivers,
r ∈ ub` and `liveR = false → ∀ t ∈ waiting_senders, t ∈ ub`) is FALSE: `Drop` does nothing at all
when `ExecutionState::should_stop()` (a task is panicking / the execution is being stopped), so
`known_senders` / `known_receivers` stay positive.  Witness: the receiver blocks in `recv`, the
only `Sender` is dropped while `should_stop()`: no sender is left, the receiver is not unblocked.
(On the real runtime this can only happen while a panic is already propagating, i.e. the execution
is failing anyway.) -/
theorem stranded_after_skipped_drop :
    ∃ c, Reachable none c ∧ c.liveS = 0 ∧ c.ch.waitingReceivers = [0] ∧ 0 ∉ c.ub ∧
      c.skipped = true := by
  have h : After none hSkipped (fun c => c.liveS = 0 ∧ c.ch.waitingReceivers = [0] ∧ 0 ∉ c.ub ∧
      c.skipped = true) := by decide
  exact h.reachable

/-- … and it holds as long as no drop was skipped -/
theorem no_stranded_waiter_on_disconnect_partial {b : Option Nat} {c : Cfg} (h : Reachable b c)
    (hs : c.skipped = false) :
    (c.liveS = 0 → ∀ r ∈ c.ch.waitingReceivers, r ∈ c.ub) ∧
    (c.liveR = false → ∀ t ∈ c.ch.waitingSenders, t ∈ c.ub) := by
  have hi := reachable_inv h
  obtain ⟨h1, h2⟩ := hi.exact hs
  exact ⟨fun h0 => hi.ns_noS (h1.trans h0), fun h0 => hi.ns_noR (h2 h0)⟩

example : After (some 1) [.sendStart 0 7 true [], .sendStart 1 8 true [], .dropR false]
    (fun c => c.skipped = false ∧ c.liveR = false ∧ c.ch.waitingSenders = [1] ∧ 1 ∈ c.ub) := by
  decide

/-- every transition of the channel is a transition (or a stutter) of the abstract bounded FIFO
`AStep` with capacity `max(bound, 1)` (unbounded for `None`), under
`abs s = (values of messages, known_senders, known_receivers ≠ 0)` -/
theorem abstract_refinement {b : Option Nat} {c c' : Cfg} {l : Label} (h : Reachable b c)
    (he : enabled c l) (hf : fire c l = .ok c') : AStep (capOf b) (abs c.ch) (abs c'.ch) :=
  reachable_bound h ▸ (inv_step (reachable_inv h) he hf).astep

example : After (some 1) [.sendStart 0 7 true []]
    (fun c => abs c.ch = { queue := [7], senders := 1, receiverAlive := true }) := by decide

/-- no `assert!` / `expect` / index panic of mpsc.rs is reachable -/
theorem no_panic {b : Option Nat} {c : Cfg} {l : Label} (h : Reachable b c) (he : enabled c l) :
    ∃ c', fire c l = .ok c' :=
  fire_total h he

example : After (some 0) [.sendStart 1 8 true [], .recvStart 0 true []]
    (fun c => enabled c (.sendWake 1 [])) := by decide

end ShuttleModel.C06

import ShuttleProofs.Lemmas.ReplayData
import ShuttleProofs.Lemmas.ReplayNondet
import ShuttleProofs.Lemmas.ReplayClock
import ShuttleProofs.Lemmas.ReplayExamples
import ShuttleProofs.C16

/-!
# C01 — an execution is determined by its recorded schedule; replay reproduces it

Models: `ShuttleModel/Kernel.lean` (runtime), `ShuttleModel/Sched/Replay.lean` (`ReplayScheduler`),
`ShuttleModel/Sched/NondetCheck.lean` (`UncontrolledNondeterminismCheckScheduler`), `Serialize.lean`, `Rng.lean`,
`Runner.lean`.  Everything is for ALL programs `P`, ALL schedulers `S` (any state type), ALL `MaxSteps`, seeds,
scheduler states and ALL amounts of model fuel.

Remarks on model vs Rust:
* `shuttle::replay` builds its `Runner` with `Default::default()` config; the theorems replay with the SAME
  `MaxSteps` as the original run (with a different bound the runs agree as long as neither bound is hit, see
  `runLoop_stMS`).
* "Determinism of the body" is built into the model: a `Program` is a deterministic function of what the kernel
  returns.  Consequently the checker theorem says: for bodies whose only nondeterminism is scheduling and
  `shuttle::rand`, none of the checker's panics is reachable.
* `ReplayScheduler::next_u64` indexes `schedule.steps[self.steps]` without a bounds check (index panic when the
  schedule is exhausted): modelled as the scheduler panic `msgIndex`.
* the checker's recording execution and checking execution run with different schedule seeds (`seed` / dummy 0):
  harmless, the seed stored in `CURRENT_SCHEDULE` is never read during an execution (`execute_seed`).
-/

namespace ShuttleProofs.C01
open ShuttleModel ShuttleModel.Replay ShuttleModel.NondetCheck ShuttleProofs.Kernel ShuttleProofs.Replay

variable {σ : Type}

/-- the replay scheduler's state when its (only) execution starts: what `new_execution` makes of
`new_from_schedule(sch)` -/
def replayStart (sch : Schedule) : ReplayState :=
  { newFromSchedule sch with started := true, data := seededSource sch.seed }

/-- `new_execution` of a fresh replay scheduler returns the seed of the schedule it replays -/
theorem newExec_newFromSchedule (sch : Schedule) :
    replayScheduler.newExec (newFromSchedule sch) = .some sch.seed (replayStart sch) := rfl

theorem newExec_replayStarted (rs : ReplayState) (h : rs.started = true) :
    replayScheduler.newExec rs = .none := by
  show Replay.newExec rs = .none
  unfold Replay.newExec
  rw [h]; rfl

/-- the schedule a run has recorded when it ends, as the `Schedule` value that gets printed -/
def recordedOf (seed : Nat) {P : Program} (r : Result P σ) : Schedule :=
  { seed := seed, steps := r.st.k.schedule_.map ofSStep }

/-- The form from which the three theorems below are read off.  Start a `ReplayScheduler` on the schedule `r`
recorded: `new_execution` returns the same seed, and the execution it drives is `r` again (`reRes r rsF`: identical
kernel state, user state, continuations, event log and outcome); the replay cursor ends exactly at the end of the
schedule, nothing was skipped. -/
theorem replay_faithful_core (P : Program) (S : Scheduler σ) (ms : MaxSteps) (seed : Nat) (s : σ)
    (fuel segFuel : Nat)
    (hsp : ∀ msg, (execute P S ms seed s fuel segFuel).outcome ≠ .schedPanic msg)
    (hst : (execute P S ms seed s fuel segFuel).outcome ≠ .stopped)
    (hdf : DataFaithful seed (execute P S ms seed s fuel segFuel).st.log.toList) :
    replayScheduler.newExec (newFromSchedule (recordedOf seed (execute P S ms seed s fuel segFuel))) =
        .some seed (replayStart (recordedOf seed (execute P S ms seed s fuel segFuel))) ∧
      ∃ rsF : ReplayState,
        execute P replayScheduler.sched ms seed
            (replayStart (recordedOf seed (execute P S ms seed s fuel segFuel))) fuel segFuel =
          reRes (execute P S ms seed s fuel segFuel) rsF ∧
        rsF.schedule = recordedOf seed (execute P S ms seed s fuel segFuel) ∧
        rsF.steps = rsF.schedule.steps.length ∧ rsF.stepsSkipped = 0 ∧ rsF.started = true := by
  refine ⟨rfl, ?_⟩
  obtain ⟨rsF, h1, h2⟩ := execute_follows (replay_follows S (recordedOf seed (execute P S ms seed s fuel segFuel)))
    P ms seed s (replayStart (recordedOf seed (execute P S ms seed s fuel segFuel))) fuel segFuel hsp
    { schedule := rfl, allow := rfl, target := rfl, skipped := rfl, started := rfl, le := Nat.zero_le _
      rest := by
        show List.drop 0 ((execute P S ms seed s fuel segFuel).st.k.schedule_.map ofSStep) = _
        rw [C08.record_exact_of_not_schedPanic P S ms seed s fuel segFuel hsp]
        rfl
      noNone := fun _ hev o c y heq =>
        hst (C08.none_stops_without_failure P S ms seed s fuel segFuel o c y (heq ▸ hev)).1
      data := hdf }
  exact ⟨rsF, h1, h2.schedule, by rw [h2.schedule]; exact h2.exhausted, h2.skipped, h2.started⟩

/-- **replay_faithful.**  If the execution `r` did not end with a scheduler panic nor with the scheduler
answering `None`, and is `DataFaithful`, then the `ReplayScheduler` built from the schedule `r` recorded starts an
execution with the same seed, and that execution has the same event log, the same outcome, the same final user
state, kernel state and continuations, and records the same schedule again.

(The hypothesis "`r.outcome ≠ outOfFuel`" of the informal statement is not needed: with the same model fuel the
replay runs out of fuel at the same point.) -/
theorem replay_faithful (P : Program) (S : Scheduler σ) (ms : MaxSteps) (seed : Nat) (s : σ) (fuel segFuel : Nat)
    (hsp : ∀ msg, (execute P S ms seed s fuel segFuel).outcome ≠ .schedPanic msg)
    (hst : (execute P S ms seed s fuel segFuel).outcome ≠ .stopped)
    (hdf : DataFaithful seed (execute P S ms seed s fuel segFuel).st.log.toList) :
    ∃ seed' rs0,
      replayScheduler.newExec (newFromSchedule (recordedOf seed (execute P S ms seed s fuel segFuel))) =
        .some seed' rs0 ∧ seed' = seed ∧
      (execute P replayScheduler.sched ms seed' rs0 fuel segFuel).st.log =
        (execute P S ms seed s fuel segFuel).st.log ∧
      (execute P replayScheduler.sched ms seed' rs0 fuel segFuel).outcome =
        (execute P S ms seed s fuel segFuel).outcome ∧
      (execute P replayScheduler.sched ms seed' rs0 fuel segFuel).st.u =
        (execute P S ms seed s fuel segFuel).st.u ∧
      (execute P replayScheduler.sched ms seed' rs0 fuel segFuel).st.k =
        (execute P S ms seed s fuel segFuel).st.k ∧
      (execute P replayScheduler.sched ms seed' rs0 fuel segFuel).st.conts =
        (execute P S ms seed s fuel segFuel).st.conts ∧
      (execute P replayScheduler.sched ms seed' rs0 fuel segFuel).st.k.schedule_ =
        (execute P S ms seed s fuel segFuel).st.k.schedule_ ∧
      recordedOf seed' (execute P replayScheduler.sched ms seed' rs0 fuel segFuel) =
        recordedOf seed (execute P S ms seed s fuel segFuel) := by
  obtain ⟨h0, rsF, h1, _⟩ := replay_faithful_core P S ms seed s fuel segFuel hsp hst hdf
  refine ⟨seed, _, h0, rfl, ?_⟩
  rw [h1]
  exact ⟨rfl, rfl, rfl, rfl, rfl, rfl, rfl⟩

/-- **replay_exhausts_schedule.**  In the replay of a recorded execution none of the replay scheduler's panics
("schedule ended early", "expected context switch …", "scheduled task is not runnable …", "expected random choice
…", index out of bounds) is reachable — the outcome is never a scheduler panic —, the cursor ends exactly at the
end of the schedule, no step was skipped, and a second `new_execution` returns `None`. -/
theorem replay_exhausts_schedule (P : Program) (S : Scheduler σ) (ms : MaxSteps) (seed : Nat) (s : σ)
    (fuel segFuel : Nat)
    (hsp : ∀ msg, (execute P S ms seed s fuel segFuel).outcome ≠ .schedPanic msg)
    (hst : (execute P S ms seed s fuel segFuel).outcome ≠ .stopped)
    (hdf : DataFaithful seed (execute P S ms seed s fuel segFuel).st.log.toList) :
    ∃ rs0, replayScheduler.newExec (newFromSchedule (recordedOf seed (execute P S ms seed s fuel segFuel))) =
        .some seed rs0 ∧
      (∀ msg, (execute P replayScheduler.sched ms seed rs0 fuel segFuel).outcome ≠ .schedPanic msg) ∧
      (execute P replayScheduler.sched ms seed rs0 fuel segFuel).st.sch.steps =
        (recordedOf seed (execute P S ms seed s fuel segFuel)).steps.length ∧
      (execute P replayScheduler.sched ms seed rs0 fuel segFuel).st.sch.schedule =
        recordedOf seed (execute P S ms seed s fuel segFuel) ∧
      (execute P replayScheduler.sched ms seed rs0 fuel segFuel).st.sch.stepsSkipped = 0 ∧
      replayScheduler.newExec (execute P replayScheduler.sched ms seed rs0 fuel segFuel).st.sch = .none := by
  obtain ⟨h0, rsF, h1, h2, h3, h4, h5⟩ := replay_faithful_core P S ms seed s fuel segFuel hsp hst hdf
  refine ⟨_, h0, ?_⟩
  rw [h1]
  refine ⟨hsp, ?_, h2, h4, newExec_replayStarted _ h5⟩
  show rsF.steps = _
  rw [h3, h2]

/-- a recorded schedule is well-formed (representable: `u64` seed, `usize` ids and length) under the explicit
side conditions -/
theorem recorded_wf (seed : Nat) (steps : List SStep) (hseed : seed < 2 ^ 64)
    (hids : ∀ t, SStep.task t ∈ steps → t < 2 ^ 64) (hlen : steps.length < 2 ^ 64) :
    (Schedule.mk seed (steps.map ofSStep)).wf := by
  refine ⟨hseed, ?_, by simpa using hlen⟩
  intro id hid
  simp only [List.mem_map] at hid
  obtain ⟨st, hst, heq⟩ := hid
  cases st with
  | task t => simp only [ofSStep, ScheduleStep.task.injEq] at heq; subst heq; exact hids t hst
  | random => cases heq

/-- **replay_from_string**: `ReplayScheduler::new_from_encoded` applied to the printed form of a well-formed
schedule is `new_from_schedule` of that schedule … -/
theorem replay_from_string (sch : Schedule) (h : sch.wf) :
    newFromEncoded (serializeSchedule sch) = some (newFromSchedule sch) := by
  unfold newFromEncoded
  rw [ShuttleModel.C16.roundtrip sch h]

/-- … also with whitespace inserted / removed anywhere (e.g. re-wrapped, pasted with indentation). -/
theorem replay_from_string_ws (sch : Schedule) (h : sch.wf) (t : String)
    (ht : t.toList.filter (fun c => !isWhitespace c) = hexOfSchedule sch) :
    newFromEncoded t = some (newFromSchedule sch) := by
  unfold newFromEncoded
  rw [ShuttleModel.C16.roundtrip_ws sch h t ht]

theorem replay_from_string_ws_insert (sch : Schedule) (h : sch.wf) (a b ws : List Char)
    (hab : (serializeSchedule sch).toList = a ++ b) (hws : ∀ c ∈ ws, isWhitespace c = true) :
    newFromEncoded (String.ofList (a ++ ws ++ b)) = some (newFromSchedule sch) := by
  unfold newFromEncoded
  rw [ShuttleModel.C16.roundtrip_ws_insert sch h a b ws hab hws]

/-- **The replay entry point** `shuttle::replay(f, printed schedule)`: runs exactly one execution, which is `r`
again (`reRes r _`: same outcome, log, user state, kernel), and `Runner::run` returns `Ok(1)` iff `r` was not a
failure. -/
theorem replay_entry_point (P : Program) (S : Scheduler σ) (ms : MaxSteps) (seed : Nat) (s : σ) (fuel segFuel : Nat)
    (hsp : ∀ msg, (execute P S ms seed s fuel segFuel).outcome ≠ .schedPanic msg)
    (hst : (execute P S ms seed s fuel segFuel).outcome ≠ .stopped)
    (hdf : DataFaithful seed (execute P S ms seed s fuel segFuel).st.log.toList)
    (hwf : (recordedOf seed (execute P S ms seed s fuel segFuel)).wf) :
    ∃ res rsF, Replay.replay P (serializeSchedule (recordedOf seed (execute P S ms seed s fuel segFuel))) ms fuel
        segFuel = some res ∧
      res.execs = [(seed, reRes (execute P S ms seed s fuel segFuel) rsF)] ∧
      res.count = (if (execute P S ms seed s fuel segFuel).outcome.isFailure then none else some 1) ∧
      res.newExecPanic = none := by
  obtain ⟨h0, rsF, h1, h2, h3, h4, h5⟩ := replay_faithful_core P S ms seed s fuel segFuel hsp hst hdf
  unfold Replay.replay
  rw [replay_from_string _ hwf]
  simp only [runner, h0, h1]
  by_cases hf : (execute P S ms seed s fuel segFuel).outcome.isFailure = true
  · refine ⟨_, rsF, rfl, ?_⟩
    simp [reRes, hf]
  · have hn : replayScheduler.newExec rsF = .none := newExec_replayStarted _ h5
    refine ⟨_, rsF, rfl, ?_⟩
    simp [reRes, hf, hn]

/-- **builtin_data_faithful**: every execution started by the `Runner` loop under the round-robin, the random or
the DFS scheduler (from any scheduler state, for any program) is `DataFaithful` for the seed `new_execution`
returned — unless it ended with a scheduler panic (e.g. DFS with `allow_random_data = false` asked for data). -/
theorem builtin_data_faithful (P : Program) (ms : MaxSteps) (fuel segFuel iters : Nat) :
    (∀ (s : RRState), ∀ x ∈ (runner P rrScheduler ms fuel segFuel iters s []).execs, ExecFaithful x) ∧
    (∀ (s : Rng.RandomScheduler), ∀ x ∈ (runner P randomScheduler ms fuel segFuel iters s []).execs,
      ExecFaithful x) ∧
    (∀ (s : DfsFull), ∀ x ∈ (runner P dfsScheduler ms fuel segFuel iters s []).execs, ExecFaithful x) :=
  ⟨fun s => runner_data_faithful rr_dataFull P ms fuel segFuel iters s [] (by simp),
   fun s => runner_data_faithful random_dataFull P ms fuel segFuel iters s [] (by simp),
   fun s => runner_data_faithful dfs_dataFull P ms fuel segFuel iters s [] (by simp)⟩

/-- single-execution form: after `new_execution` returned `seed`, the execution is `DataFaithful seed` -/
theorem builtin_data_faithful_exec (P : Program) (ms : MaxSteps) (fuel segFuel : Nat) :
    (∀ (s s' : RRState) seed, rrScheduler.newExec s = .some seed s' →
      (∀ msg, (execute P rrScheduler.sched ms seed s' fuel segFuel).outcome ≠ .schedPanic msg) →
      DataFaithful seed (execute P rrScheduler.sched ms seed s' fuel segFuel).st.log.toList) ∧
    (∀ (s s' : Rng.RandomScheduler) seed, randomScheduler.newExec s = .some seed s' →
      (∀ msg, (execute P randomScheduler.sched ms seed s' fuel segFuel).outcome ≠ .schedPanic msg) →
      DataFaithful seed (execute P randomScheduler.sched ms seed s' fuel segFuel).st.log.toList) ∧
    (∀ (s s' : DfsFull) seed, dfsScheduler.newExec s = .some seed s' →
      (∀ msg, (execute P dfsScheduler.sched ms seed s' fuel segFuel).outcome ≠ .schedPanic msg) →
      DataFaithful seed (execute P dfsScheduler.sched ms seed s' fuel segFuel).st.log.toList) :=
  ⟨fun _ s' seed h hne => dataFaithful_of_proj rr_dataFull.sched P ms seed s' fuel segFuel
      (rr_dataFull.newExec _ _ _ h) hne,
   fun _ s' seed h hne => dataFaithful_of_proj random_dataFull.sched P ms seed s' fuel segFuel
      (random_dataFull.newExec _ _ _ h) hne,
   fun _ s' seed h hne => dataFaithful_of_proj dfs_dataFull.sched P ms seed s' fuel segFuel
      (dfs_dataFull.newExec _ _ _ h) hne⟩

section examples

theorem not_schedPanic_of_eq {o o' : Outcome} (h : o = o') (h' : ∀ msg, o' ≠ .schedPanic msg) :
    ∀ msg, o ≠ .schedPanic msg := by subst h; exact h'

/-- the 3-task program `exR` (two draws, a yield, observations that depend on the draws and on the interleaving)
under the round-robin scheduler, first execution (seed 0) -/
abbrev runR := execute exR rrScheduler.sched .none 0 rr1 50 50
/-- its panicking variant (task 1 panics because main drew an even number) -/
abbrev runRPanic := execute exRPanic rrScheduler.sched .none 0 rr1 50 50
/-- its deadlocking variant -/
abbrev runRDeadlock := execute exRDeadlock rrScheduler.sched .none 0 rr1 50 50

def schR : Schedule :=
  ⟨0, [.task 0, .task 1, .task 2, .task 0, .random, .task 1, .random, .task 2, .task 0]⟩

theorem runs_outcome : runR.outcome = .ok ∧ runRPanic.outcome = .panic 1 "even" ∧
    runRDeadlock.outcome = .deadlock [(0, false, false)] := by decide +kernel

example : runR.outcome = .ok ∧ runRPanic.outcome = .panic 1 "even" ∧
    runRDeadlock.outcome = .deadlock [(0, false, false)] := runs_outcome

theorem runR_schedule : runR.st.k.schedule_ =
    [.task 0, .task 1, .task 2, .task 0, .random, .task 1, .random, .task 2, .task 0] := by decide +kernel

example : recordedOf 0 runR = schR := by
  show Schedule.mk 0 (runR.st.k.schedule_.map ofSStep) = schR
  rw [runR_schedule]; rfl

/-- the hypotheses of `replay_faithful` hold for the three runs (`DataFaithful` through `builtin_data_faithful`) -/
example : (∀ msg, runR.outcome ≠ .schedPanic msg) ∧ runR.outcome ≠ .stopped ∧
    DataFaithful 0 runR.st.log.toList := by
  have h := runs_outcome.1
  have hsp := not_schedPanic_of_eq h (by intro msg hh; cases hh)
  refine ⟨hsp, ?_, (builtin_data_faithful_exec exR .none 50 50).1 rr0 rr1 0 rr_newExec hsp⟩
  rw [h]; intro hh; cases hh

example : (∀ msg, runRPanic.outcome ≠ .schedPanic msg) ∧ runRPanic.outcome ≠ .stopped ∧
    DataFaithful 0 runRPanic.st.log.toList := by
  have h := runs_outcome.2.1
  have hsp := not_schedPanic_of_eq h (by intro msg hh; cases hh)
  refine ⟨hsp, ?_, (builtin_data_faithful_exec exRPanic .none 50 50).1 rr0 rr1 0 rr_newExec hsp⟩
  rw [h]; intro hh; cases hh

example : (∀ msg, runRDeadlock.outcome ≠ .schedPanic msg) ∧ runRDeadlock.outcome ≠ .stopped ∧
    DataFaithful 0 runRDeadlock.st.log.toList := by
  have h := runs_outcome.2.2
  have hsp := not_schedPanic_of_eq h (by intro msg hh; cases hh)
  refine ⟨hsp, ?_, (builtin_data_faithful_exec exRDeadlock .none 50 50).1 rr0 rr1 0 rr_newExec hsp⟩
  rw [h]; intro hh; cases hh

/-- the conclusion, checked independently by evaluation: replaying `schR` gives the same log (12 events: 8
consultations, 2 draws with their 64-bit values, 3 observations), outcome and recorded schedule; the cursor ends
at 9 = the length of the schedule -/
example :
    (execute exR replayScheduler.sched .none 0 (replayStart schR) 50 50).st.log.toList = runR.st.log.toList ∧
    (execute exR replayScheduler.sched .none 0 (replayStart schR) 50 50).st.log.toList =
      [.dec [0] none false (some 0), .dec [0, 1, 2] (some 0) false (some 1),
       .dec [0, 1, 2] (some 1) false (some 2), .dec [0, 1, 2] (some 2) true (some 0),
       .draw 6198063878555692194, .dec [0, 1, 2] (some 0) false (some 1), .obs "main drew an even number",
       .draw 15457584781082106573, .obs "odd", .dec [0, 2] (some 1) false (some 2),
       .obs "child 2 ran after main stored", .dec [0] (some 2) false (some 0)] ∧
    (execute exR replayScheduler.sched .none 0 (replayStart schR) 50 50).outcome = .ok ∧
    recordedOf 0 (execute exR replayScheduler.sched .none 0 (replayStart schR) 50 50) = schR ∧
    (execute exR replayScheduler.sched .none 0 (replayStart schR) 50 50).st.sch.steps = 9 := by
  decide +kernel

/-- the panicking and the deadlocking run replay to the same panic / the same deadlock report -/
example :
    (execute exRPanic replayScheduler.sched .none 0 (replayStart (recordedOf 0 runRPanic)) 50 50).outcome =
      .panic 1 "even" ∧
    (execute exRDeadlock replayScheduler.sched .none 0 (replayStart (recordedOf 0 runRDeadlock)) 50 50).outcome =
      .deadlock [(0, false, false)] := by
  decide +kernel

/-- `DataFaithful` is necessary: `lastCount` answers `next_u64` with 100, 101, … (not the stream of its seed); its
run is complete and passes, but replaying the schedule it recorded draws other numbers, and the run differs -/
example :
    (execute exR lastCount .none 0 0 50 50).outcome = .ok ∧
    draws (execute exR lastCount .none 0 0 50 50).st.log.toList = [100, 101] ∧
    draws (execute exR replayScheduler.sched .none 0
      (replayStart (recordedOf 0 (execute exR lastCount .none 0 0 50 50))) 50 50).st.log.toList =
      [6198063878555692194, 15457584781082106573] := by
  decide +kernel

/-- a schedule that does not fit: each of the replay scheduler's panics is reachable in general -/
example :
    (execute exR replayScheduler.sched .none 0 (replayStart ⟨0, [.task 0, .random]⟩) 50 50).outcome =
      .schedPanic msgExpectedSwitch ∧
    (execute exR replayScheduler.sched .none 0 (replayStart ⟨0, [.task 0, .task 1]⟩) 50 50).outcome =
      .schedPanic msgEndedEarly ∧
    (execute exR replayScheduler.sched .none 0 (replayStart ⟨0, [.task 0, .task 5]⟩) 50 50).outcome =
      .schedPanic msgNotRunnable ∧
    (execute exR replayScheduler.sched .none 0 (replayStart ⟨0, [.task 0, .task 0, .task 0]⟩) 50 50).outcome =
      .schedPanic msgExpectedRandom ∧
    (execute exR replayScheduler.sched .none 0 (replayStart ⟨0, [.task 0, .task 0]⟩) 50 50).outcome =
      .schedPanic msgIndex := by
  decide +kernel

theorem schR_printed : serializeSchedule schR = "9102090010510900" ∧ schR.wf := by decide +kernel

/-- `replay_from_string` on the printed form of `schR` -/
example : serializeSchedule schR = "9102090010510900" ∧ schR.wf := schR_printed

example : newFromEncoded "9102090010510900" = some (newFromSchedule schR) := by
  rw [← schR_printed.1]; exact replay_from_string schR schR_printed.2

example : newFromEncoded " 9102 0900\n\t10510900 " = some (newFromSchedule schR) :=
  replay_from_string_ws schR schR_printed.2 _ (by decide +kernel)

example : (recordedOf 0 runR).wf := by
  refine recorded_wf 0 runR.st.k.schedule_ (by decide) ?_ (by rw [runR_schedule]; decide)
  intro t ht
  rw [runR_schedule] at ht
  simp at ht
  omega

/-- the entry point on the printed schedule: one execution, `Ok(1)` -/
example : (Replay.replay exR "9102090010510900" .none 50 50).map
    (fun res => (res.count, res.execs.map (fun e => (e.1, e.2.outcome)))) = some (some 1, [(0, .ok)]) := by
  decide +kernel

end examples

/-! ### the uncontrolled-nondeterminism checker

What `UncontrolledNondeterminismCheckScheduler` compares (NondetCheck.lean): during the *recording* execution
it stores, per `next_task`, the inner scheduler's choice, the runnable ids it was shown and `is_yielding`, and
per `next_u64` the value; during the *checking* execution (seed 0, inner scheduler not consulted) it panics with
"possible nondeterminism" if (a) a call arrives after the recording is exhausted, (b) a `next_task` call meets a
recorded `Random` or vice versa, (c) the runnable ids differ, (d) `is_yielding` differs; and at the next
`new_execution` if (e) the checking execution consumed fewer steps than recorded.  `current` is not compared.
-/

/-- **nondet_check_never_rejects**, one pair of executions, for EVERY program, EVERY inner scheduler `F` (any
state type, no `DataFaithful` assumption — the checker replays the drawn values themselves) and every idle
checker state (e.g. `new s`): if `F.new_execution` returns `seed`/`inner` and `F`'s execution `rF` does not end
in a scheduler panic, then
* `new_execution` of the checker does not panic, consults `F.new_execution` once and starts the recording;
* the recording execution is `rF` (same log, outcome, kernel, user state) and ends with
  `previous_schedule = recsOf rF.log`;
* the next `new_execution` does NOT consult `F`, returns seed 0 and starts the checking execution;
* the checking execution is `rF` again (up to the seed field of the kernel): none of the checker's panics fires,
  and the checker is idle again afterwards — so the next `new_execution` does not raise (e) either. -/
theorem nondet_check_never_rejects_pair (F : FullScheduler σ) (P : Program) (ms : MaxSteps) (fuel segFuel : Nat)
    (ns : NondetState σ) (hidle : Idle ns) (seed : Nat) (inner : σ)
    (hnew : F.newExec ns.scheduler = .some seed inner)
    (hne : ∀ msg, (execute P F.sched ms seed inner fuel segFuel).outcome ≠ .schedPanic msg) :
    (check F).newExec ns = .some seed (recStart inner) ∧
    execute P (check F).sched ms seed (recStart inner) fuel segFuel =
      reRes (execute P F.sched ms seed inner fuel segFuel)
        (recEnd (execute P F.sched ms seed inner fuel segFuel).st.sch
          (execute P F.sched ms seed inner fuel segFuel).st.log.toList) ∧
    (check F).newExec (recEnd (execute P F.sched ms seed inner fuel segFuel).st.sch
        (execute P F.sched ms seed inner fuel segFuel).st.log.toList) =
      .some 0 (chkStart (execute P F.sched ms seed inner fuel segFuel).st.sch
        (execute P F.sched ms seed inner fuel segFuel).st.log.toList) ∧
    ∃ nsF, execute P (check F).sched ms 0
        (chkStart (execute P F.sched ms seed inner fuel segFuel).st.sch
          (execute P F.sched ms seed inner fuel segFuel).st.log.toList) fuel segFuel =
        reRes (resSeed 0 (execute P F.sched ms seed inner fuel segFuel)) nsF ∧
      Idle nsF ∧ nsF.scheduler = (execute P F.sched ms seed inner fuel segFuel).st.sch := by
  refine ⟨?_, recording_exec F P ms seed inner fuel segFuel hne, rfl,
    checking_exec F P ms seed inner fuel segFuel hne⟩
  rw [newExec_idle F ns hidle, hnew]

/-- **nondet_check_never_rejects**, whole runs: if the inner scheduler's own executions of `P` never end in a
scheduler panic (`InnerOK`), then in `Runner::run` under the checker — any number of iterations, started from a
fresh checker — no execution ends with a scheduler panic, in particular with none of the six "possible
nondeterminism" panics of `next_task`/`next_u64`, and `new_execution` never raises the seventh ("ended earlier
than expected"). -/
theorem nondet_check_never_rejects (F : FullScheduler σ) (P : Program) (ms : MaxSteps) (fuel segFuel : Nat)
    (hF : InnerOK F P ms fuel segFuel) (iters : Nat) (s : σ) :
    RunOK (runner P (check F) ms fuel segFuel iters (NondetCheck.new s) []) :=
  runner_check_ok hF iters _ [] (Or.inl (idle_new s)) (by simp)

/-- `F.new_execution` is consulted once per pair: in an idle state the checker's `new_execution` is the inner
one; right after a recording it is not consulted at all. -/
theorem nondet_check_newExec_once_per_pair (F : FullScheduler σ) :
    (∀ ns, Idle ns → (check F).newExec ns =
      match F.newExec ns.scheduler with
      | .none => .none
      | .panic m => .panic m
      | .some seed inner => .some seed (recStart inner)) ∧
    (∀ s l, (check F).newExec (recEnd s l) = .some 0 (chkStart s l)) :=
  ⟨newExec_idle F, newExec_recEnd F⟩

/-- the round-robin scheduler satisfies `InnerOK` for every program -/
theorem rr_innerOK (P : Program) (ms : MaxSteps) (fuel segFuel : Nat) : InnerOK rrScheduler P ms fuel segFuel where
  noSchedPanic := fun seed s => execute_not_schedPanic rr_wellBehaved P ms seed s fuel segFuel
  newExecMsg := by
    intro s msg h
    simp only [rrScheduler] at h
    split at h <;> cases h

section examples

/-- the checker around round-robin on `exR`, 3 inner iterations: 6 executions, `Ok(6)`, every checking execution
(odd positions, seed 0) has the log of the recording before it -/
example : RunOK (runner exR (check rrScheduler) .none 50 50 10 (NondetCheck.new rr0) []) :=
  nondet_check_never_rejects rrScheduler exR .none 50 50 (rr_innerOK exR .none 50 50) 10 rr0

example :
    (runner exR (check rrScheduler) .none 50 50 10 (NondetCheck.new rr0) []).count = some 6 ∧
    (runner exR (check rrScheduler) .none 50 50 10 (NondetCheck.new rr0) []).execs.map (·.2.outcome) =
      [.ok, .ok, .ok, .ok, .ok, .ok] ∧
    ((runner exR (check rrScheduler) .none 50 50 10 (NondetCheck.new rr0) []).execs.map (·.2.st.log.toList))[1]? =
      some runR.st.log.toList := by
  decide +kernel

/-- the pair theorem applies to the panicking and the deadlocking variant too (their failures are reproduced by the
checking execution, not turned into "possible nondeterminism") -/
example : (runner exRPanic (check rrScheduler) .none 50 50 10 (NondetCheck.new rr0) []).execs.map (·.2.outcome) =
    [.panic 1 "even"] := by decide +kernel

/-- the checker's panics are reachable in general: checking `exR` against the recording of a *different* body
(`exRPanic`) is rejected — "set of runnable tasks is different" -/
example :
    (execute exR (check rrScheduler).sched .none 0 (chkStart rr1 runRPanic.st.log.toList) 50 50).outcome =
      .schedPanic msgRunnable := by decide +kernel

/-- … and a recording that is longer than the execution makes the next `new_execution` panic -/
example : ∃ msg, (check rrScheduler).newExec
    { scheduler := rr1, recording := false, previousSchedule := [.random 1], currentStep := 0 } = .panic msg :=
  ⟨_, rfl⟩

end examples

/-! ### target clock (needed by C15)

FULL statement wanted (not proved): in a whole replay *execution* with `target_clock = Some(c)`, every recorded
step that happens-before the target event is executed and only steps concurrent with it are dropped, and the
surviving steps see the same draws.  What is proved is the part about `next_task` alone: -/

/-- **target_clock_keeps_dependencies_partial** (`ReplayScheduler::next_task` with `target_clock = Some(c)`):
1. if the next recorded step is a task whose clock is `≤ c` (`Clock.le` = Rust's `PartialOrd` on `VectorClock`) and
   it is among the runnable tasks, it is returned at once: never skipped, cursor + 1, data source and
   `steps_skipped` untouched;
2. if its clock is not `≤ c`, that step AND the block of `Random` steps following it are consumed — cursor
   `+ 1 + n`, the data source advanced by exactly `n` draws, `steps_skipped + 1 + n` — and the loop continues from
   there;
3. whatever `next_task` finally returns is a runnable task whose clock is `≤ c`;
4. the model's loop fuel never runs out. -/
theorem target_clock_keeps_dependencies_partial (s : ReplayState) (views : List TaskView) (cur : Option Nat)
    (y : Bool) (c : Clock) (htarget : s.targetClock = some c) :
    (∀ t task, s.schedule.steps[s.steps]? = some (.task t) → views.find? (fun v => v.id == t) = some task →
      task.clock.le c = true →
      Replay.nextTask s views cur y = (.choose (some t), { s with steps := s.steps + 1 })) ∧
    (∀ fuel t task, s.schedule.steps[s.steps]? = some (.task t) → views.find? (fun v => v.id == t) = some task →
      task.clock.le c = false →
      nextTaskLoop (fuel + 1) s views =
        nextTaskLoop fuel
          { s with steps := s.steps + 1 + leadingRandoms (s.schedule.steps.drop (s.steps + 1)),
                   data := advanceData s.data (leadingRandoms (s.schedule.steps.drop (s.steps + 1))),
                   stepsSkipped := s.stepsSkipped + (1 + leadingRandoms (s.schedule.steps.drop (s.steps + 1))) }
          views) ∧
    (∀ t s', Replay.nextTask s views cur y = (.choose (some t), s') →
      ∃ task, views.find? (fun v => v.id == t) = some task ∧ task.clock.le c = true) ∧
    (s.steps ≤ s.schedule.steps.length → (Replay.nextTask s views cur y).1 ≠ .panic msgFuel) :=
  ⟨fun t task h1 h2 h3 => nextTask_step s views cur y t task h1 h2 fun _ hc =>
      Option.some.inj (htarget.symm.trans hc) ▸ h3,
   fun fuel t task h1 h2 h3 => nextTaskLoop_skips_concurrent fuel s views c t task htarget h1 h2 h3,
   fun t s' h => nextTaskLoop_choice_le c _ s views t s' htarget h,
   fun h => nextTaskLoop_fuel _ s views h (Nat.le_refl _)⟩

section examples

def rsClock : ReplayState :=
  { schedule := ⟨0, [.task 1, .random, .random, .task 0]⟩, data := seededSource 0,
    targetClock := some (Clock.ofList [1, 0]), started := true }

def viewsClock : List TaskView :=
  [{ id := 0, clock := Clock.ofList [1, 0], parent := none }, { id := 1, clock := Clock.ofList [1, 1], parent := some 0 }]

/-- task 1 (clock `[1,1]`, concurrent with the target `[1,0]`) and its two draws are skipped — cursor 4, three
steps skipped, the data source is two draws further — and task 0 (clock `[1,0] ≤ [1,0]`) is returned -/
example :
    (match (Replay.nextTask rsClock viewsClock none false).1 with
      | .choose ch => some ch
      | .panic _ => none) = some (some 0) ∧
    (Replay.nextTask rsClock viewsClock none false).2.steps = 4 ∧
    (Replay.nextTask rsClock viewsClock none false).2.stepsSkipped = 3 ∧
    (Replay.nextTask rsClock viewsClock none false).2.data = advanceData (seededSource 0) 2 := by
  decide +kernel

/-- clause 1 on a concrete state: with target `[1,1]` nothing is skipped -/
example : Replay.nextTask { rsClock with targetClock := some (Clock.ofList [1, 1]) } viewsClock none false =
    (.choose (some 1), { rsClock with targetClock := some (Clock.ofList [1, 1]), steps := 1 }) :=
  (target_clock_keeps_dependencies_partial _ viewsClock none false (Clock.ofList [1, 1]) rfl).1 1
    { id := 1, clock := Clock.ofList [1, 1], parent := some 0 } rfl rfl (by decide)

end examples

end ShuttleProofs.C01

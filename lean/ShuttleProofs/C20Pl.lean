import ShuttleProofs.Lemmas.PlInv
/-
  C20 (parking_lot part) — theorems about the pure model of the parking_lot `RawRwLock`
  (ShuttleModel/Wrap/PlLocks.lean): over ALL histories of a most-general client (`PlCfg.run`, any
  number of tasks, any interleaving of the atomic steps of the operations, one guard per task — the
  Rust code tracks no owners, so a task holding two guards is indistinguishable from two tasks).

  `M` is `MAX_READERS`; the statements hold for every `M ≥ 1` and are instantiated with the real
  constant (`PL_MAX = usize::MAX >> 3`) in the examples.
-/
namespace ShuttleProofs.C20Pl
open ShuttleModel ShuttleProofs.Pl

/-- the accounting half of `Pl.Inv`:
`sem.avail + readers + upgradable + MAX·writers = MAX` and `upgradable_sem.avail + upgradable = 1` -/
theorem pl_permit_accounting {M n : Nat} (hM : 1 ≤ M) (c : PlCfg) (h : Reachable M n c) :
    c.sem.avail + total (PlPhase.semPermits M) c.ph = M ∧ c.up.avail + total PlPhase.upPermits c.ph = 1 :=
  ⟨(inv_reachable hM c h).sem.acct, (inv_reachable hM c h).up.acct⟩

theorem lt_of_phase_ne_idle {c : PlCfg} {t : Nat} (h : c.phase t ≠ .idle) : t < c.ph.length :=
  Decidable.byContradiction fun ht => h (phAt_of_not_lt ht)

theorem isW_sem (M : Nat) (p : PlPhase) : p.isW = true → p.semPermits M = M := by
  fun_cases PlPhase.isW p <;> first | exact fun _ => rfl | nofun

theorem isShared_sem (M : Nat) (p : PlPhase) : p.isShared = true → p.semPermits M = 1 := by
  fun_cases PlPhase.isShared p <;> first | exact fun _ => rfl | nofun

/-- shared and exclusive access do not coexist: the two clients would own `MAX + 1` permits -/
theorem not_shared_and_writer {M : Nat} {c : PlCfg} (h : Inv M c) {t u : Nat}
    (hs : (c.phase t).isShared = true) (hw : (c.phase u).isW = true) : False := by
  by_cases hne : t = u
  · subst hne
    revert hs hw
    fun_cases PlPhase.isShared (c.phase t) <;> nofun
  · have := h.sem.two_le rfl hne
    rw [← phase_eq, ← phase_eq, isShared_sem M _ hs, isW_sem M _ hw] at this
    omega

/-- **Exclusion.** While a task has exclusive access (including the unfinished conversions that
still own all permits), no other task has exclusive, shared or upgradable access. -/
theorem pl_exclusion {M n : Nat} (hM : 1 ≤ M) (c : PlCfg) (h : Reachable M n c) (t u : Nat) (hne : t ≠ u)
    (hw : (c.phase t).isW = true) : (c.phase u).isW = false ∧ (c.phase u).isShared = false := by
  have hi := inv_reachable hM c h
  refine ⟨Bool.eq_false_iff.mpr fun hu => ?_, Bool.eq_false_iff.mpr fun hu => not_shared_and_writer hi hu hw⟩
  -- two writers would own `2·MAX`
  have := hi.sem.two_le rfl hne
  rw [← phase_eq, ← phase_eq, isW_sem M _ hw, isW_sem M _ hu] at this
  omega

/-- the phase reserved for "an upgrade request was granted while its owner still held its read
permit" is unreachable: `BatchSemaphore::upgrade`'s single poll never succeeds -/
theorem pl_upgrade_poll_never_succeeds {M n : Nat} (hM : 1 ≤ M) (c : PlCfg) (h : Reachable M n c) (t : Nat) :
    c.phase t ≠ .bad := by
  intro hb
  have := (inv_reachable hM c h).sem.le (t := t) rfl
  rw [← phase_eq, hb] at this
  exact Nat.not_succ_le_self M this

/-- **At most one upgradable holder** (counting the operations in progress that own the slot). -/
theorem pl_one_upgradable {M n : Nat} (hM : 1 ≤ M) (c : PlCfg) (h : Reachable M n c) (t u : Nat)
    (ht' : (c.phase t).isUp = true) (hu' : (c.phase u).isUp = true) : t = u := by
  apply Decidable.byContradiction
  intro hne
  have := (inv_reachable hM c h).up.two_le rfl hne
  rw [← phase_eq, ← phase_eq, beq_iff_eq.mp ht', beq_iff_eq.mp hu'] at this
  exact absurd this (by decide)

/-- non-vacuity: two plain readers and an upgradable reader hold the lock together; a writer is
queued behind them -/
example : ∃ c, PlCfg.run PL_MAX (PlCfg.init PL_MAX 4)
      [(0, .read), (1, .upread), (1, .cont), (2, .read), (3, .write)] = some c ∧
    c.phase 0 = .hR ∧ c.phase 1 = .hU ∧ c.phase 2 = .hR ∧ c.phase 3 = .wW ∧
    c.sem.avail = PL_MAX - 3 := ⟨_, rfl, by decide⟩

/-- Strict fairness at the level of the lock. A `try_*` operation takes its permits only when nobody
is queued on the semaphore it asks (`sem`; `upgradable_sem` for `try_lock_upgradable`), and then its
caller is in a new phase; so with a request queued there, or with its caller left in the phase it
was in, it returns the configuration as it found it. `lock_exclusive`, finding a request queued on
`sem`, joins the back of the queue. -/
theorem step_fair {M : Nat} {c c' : PlCfg} {t : Nat} {a : PlAct} :
    PlCfg.step M c t a = some c' →
    match a with
    | .tryRead | .tryWrite | .tryUpgrade => c.sem.queue ≠ [] ∨ c'.phase t = c.phase t → c' = c
    | .tryUpread => c.up.queue ≠ [] ∨ c'.phase t = c.phase t → c' = c
    | .write => c.sem.queue ≠ [] → c'.phase t = .wW ∧ c'.sem.queue = c.sem.queue ++ [(t, M)]
    | _ => True := by
  intro hs
  have ht := step_lt hs
  -- a `try_*` row whose semaphore `f` grants: its queue is empty and the caller moves from `p` to
  -- another phase `q`, so neither premise holds
  have taken : ∀ {f s : FSem} {n : Nat} {p q : PlPhase} {R : Prop}, f.tryAcq n = some s →
      c.phase t = p → q ≠ p → f.queue ≠ [] ∨ phAt (c.ph.set t q) t = c.phase t → R :=
    fun hty hp hne h => h.elim (absurd (tryAcq_eq_some.mp hty).1) fun h =>
      absurd ((phAt_set_eq ht).symm.trans (h.trans hp)) hne
  revert hs
  fun_cases PlCfg.step M c t a <;> rintro ⟨⟩ <;> try trivial
  -- `try_read` (taken, refused: the row returns `c`), `write`, then the other three `try_*` rows
  · next hp s hty => exact taken hty hp nofun
  · exact fun _ => rfl
  · intro hq
    simp only [PlCfg.acqSem, acq_queued hq]
    exact ⟨phAt_set_eq ht, trivial⟩
  · next hp s hty => exact taken hty hp nofun
  · exact fun _ => rfl
  · next hp s hty => exact taken hty hp nofun
  · exact fun _ => rfl
  · next hp s hty => exact taken hty hp nofun
  · exact fun _ => rfl

/-- A `try_*` operation that does not change the caller's phase (it reported failure) returns the
configuration unchanged — permits, queues and every other client. -/
theorem pl_try_leaves_nothing {M : Nat} (c c' : PlCfg) (t : Nat) (a : PlAct)
    (ha : a = .tryRead ∨ a = .tryWrite ∨ a = .tryUpread ∨ a = .tryUpgrade)
    (hs : PlCfg.step M c t a = some c') (hsame : c'.phase t = c.phase t) : c' = c := by
  rcases ha with rfl | rfl | rfl | rfl <;> exact step_fair hs (.inr hsame)

/-- the rollback path of `try_lock_upgradable`: the upgradable slot is taken, `sem` refuses, the slot
is given back — afterwards the configuration is exactly the one before the call -/
theorem pl_try_upread_rollback {M : Nat} (c c1 c2 c3 : PlCfg) (t : Nat)
    (h0 : c.phase t = .idle)
    (h1 : PlCfg.step M c t .tryUpread = some c1) (hp1 : c1.phase t = .tU1)
    (h2 : PlCfg.step M c1 t .cont = some c2) (hp2 : c2.phase t = .tU2)
    (h3 : PlCfg.step M c2 t .cont = some c3) : c3 = c := by
  have ht := step_lt h1
  have ht1 := step_lt h2
  have ht2 := step_lt h3
  unfold PlCfg.step at h1 h2 h3
  rw [if_neg (Nat.not_le.mpr ht), h0] at h1
  rw [if_neg (Nat.not_le.mpr ht1), hp1] at h2
  rw [if_neg (Nat.not_le.mpr ht2), hp2] at h3
  dsimp only at h1 h2 h3
  -- step 1: the slot is free and nobody is queued on it
  split at h1 <;> cases h1
  · next s hty =>
    obtain ⟨hq, hn, rfl⟩ := tryAcq_eq_some.mp hty
    -- step 2: `sem` refuses
    split at h2 <;> cases h2
    · exact absurd ((phAt_set_eq ht1).symm.trans hp2) nofun
    · -- step 3: the slot is released, nobody was queued
      cases h3
      obtain ⟨sem, ⟨av, q⟩, ph⟩ := c
      cases hq
      have hget : ph[t] = .idle := by simpa [PlCfg.phase, ht] using h0
      simp [PlCfg.relUp, PlCfg.setPh, FSem.rel, FSem.grant, PlCfg.advance, Nat.sub_add_cancel hn,
        ← hget]
  · exact absurd (hp1.symm.trans h0) nofun

/-
  FALSE on this tree (F8) — `pl_upgrade_atomic`: "between the upgradable read and the completion of the
  upgrade nobody else has exclusive access" (the statement refuted in `pl_upgrade_atomic_is_false`).
  `BatchSemaphore::upgrade` queues the request for all permits BEHIND the requests that are already
  queued and then releases the read permit, so a writer that queued before the upgrade gets the lock
  first: `pl_upgrade_overtaken_witness`.  What does hold is FIFO order: `pl_upgrade_atomic_partial`.
-/

/-- F8: task 0 holds the upgradable read, task 1 queues a `write`, task 0 upgrades: after the two
atomic steps of `sem.upgrade(1, MAX)` task 1 is the writer and task 0 is still waiting. -/
theorem pl_upgrade_overtaken_witness :
    ∃ c, PlCfg.run PL_MAX (PlCfg.init PL_MAX 2)
        [(0, .upread), (0, .cont), (1, .write), (0, .upgrade), (0, .cont)] = some c ∧
      c.phase 0 = .upg2 ∧ c.phase 1 = .hW ∧ c.sem.queue = [(0, PL_MAX)] :=
  ⟨_, rfl, by decide⟩

/-- the witness refutes `pl_upgrade_atomic` (for `M = PL_MAX`, two tasks) -/
theorem pl_upgrade_atomic_is_false :
    ¬ (∀ (c c' : PlCfg) (t : Nat) (acts : List (Nat × PlAct)), Reachable PL_MAX 2 c → c.phase t = .hU →
        PlCfg.run PL_MAX c ((t, .upgrade) :: acts) = some c' →
        (c'.phase t = .upg1 ∨ c'.phase t = .upg2) → ∀ u, u ≠ t → (c'.phase u).isW = false) := by
  intro hall
  have hreach : Reachable PL_MAX 2
      { sem := { avail := PL_MAX - 1, queue := [(1, PL_MAX)] }, up := { avail := 0 }, ph := [.hU, .wW] } :=
    ⟨[(0, .upread), (0, .cont), (1, .write)], by decide⟩
  have := hall _ { sem := { avail := 0, queue := [(0, PL_MAX)] }, up := { avail := 0 }, ph := [.upg2, .hW] }
    0 [(0, .cont)] hreach (by decide) (by decide) (by decide) 1 (by decide)
  revert this
  decide

/-- **What holds (1/2): no barging.** While any request is queued on `sem` — in particular while
an upgrade request is — a task that ARRIVES cannot take exclusive access: `try_write` and
`try_upgrade` change nothing, `write` joins the BACK of the queue. -/
theorem pl_upgrade_atomic_partial {M : Nat} (c c' : PlCfg) (u : Nat) (hq : c.sem.queue ≠ []) :
    (PlCfg.step M c u .tryWrite = some c' → c' = c) ∧
    (PlCfg.step M c u .tryUpgrade = some c' → c' = c) ∧
    (PlCfg.step M c u .write = some c' → c'.phase u = .wW ∧ c'.sem.queue = c.sem.queue ++ [(u, M)]) :=
  ⟨fun h => step_fair h (.inl hq), fun h => step_fair h (.inl hq), fun h => step_fair h hq⟩

/-- **What holds (2/2): FIFO grants.** A release grants a PREFIX of the queue: whatever is queued
behind the upgrade request is granted only if the upgrade request is granted by the same release
(and then there is nothing left for a second writer, `pl_exclusion`). -/
theorem pl_grants_are_a_prefix (q : List (Nat × Nat)) (a : Nat) :
    q = (FSem.grant q a).1 ++ (FSem.grant q a).2.1 := (grant_spec q a).1

/-
  FALSE on this tree (F9) — `pl_downgrades_do_not_wait` for `downgrade_to_upgradable`:

    theorem pl_downgrades_do_not_wait {M n} (hM : 1 ≤ M) (c : PlCfg) (h : Reachable M n c) (t : Nat)
        (a : PlAct) (ha : a = .downgrade ∨ a = .downUp ∨ a = .toUpRead) (c' : PlCfg)
        (hs : PlCfg.step M c t a = some c') :
        (c'.phase t = .hR ∨ c'.phase t = .hU ∨ c'.phase t = .du2) ∧ ∀ u, (c'.phase u).isW = true → u = t

  `downgrade_to_upgradable` ACQUIRES `upgradable_sem` while it owns all of `sem`; a queued
  `upgradable_read` owns that slot and waits for `sem`: `pl_down_up_deadlock_witness`.
-/

/-- F9: task 0 writes, task 1 starts `upgradable_read` (takes the slot, queues on `sem`), task 0
calls `downgrade_to_upgradable`: it queues on the slot while still exclusive; nobody can move. -/
theorem pl_down_up_deadlock_witness :
    ∃ c, PlCfg.run PL_MAX (PlCfg.init PL_MAX 2)
        [(0, .write), (1, .upread), (1, .cont), (0, .downUp)] = some c ∧
      c.phase 0 = .du1 ∧ c.phase 1 = .wU2 ∧ c.stuck = true ∧
      c.sem.queue = [(1, 1)] ∧ c.up.queue = [(0, 1)] :=
  ⟨_, rfl, by decide⟩

/-- **What holds**: `downgrade` (write → read) and `downgrade_upgradable` (upgradable → read) are
always enabled for the holder, complete in ONE atomic step — they only release — and leave no writer
anywhere: no writer is admitted. -/
theorem pl_downgrades_do_not_wait_partial {M n : Nat} (hM : 1 ≤ M) (c : PlCfg) (h : Reachable M n c) (t : Nat) :
    (c.phase t = .hW → ∃ c', PlCfg.step M c t .downgrade = some c' ∧ c'.phase t = .hR ∧
        ∀ u, (c'.phase u).isW = false) ∧
    (c.phase t = .hU → ∃ c', PlCfg.step M c t .toUpRead = some c' ∧ c'.phase t = .hR ∧
        ∀ u, (c'.phase u).isW = false) := by
  have hi := inv_reachable hM c h
  -- a step that leaves `t` a reader leaves no writer anywhere
  have fin : ∀ {a : PlAct} {c' : PlCfg}, PlCfg.step M c t a = some c' → c'.phase t = .hR →
      ∃ c', PlCfg.step M c t a = some c' ∧ c'.phase t = .hR ∧ ∀ u, (c'.phase u).isW = false :=
    fun hs hph => ⟨_, hs, hph, fun u => Bool.eq_false_iff.mpr
      (not_shared_and_writer (inv_step hM c _ t _ hi hs) (t := t) (by rw [hph]; rfl))⟩
  -- both steps are a release, and the releasing task, being in no queue, is not moved by it
  constructor <;> intro hp
  · have ht : t < c.ph.length := lt_of_phase_ne_idle (hp ▸ nofun)
    exact fin (c' := c.relSem t .hR (M - 1)) (by unfold PlCfg.step; rw [if_neg (Nat.not_le.mpr ht), hp])
      (hi.sem.phase_after_grant ht hp rfl ..)
  · have ht : t < c.ph.length := lt_of_phase_ne_idle (hp ▸ nofun)
    exact fin (c' := c.relUp t .hR) (by unfold PlCfg.step; rw [if_neg (Nat.not_le.mpr ht), hp])
      (hi.up.phase_after_grant ht hp rfl ..)

/-- non-vacuity of the partial statement: a writer with a queued reader and a queued writer
downgrades; the reader is admitted, the writer is not -/
example : ∃ c c', PlCfg.run PL_MAX (PlCfg.init PL_MAX 3) [(0, .write), (1, .read), (2, .write)] = some c ∧
    PlCfg.step PL_MAX c 0 .downgrade = some c' ∧
    c'.phase 0 = .hR ∧ c'.phase 1 = .hR ∧ c'.phase 2 = .wW := ⟨_, _, rfl, rfl, by decide⟩

end ShuttleProofs.C20Pl

/-
  C10 — randomness of `RandomScheduler`: uniformity and history-freedom of `choose`,
  positivity of every offered task, and per-iteration reproducibility from the schedule seed.

  Model: `ShuttleModel.Rng` (bit-exact w.r.t. rand 0.8.8 / rand_core 0.6.4 / rand_pcg 0.3.1, see
  `ShuttleModel.RngVectors`). Helper definitions (`accept`, `rawDraw`, `advance`, `Program`,
  `runExec`, `runAll`) and lemmas live in `ShuttleProofs/Lemmas/Rng{Loop,Index,Sched}.lean`.

  Scope notes
  * `gen_index(n)` uses the u32 algorithm iff `n ≤ u32::MAX`, so the u32 statements below are for
    `0 < n < 2^32` (for `n = 2^32` Rust takes the 64-bit path; `choose_uniform_u64` covers the
    acceptance count of that path for all `0 < n < 2^64`).
  * Uniformity is a statement about the map from one raw 32-bit draw to the index (a counting
    statement over all `2^32` raw values). Nothing is claimed about the statistical quality of
    Pcg64Mcg's raw output sequence.
-/
import ShuttleModel.Rng
import ShuttleProofs.Lemmas.RngIndex
import ShuttleProofs.Lemmas.RngSched

namespace ShuttleProofs.C10
open ShuttleModel.Rng ShuttleProofs.Rng

/-- **Uniformity of `choose` conditional on acceptance.**
    `accept n v` is the index returned by one iteration of the u32 `gen_index(n)` rejection loop
    for the raw draw `v` (`none` = rejected). For every offered position `i < n` the number of raw
    32-bit values mapped to `i` is the same, namely `2^(n.leading_zeros())` `= (zone + 1) / n`
    with `zone = (n << n.leading_zeros()) - 1` as in the source. At least half of all raw values
    are accepted (`2^31 ≤ zone + 1 = n · 2^lz ≤ 2^32`). -/
theorem choose_uniform (n i : Nat) (hn : 0 < n) (hlt : n < 2 ^ 32) (hi : i < n) :
    ((Finset.range (2 ^ 32)).filter (fun v => accept n v = some i)).card
        = 2 ^ leadingZeros 32 n
    ∧ (zoneSingle 32 n + 1) / n = 2 ^ leadingZeros 32 n
    ∧ zoneSingle 32 n + 1 = n * 2 ^ leadingZeros 32 n
    ∧ 2 ^ 31 ≤ zoneSingle 32 n + 1 ∧ zoneSingle 32 n + 1 ≤ 2 ^ 32 := by
  obtain ⟨h1, h2⟩ := leadingZeros_spec (bits := 32) hn hlt
  have hz1 : zoneSingle 32 n + 1 = n * 2 ^ leadingZeros 32 n := by
    rw [zoneSingle_eq hn hlt]
    exact Nat.sub_add_cancel (Nat.mul_pos hn (Nat.two_pow_pos _))
  rw [hz1, Nat.mul_div_cancel_left _ hn]
  exact ⟨wmulStep_zoneSingle_card (bits := 32) hn hlt hi, rfl, rfl,
    Nat.le_of_mul_le_mul_left (show 2 * 2 ^ 31 ≤ 2 * _ from h2) Nat.zero_lt_two, Nat.le_of_lt h1⟩

/-- Non-vacuity: three offered tasks — each is selected by exactly `2^30` of the `2^32` raw draws
    (and `2^30` raw draws are rejected). -/
example : ((Finset.range (2 ^ 32)).filter (fun v => accept 3 v = some 2)).card = 2 ^ 30 :=
  (choose_uniform 3 2 (by decide) (by decide) (by decide)).1.trans (by decide +kernel)

example : accept 3 0 = some 0 ∧ accept 3 1431655766 = some 1 ∧ accept 3 4294967295 = none := by
  decide +kernel

/-- The connection between `accept` and the executable `genIndex` (= rand's `gen_index`):
    the first raw draw `v = next_u32()` either decides the call (`accept n v = some i`: return `i`,
    generator advanced by exactly one step) or is rejected and the loop continues with the next
    draw. -/
theorem choose_uniform_genIndex (n : Nat) (hn : 0 < n) (hlt : n < 2 ^ 32) (g : Pcg) (fuel : Nat) :
    genIndex g n (fuel + 1) =
      match accept n (nextU32 g).1 with
      | some i => some (i, (nextU64 g).2)
      | none => genIndex (nextU64 g).2 n fuel :=
  genIndex_succ hn hlt g fuel

/-- Non-vacuity (and a rejection actually happening): with seed 0 and `n = 2^31 + 1` the first raw draw is
    accepted, and the 4th (`rawDraw … 3`) is one that is rejected. -/
example :
    (genIndex (seedFromU64 0) 2147483649).map Prod.fst = some 540997201 ∧
    accept 2147483649 (rawDraw (seedFromU64 0) 3) = none := by
  decide +kernel

/-- The same counting statement for the 64-bit path of `gen_index` (`n > u32::MAX`, raw draws are
    `next_u64`): every index is hit by exactly `2^(n.leading_zeros())` of the `2^64` raw values. -/
theorem choose_uniform_u64 (n i : Nat) (hn : 0 < n) (hlt : n < 2 ^ 64) (hi : i < n) :
    ((Finset.range (2 ^ 64)).filter (fun v => accept64 n v = some i)).card
        = 2 ^ leadingZeros 64 n :=
  wmulStep_zoneSingle_card (bits := 64) hn hlt hi

example : ((Finset.range (2 ^ 64)).filter (fun v => accept64 (2 ^ 32) v = some 7)).card
    = 2 ^ 31 :=
  (choose_uniform_u64 (2 ^ 32) 7 (by decide) (by decide) (by decide)).trans (by decide +kernel)

/-- Every offered position has positive probability: some raw 32-bit draw selects it. -/
theorem every_offered_positive (n i : Nat) (hn : 0 < n) (hlt : n < 2 ^ 32) (hi : i < n) :
    ∃ v, v < 2 ^ 32 ∧ accept n v = some i := by
  obtain ⟨v, hv⟩ := Finset.card_pos.mp ((choose_uniform n i hn hlt hi).1 ▸ Nat.two_pow_pos _)
  rw [Finset.mem_filter, Finset.mem_range] at hv
  exact ⟨v, hv⟩

/-- Non-vacuity, with an explicit witness. -/
example : ∃ v, v < 2 ^ 32 ∧ accept 3 v = some 2 := every_offered_positive 3 2 (by decide) (by decide) (by decide)
example : accept 3 2863311531 = some 2 := by decide +kernel

/-- **`choose` is history-free.** On an empty slice nothing is drawn. On a non-empty slice of
    length `n < 2^32` the result is completely determined by the raw draws this very call
    consumes: `choose` returns `(r, g')` iff for some `k < fuel` the raw draws `0..k-1` from the
    incoming generator state are rejected, draw `k` is accepted with index `i`, `r = xs[i]`, and
    `g'` is the incoming state advanced by exactly those `k+1` draws. No other state exists. -/
theorem choose_history_free {α : Type} (g : Pcg) (xs : List α) (fuel : Nat) :
    (xs = [] → choose g xs fuel = some (none, g)) ∧
    (xs ≠ [] → xs.length < 2 ^ 32 →
      ∀ (r : Option α) (g' : Pcg),
        choose g xs fuel = some (r, g') ↔
          ∃ k i, k < fuel ∧ (∀ j, j < k → accept xs.length (rawDraw g j) = none) ∧
            accept xs.length (rawDraw g k) = some i ∧ i < xs.length ∧ r = xs[i]? ∧
            g' = advance (k + 1) g) :=
  ⟨fun h => h ▸ rfl, fun hne hlt r g' => choose_eq_some_iff hne hlt fuel g g' r⟩

/-- At the scheduler level: `next_task` is a function of the choice rng and the offered ids only
    (not of `iterations`, `max_iterations`, the data source, or anything chosen before). -/
theorem nextTask_history_free (s t : RandomScheduler) (ids : List Nat) (h : s.rng = t.rng) :
    (s.nextTask ids).1 = (t.nextTask ids).1 ∧ (s.nextTask ids).2.rng = (t.nextTask ids).2.rng :=
  nextTask_of_rng_eq s t ids h

/-- Non-vacuity: a concrete call (seed 7, four offered ids): one draw is consumed. -/
example :
    ∃ r g', choose (seedFromU64 7) [10, 11, 12, 13] = some (r, g') ∧ g' = advance 1 (seedFromU64 7) := by
  refine ⟨_, _, rfl, ?_⟩
  decide +kernel

/-- **Every iteration is reproducible from its schedule seed alone.**
    Let `prog` be any deterministic program (a function from the history of scheduler answers in
    the current execution to the next request: offer ids / draw / stop), run for up to `n`
    iterations of at most `k` requests under `RandomScheduler::new_from_seed(seed₀, iters)`.
    If the `i`-th execution was handed schedule seed `sᵢ` and produced `trace` (all `next_task`
    choices and all `next_u64` data draws, in order), then a fresh `new_from_seed(sᵢ, 1)` hands out
    `sᵢ` again and produces exactly that trace in its only execution: `new_execution` re-seeds both
    the choice rng and the data rng from `sᵢ` alone. -/
theorem iteration_reproducible (prog : Program) (k n seed₀ iters i sᵢ : Nat) (trace : List Event)
    (h : (runAll prog k n (RandomScheduler.newFromSeed seed₀ iters))[i]? = some (sᵢ, trace)) :
    runAll prog k 1 (RandomScheduler.newFromSeed sᵢ 1) = [(sᵢ, trace)] :=
  runAll_getElem_replay prog k n _ i sᵢ trace h

/-- The same fact for an arbitrary (not necessarily reachable) scheduler state. -/
theorem iteration_reproducible_any_state (prog : Program) (k : Nat) (s s' : RandomScheduler)
    (seed : Nat) (h : s.newExecution = some (seed, s')) :
    runAll prog k 1 (RandomScheduler.newFromSeed seed 1) = [(seed, (runExec prog k s' []).1)] :=
  newExecution_replay prog k h

/-- A history-dependent demo program: the 4th request depends on the 2nd answer. -/
def demoProg : Program := fun h =>
  match h.length with
  | 0 => .offer [0]
  | 1 => .offer [0, 1, 2]
  | 2 => .draw
  | 3 =>
    match h[1]? with
    | some (Event.chose 1) => .offer [1, 2]
    | _ => .offer [0, 1, 2, 3]
  | 4 => .draw
  | _ => .stop

/-- Non-vacuity: the 2nd of 3 iterations from seed 42 got schedule seed 6565857352388044582 and
    a non-trivial trace; hence replaying that seed reproduces it. -/
example :
    runAll demoProg 8 1 (RandomScheduler.newFromSeed 6565857352388044582 1) =
      [(6565857352388044582,
        [.chose 0, .chose 1, .drew 995660741551091707, .chose 2, .drew 8858634778589261708])] :=
  iteration_reproducible demoProg 8 3 42 3 1 _ _ (by decide +kernel)

end ShuttleProofs.C10

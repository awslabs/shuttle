/-
  C12 — failure reporting, schedule persistence and replay
  (`shuttle-engine/src/runtime/{failure,execution,runner}.rs`).

  Model: `ShuttleModel/Failure.lean` (a state machine over the *process history*; differentially
  tested against the real code by `/verif/harness/src/bin/vh_c12.rs`).

  Vocabulary.  `emissionsAfter h r` = the schedules emitted by run `r` when it is executed in a
  process in which the runs `h` already happened; `specEmissions r` = what the property text asks
  for (a failing run emits exactly one complete schedule, on the channel chosen by `r`'s OWN config);
  `persistedAfter h t` = the value of OS thread `t`'s `SCHEDULE_PERSISTED_AT` after `h`.

  RESULT.  The payload part of C12 holds for all histories.  The emission part does NOT hold for
  the current code: the full statement `emission_depends_only_on_own_config` below is false
  (defects F5, F6); it is proved for the first run of a process, its failure is characterised exactly
  for later runs, and it is proved in full for the minimally fixed code (`Failure.Fixed`,
  `/verif/work/c12_fix.diff`).
-/
import ShuttleProofs.Lemmas.Failure

namespace ShuttleModel.C12
open ShuttleModel.Failure

/-- Every run, whatever happened before in the process, raises what C12 says: a task panic
    re-raises that task's own payload (`resume_unwind(payload)`), a deadlock / an exceeded `FailAfter`
    bound raise the message naming that condition, `ContinueAfter` and passing runs raise nothing. -/
theorem payload_reraised (history : List Run) (r : Run) :
    (outcomeAfter history r).raised = specRaised r.failure :=
  execRun_raised _ r

/-- the same, for every run of a whole process at once -/
theorem payload_reraised_history (h : List Run) :
    (runHistory h).map (·.2) = h.map (fun r => specRaised r.failure) := by
  unfold runHistory
  rw [List.map_map]
  exact runFrom_raised State.init h

theorem task_panic_reraises_own_payload (history : List Run) (r : Run) (h : r.failure = .taskPanic) :
    (outcomeAfter history r).raised = .taskPayload := by
  rw [payload_reraised, h]; rfl

theorem deadlock_raises_deadlock_message (history : List Run) (r : Run) (h : r.failure = .deadlock) :
    (outcomeAfter history r).raised = .deadlockMsg := by
  rw [payload_reraised, h]; rfl

theorem step_bound_raises_step_bound_message (history : List Run) (r : Run)
    (h : r.failure = .stepBoundFail) : (outcomeAfter history r).raised = .stepBoundMsg := by
  rw [payload_reraised, h]; rfl

theorem silent_of_not_failing (history : List Run) (r : Run) (h : r.failure.failing = false) :
    outcomeAfter history r = ⟨[], .nothing⟩ :=
  congrArg Prod.fst (execRun_quiet _ r h)

/-- `ContinueAfter`: nothing raised AND nothing emitted, in every process state. -/
theorem continue_after_silent (history : List Run) (r : Run) (h : r.failure = .stepBoundContinue) :
    outcomeAfter history r = ⟨[], .nothing⟩ :=
  silent_of_not_failing history r (by rw [h]; rfl)

/-- a passing run never emits or raises -/
theorem pass_silent (history : List Run) (r : Run) (h : r.failure = .pass) :
    outcomeAfter history r = ⟨[], .nothing⟩ :=
  silent_of_not_failing history r (by rw [h]; rfl)

-- non-vacuity: a later run after two failing ones
example : (outcomeAfter [⟨.print, .deadlock, 12, 0, 0⟩, ⟨.none, .taskPanic, 3, 0, 1⟩]
    ⟨.file, .taskPanic, 7, 2, 0⟩).raised = .taskPayload := by decide
example : outcomeAfter [⟨.print, .deadlock, 5, 0, 0⟩] ⟨.print, .stepBoundContinue, 5, 0, 0⟩ = ⟨[], .nothing⟩ :=
  continue_after_silent _ _ rfl

/-! ## What is emitted — the full statement is FALSE for the current code

  Full-strength statement (C12: "This holds regardless of what other Shuttle runs with other
  configurations happened earlier in the same process or thread"):

      theorem emission_depends_only_on_own_config (history : List Run) (r : Run) :
          emissionsAfter history r = emissionsAfter [] r

  It is refuted by the two witnesses below (both reproduced on the real code by `vh_c12`). -/

/-- F5.  The hook keeps the FIRST run's config.  After a first run with `Print`, a task panic in a
    run with persistence DISABLED still prints a schedule (alone it prints nothing) — also on another
    OS thread, and on the first run's channel when both are enabled; conversely, after a first run
    with `None`, a task panic in a `Print` run emits nothing at all (alone: one schedule). -/
theorem emission_witness_hook_config :
    emissionsAfter [⟨.print, .taskPanic, 1, 0, 0⟩] ⟨.none, .taskPanic, 2, 0, 0⟩ = [⟨.stderr, 2⟩]
    ∧ emissionsAfter [] ⟨.none, .taskPanic, 2, 0, 0⟩ = []
    ∧ emissionsAfter [⟨.print, .taskPanic, 1, 0, 0⟩] ⟨.none, .taskPanic, 2, 0, 1⟩ = [⟨.stderr, 2⟩]
    ∧ emissionsAfter [⟨.print, .pass, 10, 0, 0⟩] ⟨.file, .taskPanic, 2, 0, 0⟩ = [⟨.stderr, 2⟩]
    ∧ emissionsAfter [⟨.none, .taskPanic, 1, 0, 0⟩] ⟨.print, .taskPanic, 2, 0, 0⟩ = []
    ∧ emissionsAfter [] ⟨.print, .taskPanic, 2, 0, 0⟩ = [⟨.stderr, 2⟩] := by
  decide

/-- F6.  `SCHEDULE_PERSISTED_AT` is never reset.  A failing `Print` run whose schedule has the same
    length as the schedule of the previous failing run on the same OS thread emits nothing (alone:
    one schedule).  The earlier run need not have emitted anything itself (`None` also sets the
    cell), and the kinds need not agree.  On a different OS thread the run is unaffected. -/
theorem emission_witness_persisted_at :
    emissionsAfter [⟨.print, .taskPanic, 4, 0, 0⟩] ⟨.print, .taskPanic, 4, 0, 0⟩ = []
    ∧ emissionsAfter [] ⟨.print, .taskPanic, 4, 0, 0⟩ = [⟨.stderr, 4⟩]
    ∧ emissionsAfter [⟨.none, .deadlock, 5, 0, 0⟩] ⟨.file, .stepBoundFail, 5, 0, 0⟩ = []
    ∧ emissionsAfter [⟨.print, .taskPanic, 4, 0, 0⟩] ⟨.print, .taskPanic, 4, 0, 1⟩ = [⟨.stderr, 4⟩] := by
  decide

/-- The negation of the full statement. -/
theorem emission_depends_only_on_own_config_false :
    ¬ ∀ (history : List Run) (r : Run), emissionsAfter history r = emissionsAfter [] r := by
  intro h
  have := h [⟨.print, .taskPanic, 4, 0, 0⟩] ⟨.print, .taskPanic, 4, 0, 0⟩
  revert this
  decide

/-- PARTIAL (first run of a process only; later runs: `later_run_deviates_iff`).  The first run of a
    process obeys its own configuration exactly.  Hypotheses: the failure happens after at least one
    scheduling step (`SCHEDULE_PERSISTED_AT` starts at `0`, so a failure at length 0 — impossible,
    the failing task must have been scheduled — would be mistaken for a duplicate), and no schedule
    steps are taken while the panicking task unwinds (see `emission_first_run_unwinding`). -/
theorem emission_first_run_partial (r : Run) (hlen : 0 < r.schedLen) (hu : r.unwind = 0) :
    emissionsAfter [] r = specEmissions r := by
  rw [emissionsAfter_nil]
  exact emissionsClosed_own r (Nat.ne_of_lt hlen) hu

/-- spelled out: `Print` ⇒ exactly one stderr emission, `File` ⇒ exactly one file, `None` ⇒ nothing;
    a non-failing run ⇒ nothing. -/
theorem emission_first_run_cases (r : Run) (hlen : 0 < r.schedLen) (hu : r.unwind = 0) :
    emissionsAfter [] r =
      if r.failure.failing then
        match r.persist with
        | .print => [⟨.stderr, r.schedLen⟩]
        | .file => [⟨.file, r.schedLen⟩]
        | .none => []
      else [] := by
  rw [emission_first_run_partial r hlen hu, specEmissions_eq r fun _ => hu]
  cases r.persist <;> rfl

example : emissionsAfter [] ⟨.file, .deadlock, 12, 0, 0⟩ = [⟨.file, 12⟩] := by decide

/-- Even a first run emits TWICE if the panicking task holds guards: the hook emits the schedule up to
    the panic (`schedLen` steps), the execution takes `unwind` more steps while the task unwinds, and
    `Execution::run` emits the longer, complete schedule.  (The first of the two does not replay:
    `emission_witness_unwind`.) -/
theorem emission_first_run_unwinding (r : Run) (hk : r.failure = .taskPanic) (hlen : 0 < r.schedLen)
    (hu : 0 < r.unwind) :
    emissionsAfter [] r = emit r.persist r.schedLen ++ emit r.persist (r.schedLen + r.unwind) := by
  rw [emissionsAfter_nil]
  exact emissionsClosed_unwinding _ (Nat.ne_of_lt hlen) hk hu

theorem emission_witness_unwind :
    emissionsAfter [] ⟨.print, .taskPanic, 7, 2, 0⟩ = [⟨.stderr, 7⟩, ⟨.stderr, 9⟩]
    ∧ replaysSame ⟨.print, .taskPanic, 7, 2, 0⟩ ⟨.stderr, 7⟩ = false
    ∧ replaysSame ⟨.print, .taskPanic, 7, 2, 0⟩ ⟨.stderr, 9⟩ = true := by
  decide

/-- Closed form of the emissions of ANY later run: they depend on the run itself, on the FIRST run's
    persistence mode `h0.persist` (held by the hook) and on `persistedAfter … r.thread`. -/
theorem emission_later_run_closed_form (h0 : Run) (hist : List Run) (r : Run) :
    emissionsAfter (h0 :: hist) r =
      match r.failure with
      | .taskPanic =>
        (if persistedAfter (h0 :: hist) r.thread = r.schedLen then [] else emit h0.persist r.schedLen) ++
          (if r.unwind = 0 then [] else emit r.persist (r.schedLen + r.unwind))
      | .deadlock =>
        if persistedAfter (h0 :: hist) r.thread = r.schedLen then [] else emit r.persist r.schedLen
      | .stepBoundFail =>
        if persistedAfter (h0 :: hist) r.thread = r.schedLen then [] else emit r.persist r.schedLen
      | .stepBoundContinue => []
      | .pass => [] := by
  rw [emissionsAfter_cons]; rfl

/-- CHARACTERISATION of exactly when a later run deviates from its own configuration (runs without
    unwinding steps).  A run `r` executed after the non-empty history `h0 :: hist` emits something
    other than what its own config asks for  iff  it fails and
    * (F6) the last failing run on the same OS thread ended with the same schedule length and `r`'s
      persistence is enabled (nothing is emitted), or
    * (F5) `r` is a task panic that is not suppressed by F6 and the FIRST run of the process had a
      different persistence mode (the first run's mode is used instead of `r`'s own). -/
theorem later_run_deviates_iff (h0 : Run) (hist : List Run) (r : Run) (hu : r.unwind = 0) :
    emissionsAfter (h0 :: hist) r ≠ specEmissions r ↔
      r.failure.failing = true ∧
        ((persistedAfter (h0 :: hist) r.thread = r.schedLen ∧ r.persist ≠ .none) ∨
         (r.failure = .taskPanic ∧ persistedAfter (h0 :: hist) r.thread ≠ r.schedLen ∧
            h0.persist ≠ r.persist)) := by
  rw [emissionsAfter_cons, emissionsClosed_ne_spec_iff _ _ _ fun _ => hu]

/-- Consequence: deadlock and step-bound failures are immune to F5 — they deviate only through F6. -/
theorem later_non_panic_deviates_iff (h0 : Run) (hist : List Run) (r : Run)
    (hk : r.failure = .deadlock ∨ r.failure = .stepBoundFail) :
    emissionsAfter (h0 :: hist) r ≠ specEmissions r ↔
      persistedAfter (h0 :: hist) r.thread = r.schedLen ∧ r.persist ≠ .none := by
  have hnp : r.failure ≠ .taskPanic := by rcases hk with hk | hk <;> rw [hk] <;> nofun
  rw [emissionsAfter_cons, emissionsClosed_ne_spec_iff _ _ _ fun h => absurd h hnp]
  constructor
  · rintro ⟨-, h | h⟩
    · exact h
    · exact absurd h.1 hnp
  · exact fun h => ⟨by rcases hk with hk | hk <;> rw [hk] <;> rfl, Or.inl h⟩

/-- Consequence: a run on an OS thread on which no run failed before (e.g. every member of a
    `PortfolioRunner`, which runs on a freshly spawned thread) is immune to F6 but not to F5. -/
theorem fresh_thread_deviates_iff (h0 : Run) (hist : List Run) (r : Run) (hu : r.unwind = 0)
    (hlen : 0 < r.schedLen) (hfresh : persistedAfter (h0 :: hist) r.thread = 0) :
    emissionsAfter (h0 :: hist) r ≠ specEmissions r ↔
      r.failure = .taskPanic ∧ h0.persist ≠ r.persist := by
  rw [later_run_deviates_iff h0 hist r hu, hfresh]
  constructor
  · rintro ⟨_, h | h⟩
    · omega
    · exact ⟨h.1, h.2.2⟩
  · rintro ⟨h1, h2⟩
    refine ⟨by rw [h1]; rfl, Or.inr ⟨h1, by omega, h2⟩⟩

-- non-vacuity of the characterisation: both disjuncts occur, and so does the non-deviating case
example : persistedAfter [⟨.print, .taskPanic, 4, 0, 0⟩, ⟨.print, .pass, 9, 0, 0⟩] 0 = 4 := by decide
example : emissionsAfter [⟨.print, .taskPanic, 4, 0, 0⟩] ⟨.print, .deadlock, 4, 0, 0⟩ ≠
    specEmissions ⟨.print, .deadlock, 4, 0, 0⟩ := by decide
example : emissionsAfter [⟨.print, .taskPanic, 4, 0, 0⟩] ⟨.file, .taskPanic, 5, 0, 0⟩ ≠
    specEmissions ⟨.file, .taskPanic, 5, 0, 0⟩ := by decide
example : emissionsAfter [⟨.print, .taskPanic, 4, 0, 0⟩] ⟨.print, .taskPanic, 5, 0, 0⟩ =
    specEmissions ⟨.print, .taskPanic, 5, 0, 0⟩ := by decide

/-- Whatever a run (without unwinding steps) emits is its own complete schedule, i.e. replays to the
    same failure (`replaysSame`: the emitted schedule has the run's final length). -/
theorem emitted_schedule_replays (history : List Run) (r : Run) (hu : r.unwind = 0) :
    ∀ e ∈ emissionsAfter history r, replaysSame r e = true := by
  intro e he
  rw [emissionsAfter, outcomeAfter, execRun_emissions] at he
  apply beq_iff_eq.mpr
  rcases len_of_mem_emissionsClosed he with h | h
  · -- without unwinding steps the schedule at the failure is the complete one
    rw [h, r.finalLen_eq fun _ => hu]
  · exact h

example : ∀ e ∈ emissionsAfter [⟨.file, .pass, 3, 0, 0⟩] ⟨.print, .taskPanic, 4, 0, 0⟩,
    replaysSame ⟨.print, .taskPanic, 4, 0, 0⟩ e = true := emitted_schedule_replays _ _ rfl
example : emissionsAfter [⟨.file, .pass, 3, 0, 0⟩] ⟨.print, .taskPanic, 4, 0, 0⟩ ≠ [] := by decide

/-! ## After the minimal fix (`Failure.Fixed`): the full statement holds -/

/-- The full-strength statement, for the fixed code: the emissions of a run do not depend on what
    happened earlier in the process or on the thread. -/
theorem emission_depends_only_on_own_config_fixed (history : List Run) (r : Run) :
    Fixed.emissionsAfter history r = Fixed.emissionsAfter [] r :=
  (Fixed.execRun_emissions _ r).trans (Fixed.execRun_emissions _ r).symm

/-- … and they are exactly what the run's own configuration asks for (no hypothesis on the schedule
    length any more: the cell is an `Option` reset to `None` at the start of every execution). -/
theorem emission_exact_fixed (history : List Run) (r : Run) (hu : r.unwind = 0) :
    Fixed.emissionsAfter history r = specEmissions r :=
  (Fixed.execRun_emissions _ r).trans (emissionsClosed_own r not_false hu)

/-- the same for every run of a whole process at once -/
theorem emission_exact_fixed_history (h : List Run) (hu : ∀ r ∈ h, r.unwind = 0) :
    (Fixed.runHistory h).map (·.1) = h.map specEmissions := by
  unfold Fixed.runHistory
  rw [List.map_map]
  exact (Fixed.runFrom_map Fixed.execRun_emissions Fixed.State.init h).trans
    (List.map_congr_left fun r hr => emissionsClosed_own r not_false (hu r hr))

theorem payload_reraised_fixed (history : List Run) (r : Run) :
    (Fixed.outcomeAfter history r).raised = specRaised r.failure :=
  Fixed.execRun_raised _ r

/-- The fix does not change the unwinding behaviour (out of scope of the patch): a task that panics
    holding guards still emits the truncated and the complete schedule, in every process state. -/
theorem emission_unwinding_fixed (history : List Run) (r : Run) (hk : r.failure = .taskPanic)
    (hu : 0 < r.unwind) :
    Fixed.emissionsAfter history r = emit r.persist r.schedLen ++ emit r.persist (r.schedLen + r.unwind) :=
  (Fixed.execRun_emissions _ r).trans (emissionsClosed_unwinding _ not_false hk hu)

-- the two witnesses are gone
example : Fixed.emissionsAfter [⟨.print, .taskPanic, 1, 0, 0⟩] ⟨.none, .taskPanic, 2, 0, 0⟩ = [] := by decide
example : Fixed.emissionsAfter [⟨.print, .taskPanic, 4, 0, 0⟩] ⟨.print, .taskPanic, 4, 0, 0⟩ = [⟨.stderr, 4⟩] := by
  decide

/-- A portfolio run fails exactly when one of its members does. -/
theorem portfolio_fails_iff_member_fails (stopOnFirstFailure : Bool) (ms : List Member) :
    (portfolioRun stopOnFirstFailure ms).isSome = true ↔ ∃ m ∈ ms, m.isFailed = true := by
  -- the join loop keeps a payload iff some member failed; then all four cases compute
  have hj : (joinAll none ms).isSome = ms.any Member.isFailed := joinAll_isSome none ms
  rw [← List.any_eq_true, ← hj]
  simp only [portfolioRun, ← hj]
  cases joinAll none ms <;> cases stopOnFirstFailure <;> simp

/-- With `stop_on_first_failure = true` the payload re-raised is the LAST failing member's (in
    scheduler order): "propagate the first panic we see" in the source comment is inaccurate, the loop
    overwrites. -/
theorem portfolio_reraises_last_failed_member (pre rest : List Member) (p : Nat)
    (hrest : rest.any Member.isFailed = false) :
    portfolioRun true (pre ++ .failed p :: rest) = some (.member p) := by
  unfold portfolioRun
  rw [joinAll_append_failed none pre p rest hrest]
  simp [Member.isFailed]

/-- With `stop_on_first_failure = false` a failing member makes the portfolio fail with the
    `assert!(stop_signal == panic.is_some())` failure, not with the member's payload. -/
theorem portfolio_no_stop_raises_assertion (ms : List Member) (h : ∃ m ∈ ms, m.isFailed = true) :
    portfolioRun false ms = some .assertion := by
  have hj := joinAll_isSome none ms
  simp only [Option.isSome_none, Bool.false_or] at hj
  rw [← List.any_eq_true] at h
  unfold portfolioRun
  simp [hj, h]

example : portfolioRun true [.passed, .failed 1, .passed, .failed 2, .passed] = some (.member 2) := by decide
example : portfolioRun true [.passed, .passed] = none := by decide
example : portfolioRun false [.passed, .failed 7] = some .assertion := by decide

theorem portfolio_raised_iff (stop : Bool) (os : List Outcome) :
    (∃ p, StepRaised.portfolio (portfolioRun stop (toMembers 0 os)) = .portfolio (some p)) ↔
      (os.map (·.raised)).any (fun x => decide (x ≠ .nothing)) = true := by
  have h := portfolio_fails_iff_member_fails stop (toMembers 0 os)
  rw [← List.any_eq_true, toMembers_any_failed] at h
  rw [← h]
  cases portfolioRun stop (toMembers 0 os) <;> simp

/-- The same at the level of the process model: a portfolio step (its members being ordinary runs on
    fresh threads, in ANY process state `s`) fails iff one of its member runs fails — for the current
    code and for the fixed code. -/
theorem portfolio_step_fails_iff_member_fails (s : State) (stop : Bool) (ms : List Run) :
    (∃ p, (execStep s (.portfolio stop ms)).1.raised = .portfolio (some p)) ↔
      ∃ r ∈ ms, r.failure.failing = true := by
  rw [← any_specRaised, ← runFrom_raised s]
  exact portfolio_raised_iff stop _

theorem portfolio_step_fails_iff_member_fails_fixed (s : Fixed.State) (stop : Bool) (ms : List Run) :
    (∃ p, (Fixed.execStep s (.portfolio stop ms)).1.raised = .portfolio (some p)) ↔
      ∃ r ∈ ms, r.failure.failing = true := by
  rw [← any_specRaised, ← Fixed.runFrom_raised s]
  exact portfolio_raised_iff stop _

/-- F5 reaches portfolio members (fresh threads share the process-wide hook): after a `Print` run, a
    portfolio with persistence disabled whose two members fail prints two schedules; fixed: none. -/
theorem portfolio_witness_hook_config :
    (stepHistory [.single ⟨.print, .pass, 10, 0, 0⟩,
        .portfolio true [⟨.none, .taskPanic, 1, 0, 1000⟩, ⟨.none, .taskPanic, 1, 0, 1001⟩]]).map (·.emissions)
      = [[], [⟨.stderr, 1⟩, ⟨.stderr, 1⟩]]
    ∧ (Fixed.stepHistory [.single ⟨.print, .pass, 10, 0, 0⟩,
        .portfolio true [⟨.none, .taskPanic, 1, 0, 1000⟩, ⟨.none, .taskPanic, 1, 0, 1001⟩]]).map (·.emissions)
      = [[], []] := by
  decide

example : ∃ p, (execStep State.init (.portfolio true [⟨.print, .pass, 3, 0, 7⟩, ⟨.print, .taskPanic, 3, 0, 8⟩])).1.raised
    = .portfolio (some p) := ⟨.member 1, by decide⟩

end ShuttleModel.C12

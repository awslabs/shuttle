import ShuttleProofs.Lemmas.CondvarLTS
import ShuttleProofs.Lemmas.BarrierLTS
import ShuttleProofs.Lemmas.OnceLTS
import ShuttleProofs.Lemmas.ParkTask

/-!
# C05 — Condvar, Barrier, Once, park/unpark: waiters are released exactly when they should be

Models: `ShuttleModel/Prim/{Condvar,Barrier,Once}.lean` (pure atomic segments + thin `Prog` wrappers,
transcriptions of `shuttle-std/src/sync/{condvar,barrier,once}.rs`) and `Task.park` / `Task.unpark` /
`Task.unblock` in `ShuttleModel/Kernel.lean` (`shuttle-engine/src/runtime/task/mod.rs`).

Each primitive gets the labelled transition system of a *most general client*
(`Lemmas/CondvarLTS`, `BarrierLTS`, `OnceLTS`, `ParkTask`): any task may perform any operation at any time; the only
constraints are the ones the runtime itself imposes — a task suspended inside a blocking call does
nothing else, and the stage after the suspension runs only once the task is not blocked (ghost set
`blocked`, driven by the `Eff.unblock` / `Eff.block` effects the pure segments emit).  Histories are
newest-first event lists.
-/

namespace ShuttleProofs.C05
open ShuttleModel ShuttleModel.CondvarState

/-- the history of the non-vacuity examples: `1` and `2` wait, `0` notifies twice, `2` returns having
consumed epoch 0 -/
theorem exReach :
    ∃ g, CvReach [.woke 2 (some 0), .notifyOne 0 1, .notifyOne 0 0, .register 2, .register 1] g ∧
      g.s.waiters = [(1, .signal [(1, [7])])] ∧ g.blocked 1 = false :=
  ⟨_, .step (.step (.step (.step (.step .init (.register rfl)) (.register rfl)) (.notifyOne (c := [5]) rfl))
    (.notifyOne (c := [7]) rfl)) (.wake rfl rfl), rfl, rfl⟩

/-- A return is justified by the history: the caller registered, and since then there was a
`notify_all` if it reports a broadcast, otherwise the `notify_one` of the reported epoch, which no
return has consumed before. -/
theorem woke_sound {h : List CvEv} {g : CvG} (hr : CvReach h g) {t : Nat} {r : Option Nat} {g' : CvG}
    (hs : CvStep g (.woke t r) g') :
    CvEv.register t ∈ h ∧ (r = none → ∃ n, CvEv.notifyAll n ∈ since t h) ∧
    ∀ ep, r = some ep → (∃ n, CvEv.notifyOne n ep ∈ since t h) ∧ ∀ t', CvEv.woke t' (some ep) ∉ h := by
  have I := reach_inv hr
  cases hs with
  | wake hb hw =>
    -- the caller's entry is a `Broadcast`, or a `Signal` whose first epoch is the one reported
    obtain ⟨st, hmem, hcase⟩ := wake_ok hw
    rcases hcase with ⟨rfl, hwb, _⟩ | ⟨e, rest, rfl, hwb, _⟩
    · rw [hwb]
      exact ⟨I.reg _ hmem, fun _ => (I.bcast _ hmem).2 ⟨_, rfl⟩, fun _ h => nomatch h⟩
    · rw [hwb]
      exact ⟨I.reg _ hmem, (fun h => nomatch h), fun ep hep => by
        cases hep
        exact ((I.sig _ hmem _ rfl).2.2 _ List.mem_cons_self).2⟩

/-- **wait_returns_only_after_notify_during_wait.**  In every reachable state of a condvar under
any client: (a) if the second stage of task `t`'s `wait` succeeds, `t` had registered and a
notification was issued *after* that registration — a `notify_all` if it returns "woken by
broadcast", the `notify_one` of exactly the consumed epoch otherwise; (b) the second stage run on a
waiter whose status is still `Waiting` is the panic "should not have been woken while in Waiting
status" (modelled as is); (c) and the condvar itself never makes such a waiter runnable. -/
theorem wait_returns_only_after_notify_during_wait {h : List CvEv} {g : CvG} (hr : CvReach h g) (t : Nat) :
    (∀ r g', CvStep g (.woke t r) g' →
        CvEv.register t ∈ h ∧
        (r = none → ∃ n, CvEv.notifyAll n ∈ since t h) ∧
        (∀ ep, r = some ep → ∃ n, CvEv.notifyOne n ep ∈ since t h)) ∧
    (∀ s : CondvarState, s.waiters.find? (·.1 == t) = some (t, .waiting) →
        s.wake t = .error "should not have been woken while in Waiting status") ∧
    (∀ p ∈ g.s.waiters, p.2 = .waiting → g.blocked p.1 = true) := by
  refine ⟨fun r g' hs => ?_, fun s hs => wake_waiting_panics s t hs,
    fun p hp hw => ((reach_inv hr).blocked_iff p hp).2 hw⟩
  obtain ⟨a, b, c⟩ := woke_sound hr hs
  exact ⟨a, b, fun ep h => (c ep h).1⟩

example : ∃ h g, CvReach h g ∧ ∃ g', CvStep g (.woke 1 (some 1)) g' :=
  ⟨_, _, .step (.step (.step (.step (.step .init (.register (t := 1) rfl)) (.register (t := 2) rfl))
    (.notifyOne (t := 0) (c := [5]) rfl)) (.notifyOne (t := 0) (c := [7]) rfl)) (.wake (t := 2) rfl rfl),
    _, .wake rfl rfl⟩

/-- the epochs consumed by the returns / handed out by the `notify_one`s of a history -/
def wokeEpochs (h : List CvEv) : List Nat :=
  h.filterMap (fun e => match e with | .woke _ (some ep) => some ep | _ => none)
def notifyEpochs (h : List CvEv) : List Nat :=
  h.filterMap (fun e => match e with | .notifyOne _ ep => some ep | _ => none)

theorem mem_wokeEpochs {h : List CvEv} {ep : Nat} : ep ∈ wokeEpochs h ↔ ∃ t, CvEv.woke t (some ep) ∈ h := by
  refine List.mem_filterMap.trans ⟨fun ⟨e, he, hm⟩ => ?_, fun ⟨t, ht⟩ => ⟨_, ht, rfl⟩⟩
  split at hm
  · cases hm; exact ⟨_, he⟩
  · cases hm

theorem mem_notifyEpochs {h : List CvEv} {ep : Nat} : ep ∈ notifyEpochs h ↔ ∃ n, CvEv.notifyOne n ep ∈ h := by
  refine List.mem_filterMap.trans ⟨fun ⟨e, he, hm⟩ => ?_, fun ⟨n, hn⟩ => ⟨_, hn, rfl⟩⟩
  split at hm
  · cases hm; exact ⟨_, he⟩
  · cases hm

/-- **notify_one_releases_at_most_one.**  (a) A return that was not caused by a broadcast consumed
the epoch of a `notify_one` issued while it was waiting, and no earlier return (of any task)
consumed the same epoch; (b) every `notify_one` gets an epoch no earlier `notify_one` had.  Hence
(c) over every history: the consumed epochs are pairwise distinct, the issued epochs are pairwise
distinct, and every consumed epoch was issued — "return ↦ epoch ↦ notify_one call" is an injection
from the non-broadcast returns into the `notify_one` calls. -/
theorem notify_one_releases_at_most_one {h : List CvEv} {g : CvG} (hr : CvReach h g) :
    (∀ t ep g', CvStep g (.woke t (some ep)) g' →
        (∃ n, CvEv.notifyOne n ep ∈ since t h) ∧ ∀ t', CvEv.woke t' (some ep) ∉ h) ∧
    (∀ n ep g', CvStep g (.notifyOne n ep) g' → ∀ n', CvEv.notifyOne n' ep ∉ h) ∧
    ((wokeEpochs h).Nodup ∧ (notifyEpochs h).Nodup ∧ ∀ ep ∈ wokeEpochs h, ep ∈ notifyEpochs h) := by
  -- the counter is above every epoch of the history
  have step_b : ∀ {h g}, CvReach h g → ∀ n ep g', CvStep g (.notifyOne n ep) g' →
      ∀ n', CvEv.notifyOne n' ep ∉ h := by
    intro h g hr n ep g' hs n' hm
    cases hs with
    | notifyOne hn => exact Nat.lt_irrefl _ (((reach_inv hr).hist_lt _ hm).1 n' _ rfl)
  refine ⟨fun t ep g' hs => (woke_sound hr hs).2.2 ep rfl, step_b hr, ?_⟩
  induction hr with
  | init => simp [wokeEpochs, notifyEpochs]
  | @step h g e g' hr hs ih =>
    cases e with
    | register t => exact ih
    | notifyAll t => exact ih
    | notifyOne n ep =>
      -- a new issued epoch: no earlier `notify_one` had it
      have hnew : ep ∉ notifyEpochs h := fun hm =>
        let ⟨n', hn'⟩ := mem_notifyEpochs.1 hm
        step_b hr n ep g' hs n' hn'
      exact ⟨ih.1, List.nodup_cons.2 ⟨hnew, ih.2.1⟩, fun x hx => List.mem_cons_of_mem _ (ih.2.2 x hx)⟩
    | woke t r =>
      cases r with
      | none => exact ih
      | some ep =>
        -- a new consumed epoch: issued before, consumed by no earlier return
        obtain ⟨⟨n, hn⟩, hfresh⟩ := (woke_sound hr hs).2.2 ep rfl
        have hnew : ep ∉ wokeEpochs h := fun hm =>
          let ⟨t', ht'⟩ := mem_wokeEpochs.1 hm
          hfresh t' ht'
        have hiss : ep ∈ notifyEpochs h := mem_notifyEpochs.2 ⟨n, (List.takeWhile_sublist _).subset hn⟩
        exact ⟨List.nodup_cons.2 ⟨hnew, ih.1⟩, ih.2.1, List.forall_mem_cons.2 ⟨hiss, ih.2.2⟩⟩

example : ∃ h g, CvReach h g ∧ wokeEpochs h = [0] ∧ notifyEpochs h = [1, 0] :=
  let ⟨g, hr, _, _⟩ := exReach
  ⟨_, g, hr, rfl, rfl⟩

/-- **any_waiter_can_win.**  From *any* state: right after a `notify_one`, the second stage of
every registered waiter is enabled (each of them may be the one the scheduler runs next and
returns); and (b) if all `k` waiters were plain `Waiting` before the `notify_one`, then whichever
of them returns consumed that `notify_one`, and leaves every other waiter `Waiting` and blocked
again — exactly one is released, and it can be any of them. -/
theorem any_waiter_can_win (g : CvG) {n : Nat} {c : Clock} {s' : CondvarState} {effs : List Eff}
    (hn : g.s.notifyOne n c = .ok (s', effs)) :
    (∀ p ∈ g.s.waiters, ∃ r g'', CvStep ⟨s', applyEffs g.blocked effs⟩ (.woke p.1 r) g'') ∧
    ((g.s.waiters.map (·.1)).Nodup → (∀ p ∈ g.s.waiters, p.2 = .waiting) →
      ∀ p ∈ g.s.waiters, ∃ g'', CvStep ⟨s', applyEffs g.blocked effs⟩ (.woke p.1 (some g.s.nextEpoch)) g'' ∧
        g''.s.waiters = (g.s.waiters.filter (·.1 != p.1)) ∧
        ∀ q ∈ g''.s.waiters, q.2 = .waiting ∧ g''.blocked q.1 = true) := by
  obtain ⟨_, rfl, rfl⟩ := notifyOne_ok hn
  have hunb : ∀ p ∈ g.s.waiters, applyEffs g.blocked ((g.s.waiters.map (·.1)).map Eff.unblock) p.1 = false :=
    fun p hp => by rw [applyEffs_unblocks, if_pos (List.mem_map_of_mem hp)]
  refine ⟨fun p hp => ?_, fun hnd hall p hp => ?_⟩
  · obtain ⟨_, _, _, hw⟩ := wake_enabled
      (s := ⟨g.s.waiters.map fun p => (p.1, signalStatus g.s.nextEpoch c p.2), g.s.nextEpoch + 1⟩) (t := p.1)
      ⟨_, List.mem_map_of_mem hp, rfl⟩ fun q hq _ => by
        obtain ⟨q0, _, rfl⟩ := List.mem_map.1 hq
        cases q0.2 <;> simp [signalStatus]
    exact ⟨_, _, .wake (g := ⟨_, _⟩) (hunb p hp) hw⟩
  · -- `p`'s entry is now `Signal [(epoch, c)]`, the only one with its key
    have hfind := find_of_mem_nodup (ws := g.s.waiters.map fun p => (p.1, signalStatus g.s.nextEpoch c p.2))
      (by rw [List.map_map]; exact hnd) (List.mem_map_of_mem hp)
    rw [hall p hp] at hfind
    obtain ⟨hw, hwb⟩ := wake_of_signal (s := ⟨_, g.s.nextEpoch + 1⟩) hfind
    have hstep := CvStep.wake (g := ⟨_, _⟩) (hunb p hp) hw
    rw [hwb] at hstep
    refine ⟨_, hstep, notifyOne_then_consume_of_all_waiting _ _ c _ hall, fun q hq => ?_⟩
    -- everybody else held only this epoch
    obtain ⟨q1, hq1, rfl⟩ := List.mem_map.1 hq
    obtain ⟨q0, hq0, rfl⟩ := List.mem_map.1 (List.mem_filter.1 hq1).1
    have hre : reblocked g.s.nextEpoch (signalStatus g.s.nextEpoch c q0.2) = true := by
      rw [hall q0 hq0]; exact reblocked_single _ c
    refine ⟨(consume1_eq_waiting_iff _ _).2 (.inr hre), ?_⟩
    show applyEffs _ (List.map Eff.block _) _ = true
    rw [applyEffs_blocks, if_pos (List.mem_map_of_mem (List.mem_filter.2 ⟨hq1, hre⟩))]

example : ∃ (g : CvG) (s' : CondvarState) (effs : List Eff),
    g.s.waiters.length = 3 ∧ g.s.notifyOne 0 [1] = .ok (s', effs) ∧
    (g.s.waiters.map (·.1)).Nodup ∧ ∀ p ∈ g.s.waiters, p.2 = .waiting :=
  ⟨⟨{ waiters := [(1, .waiting), (2, .waiting), (3, .waiting)] }, fun _ => true⟩, _, _, rfl, rfl,
    by decide, by simp⟩

/-- In every reachable state a registered waiter whose status is not `Waiting` is not blocked and
may return (a `Signal` status is never empty). -/
theorem may_return {h : List CvEv} {g : CvG} (hr : CvReach h g) {p : Nat × CvStatus} (hp : p ∈ g.s.waiters)
    (hst : p.2 ≠ .waiting) : g.blocked p.1 = false ∧ ∃ g', CvStep g (.woke p.1 (wokenBy g.s p.1)) g' := by
  have I := reach_inv hr
  have hb : g.blocked p.1 = false := Bool.eq_false_iff.2 fun hx => hst ((I.blocked_iff p hp).1 hx)
  obtain ⟨_, _, _, hw⟩ := wake_enabled ⟨p, hp, rfl⟩ fun q hq hk => by
    rw [key_unique I.nodup hq hp hk]
    exact ⟨hst, fun he => (I.sig p hp [] he).1 rfl⟩
  exact ⟨hb, _, .wake hb hw⟩

/-- **notify_all_releases_all.**  (a) The `notify_all` transition turns every registered waiter
into `Broadcast` and emits an `unblock` for each of them; (b) in every reachable state, a waiter
that has seen a `notify_all` since it registered is not blocked, and its second stage is enabled and
returns "woken by broadcast" — whatever `notify_one`s, other returns and new waiters came in
between. -/
theorem notify_all_releases_all :
    (∀ (g : CvG) (n : Nat) (c : Clock) (s' : CondvarState) (effs : List Eff),
        g.s.notifyAll n c = .ok (s', effs) →
        ∀ p ∈ g.s.waiters, Eff.unblock p.1 ∈ effs ∧ (p.1, CvStatus.broadcast c) ∈ s'.waiters ∧
          applyEffs g.blocked effs p.1 = false) ∧
    (∀ (h : List CvEv) (g : CvG), CvReach h g → ∀ p ∈ g.s.waiters,
        (∃ n, CvEv.notifyAll n ∈ since p.1 h) →
        g.blocked p.1 = false ∧ ∃ g', CvStep g (.woke p.1 none) g') := by
  constructor
  · intro g n c s' effs hn p hp
    obtain ⟨_, rfl, rfl⟩ := notifyAll_ok hn
    have hk : p.1 ∈ g.s.waiters.map (·.1) := List.mem_map_of_mem hp
    refine ⟨List.mem_map_of_mem hk, List.mem_map_of_mem (f := fun p => (p.1, CvStatus.broadcast c)) hp, ?_⟩
    rw [applyEffs_unblocks]
    simp [hk]
  · intro h g hr p hp hna
    have I := reach_inv hr
    obtain ⟨c, hc⟩ := (I.bcast p hp).1 hna
    obtain ⟨hb, g', hs⟩ := may_return hr hp (hc ▸ CvStatus.noConfusion)
    have hwb : wokenBy g.s p.1 = none := by
      obtain ⟨k, st⟩ := p
      cases hc
      exact (wake_of_broadcast (find_of_mem_nodup I.nodup hp)).2
    exact ⟨hb, g', hwb ▸ hs⟩

example : ∃ h g, CvReach h g ∧ ∃ p ∈ g.s.waiters, ∃ n, CvEv.notifyAll n ∈ since p.1 h :=
  ⟨_, _, .step (.step (.step .init (.register (t := 1) rfl)) (.notifyAll (t := 0) (c := [5]) rfl))
    (.register (t := 2) rfl), (1, .broadcast [5]), by simp, 0, by simp [since]⟩

/-- **condvar_blocked_iff_no_pending_signal.**  In every reachable state a registered waiter is
blocked (ghost) iff its status is `Waiting`; a `Signal` status never has an empty epoch list (a
waiter whose list became empty was put back to `Waiting` and re-blocked in the same transition). -/
theorem condvar_blocked_iff_no_pending_signal {h : List CvEv} {g : CvG} (hr : CvReach h g) :
    ∀ p ∈ g.s.waiters, (g.blocked p.1 = true ↔ p.2 = .waiting) ∧ (∀ eps, p.2 = .signal eps → eps ≠ []) :=
  fun p hp => ⟨(reach_inv hr).blocked_iff p hp, fun eps he => ((reach_inv hr).sig p hp eps he).1⟩

example : ∃ h g, CvReach h g ∧ ∃ p ∈ g.s.waiters, g.blocked p.1 = false :=
  let ⟨g, hr, hw, hb⟩ := exReach
  ⟨_, g, hr, (1, .signal [(1, [7])]), by rw [hw]; simp, hb⟩

/-- **condvar_no_lost_wakeup.**  (a) `notify_one` and `notify_all` emit an `unblock` for *every*
registered waiter in the same transition.  (b) In every reachable state, a registered waiter for which a
notification is pending — a `notify_all` since it registered, or a `notify_one` since it registered
whose epoch no return has consumed yet — is not blocked and its second stage is enabled. -/
theorem condvar_no_lost_wakeup :
    (∀ (s : CondvarState) (n : Nat) (c : Clock) (s' : CondvarState) (effs : List Eff),
        (s.notifyOne n c = .ok (s', effs) ∨ s.notifyAll n c = .ok (s', effs)) →
        ∀ p ∈ s.waiters, Eff.unblock p.1 ∈ effs) ∧
    (∀ (h : List CvEv) (g : CvG), CvReach h g → ∀ p ∈ g.s.waiters,
        ((∃ n, CvEv.notifyAll n ∈ since p.1 h) ∨
         (∃ n ep, CvEv.notifyOne n ep ∈ since p.1 h ∧ ∀ t', CvEv.woke t' (some ep) ∉ h)) →
        g.blocked p.1 = false ∧ ∃ r g', CvStep g (.woke p.1 r) g') := by
  constructor
  · intro s n c s' effs hn p hp
    have hk : p.1 ∈ s.waiters.map (·.1) := List.mem_map_of_mem hp
    rcases hn with hn | hn
    · obtain ⟨_, _, rfl⟩ := notifyOne_ok hn; exact List.mem_map_of_mem hk
    · obtain ⟨_, _, rfl⟩ := notifyAll_ok hn; exact List.mem_map_of_mem hk
  · intro h g hr p hp hpend
    have I := reach_inv hr
    have hst : p.2 ≠ .waiting := by
      rcases hpend with hna | ⟨n, ep, hn, hun⟩
      · obtain ⟨c, hc⟩ := (I.bcast p hp).1 hna
        exact hc ▸ CvStatus.noConfusion
      · rcases I.pending p hp n ep hn hun with ⟨c, hc⟩ | ⟨eps, he, _⟩
        · exact hc ▸ CvStatus.noConfusion
        · exact he ▸ CvStatus.noConfusion
    obtain ⟨hb, g', hs⟩ := may_return hr hp hst
    exact ⟨hb, _, g', hs⟩

example : ∃ h g, CvReach h g ∧ ∃ p ∈ g.s.waiters, ∃ n ep, CvEv.notifyOne n ep ∈ since p.1 h ∧
    ∀ t', CvEv.woke t' (some ep) ∉ h := by
  obtain ⟨g, hr, hw, _⟩ := exReach
  refine ⟨_, g, hr, (1, .signal [(1, [7])]), by rw [hw]; simp, 0, 1, by simp [since], ?_⟩
  intro t'; simp

/-- **mutex_released_while_waiting_and_reheld.**  (a) `Condvar::wait` is, in this order: the drop of
the guard (`Mutex.unlock`), the registration stage (`CondvarState.register`, `block(false)`) in the
same atomic segment, exactly one `switch`, the consuming stage (`CondvarState.wake`), and a full
`Mutex.lock` whose result is the result of `wait`.  (b) Run by the kernel (`runSegment`) from any
state in which the caller is an unfinished task not yet registered, the registration stage up to
that `switch` writes the shared state only through the condvar's lens: a mutex behind an
independent lens keeps the state the guard's drop left it in, i.e. stays released while the task
waits.  The caller is left blocked without spurious wake-ups, with the consuming stage and the
`Mutex.lock` as its continuation. -/
theorem mutex_released_while_waiting_and_reheld :
    (∀ {U : Type} (L : Lens U CondvarState) (M : Lens U MutexState),
      Condvar.wait L M =
        (do let me ← K.me
            Mutex.unlock M
            Condvar.registerStage L me
            K.switch
            Condvar.wakeStage L me
            Mutex.lock M)) ∧
    (∀ (P : Program) {σ : Type} (S : Scheduler σ) (L : Lens P.U CondvarState) (M : Lens P.U MutexState)
      (me : Nat) (st : ExecState P σ) (tk : Task) (s' : CondvarState) (fuel : Nat)
      (kont : LockRes → Prog P.U Unit),
      st.k.getTask? me = some tk → tk.finished = false → (L.get st.u).register me = .ok s' →
      (∀ x u, M.get (L.set x u) = M.get u) →
      ∃ st', runSegment S me (fuel + 6) st
          (do Condvar.registerStage L me; K.switch;
              (do Condvar.wakeStage L me; let r ← Mutex.lock M; kont r)) = .atSwitch st' ∧
        M.get st'.u = M.get st.u ∧ L.get st'.u = L.get (L.set s' st.u) ∧
        st'.k.getTask? me = (st.k.setTask me { tk with state := .blocked false }).getTask? me ∧
        st'.conts = st.conts.set me (do Condvar.wakeStage L me; let r ← Mutex.lock M; kont r)) :=
  ⟨fun _ _ => rfl, fun P _ S L _ me st tk s' fuel _ hk hf hr hind =>
    ⟨_, registerStage_segment P S L me st tk hk hf s' hr _ fuel, hind _ _, rfl, rfl, rfl⟩⟩

example : (({} : CondvarState).register 3) = .ok { waiters := [(3, .waiting)] } := rfl

section Barrier
open ShuttleModel.BarrierState

/-- bound 2, reused: `1` arrives, `2` completes generation 0 (and leads it), `3` arrives in
generation 1 while `1` has not yet returned from generation 0, `1` returns, `2` completes
generation 1 -/
theorem exBarReach : ∃ g, BarReach 2
    [.ret 2 1 true, .arrive 2 1 true, .ret 1 0 false, .arrive 3 1 false, .ret 2 0 true, .arrive 2 0 true,
     .arrive 1 0 false] g ∧ g.s.epoch = 2 ∧ g.susp = [(3, 1)] ∧ g.blocked 3 = false :=
  ⟨_, .step (.step (.step (.step (.step (.init (n := 2))
      (.arriveBlocked (t := 1) (c := [1]) (clk := fun _ => []) (by decide) rfl))
      (.arriveRelease (t := 2) (c := [0, 1]) (clk := fun _ => []) (by decide) rfl))
      (.arriveBlocked (t := 3) (c := [0, 0, 1]) (clk := fun _ => []) (by decide) rfl))
      (.resume (t := 1) (ep := 0) (by decide) rfl))
      (.arriveRelease (t := 2) (c := [0, 2]) (clk := fun _ => []) (by decide) rfl), rfl, rfl, rfl⟩

/-- **barrier_releases_exact_group.**  For a barrier of bound `n ≥ 1`, in every reachable state:
(a) an arrival that is not the `n`-th of its generation releases nobody (no effects; the caller
blocks); (b) the `n`-th arrival emits an `unblock` for exactly the `n-1` registered waiters and
itself, and blocks nobody — and those waiters are exactly the tasks that arrived earlier in this
generation, each of them suspended in `wait` and blocked until now (no lost wake-up); (c) whenever a
`wait` returns, all `n` arrivals of its generation have happened (nobody returns earlier);
(d) a suspended task whose generation is complete is not blocked and its return is enabled. -/
theorem barrier_releases_exact_group {n : Nat} (hn : 1 ≤ n) {h : List BarEv} {g : BarG}
    (hr : BarReach n h g) :
    (∀ t c clk s' ep effs, g.s.arrive t c clk = .ok (s', .blocked ep, effs) →
        ep = g.s.epoch ∧ effs = [] ∧ g.s.waiters.length + 1 < n) ∧
    (∀ t c clk s' ep effs, g.s.arrive t c clk = .ok (s', .released ep, effs) →
        ep = g.s.epoch ∧ g.s.waiters.length = n - 1 ∧
        (∀ x, Eff.unblock x ∈ effs ↔ x ∈ g.s.waiters ∨ x = t) ∧ (∀ x, Eff.block x ∉ effs) ∧
        (∀ x ∈ g.s.waiters, BarEv.arrive x ep false ∈ h ∧ (x, ep) ∈ g.susp ∧ g.blocked x = true ∧
          applyEffs g.blocked effs x = false)) ∧
    (∀ evs g', BarStep g evs g' → ∀ t e l, BarEv.ret t e l ∈ evs → arrCount e (evs ++ h) = n) ∧
    (∀ p ∈ g.susp, p.2 < g.s.epoch →
        g.blocked p.1 = false ∧ ∃ evs g', BarStep g evs g' ∧ ∃ l, BarEv.ret p.1 p.2 l ∈ evs) := by
  have I := barReach_inv hr
  have hbn := I.bound
  have hwl := I.wlen
  refine ⟨?_, ?_, ?_, ?_⟩
  · intro t c clk s' ep effs ha
    obtain ⟨_, hlt, rfl, rfl, _⟩ := arrive_ok_blocked ha
    exact ⟨rfl, rfl, by omega⟩
  · intro t c clk s' ep effs ha
    obtain ⟨_, hlt, hb, rfl, rfl, _⟩ := arrive_ok_released ha
    refine ⟨rfl, by omega, fun x => ?_, fun x => not_block_mem_releaseEffs _ _ _ x, fun x hx => ?_⟩
    · rw [mem_releaseEffs, List.mem_append, List.mem_singleton]
    · refine ⟨(I.w_hist x).1 hx, I.w_susp x hx, ?_, ?_⟩
      · rcases I.susp_cases _ (I.w_susp x hx) with ⟨_, _, h3⟩ | ⟨h1, _⟩
        · exact h3
        · exact absurd h1 (Nat.lt_irrefl _)
      · rw [applyEffs_releaseEffs, if_pos (List.mem_append_left _ hx)]
  · intro evs g' hs t e l hm
    have I' := barInv_step I hs
    have hlt := I'.ret_lt t e l (List.mem_append_left _ hm)
    have := (I'.cnt_old e hlt).1
    rw [this]
    unfold groupSize
    rw [if_neg (by omega)]
  · intro p hp hlt
    have hb : g.blocked p.1 = false := by
      rcases I.susp_cases p hp with ⟨h1, _, _⟩ | ⟨_, h2⟩
      · omega
      · exact h2
    exact ⟨hb, _, _, BarStep.resume (t := p.1) (ep := p.2) hp hb, _, List.mem_cons_self ..⟩

example : ∃ h g, BarReach 2 h g ∧ 1 ≤ 2 ∧ (∃ p ∈ g.susp, p.2 < g.s.epoch) ∧
    ∃ s' effs, g.s.arrive 1 [] (fun _ => []) = .ok (s', .blocked 2, effs) := by
  exact ⟨_, _, .step (.step (.step (.step (.step (.init (n := 2))
      (.arriveBlocked (t := 1) (c := [1]) (clk := fun _ => []) (by decide) rfl))
      (.arriveRelease (t := 2) (c := [0, 1]) (clk := fun _ => []) (by decide) rfl))
      (.arriveBlocked (t := 3) (c := [0, 0, 1]) (clk := fun _ => []) (by decide) rfl))
      (.resume (t := 1) (ep := 0) (by decide) rfl))
      (.arriveRelease (t := 2) (c := [0, 2]) (clk := fun _ => []) (by decide) rfl),
    by decide, ⟨(3, 1), List.mem_singleton.2 rfl, by decide⟩, _, _, rfl⟩

/-- **one_leader_per_generation.**  In every reachable state (any bound, any number of
generations): every completed generation has exactly one return with `is_leader = true` so far,
no other generation has any; the leader token is per epoch and is taken by the releasing arrival in
the same atomic step (there is no scheduling point between `leader_tokens.insert` and
`leader_tokens.remove`), so a return is a leader iff it is the return of the releasing arrival,
and between steps no token is ever left in the set. -/
theorem one_leader_per_generation {n : Nat} {h : List BarEv} {g : BarG} (hr : BarReach n h g) :
    (∀ e, e < g.s.epoch → leadCount e h = 1) ∧ (∀ e, g.s.epoch ≤ e → leadCount e h = 0) ∧
    (∀ evs g', BarStep g evs g' → ∀ t e l, BarEv.ret t e l ∈ evs →
        (l = true ↔ BarEv.arrive t e true ∈ evs)) ∧
    g.s.leaderTokens = [] := by
  have I := barReach_inv hr
  refine ⟨fun e he => (I.cnt_old e he).2, I.lead_zero, ?_, I.tokens⟩
  intro evs g' hs t e l hm
  cases hs with
  | arriveBlocked _ _ =>
    simp only [List.mem_singleton] at hm
    cases hm
  | @arriveRelease t' c clk s' ep effs _ ha =>
    obtain ⟨_, _, _, rfl, _, rfl⟩ := arrive_ok_released ha
    simp only [List.mem_cons, BarEv.ret.injEq, List.not_mem_nil, or_false] at hm
    rcases hm with ⟨rfl, rfl, rfl⟩ | hm
    · simp [BarrierState.takeLeader, I.tokens]
    · cases hm
  | @resume t' ep _ _ =>
    rw [takeLeader_no_tokens I.tokens] at hm
    simp only [List.mem_singleton, BarEv.ret.injEq] at hm
    obtain ⟨rfl, rfl, rfl⟩ := hm
    simp [takeLeader_no_tokens I.tokens]

example : ∃ h g, BarReach 2 h g ∧ leadCount 0 h = 1 ∧ leadCount 1 h = 1 ∧ leadCount 2 h = 0 :=
  let ⟨g, hr, _, _, _⟩ := exBarReach
  ⟨_, g, hr, by decide, by decide, by decide⟩

/-- **barrier_reuse_generations.**  A reused barrier: every completed generation consists of
exactly `n` arrivals (1 for the degenerate bounds 0 and 1) and has exactly one leader; the
current generation has fewer than that many arrivals, all registered as waiters; no later generation
has any. -/
theorem barrier_reuse_generations {n : Nat} {h : List BarEv} {g : BarG} (hr : BarReach n h g) :
    (∀ e, e < g.s.epoch → arrCount e h = groupSize n ∧ leadCount e h = 1) ∧
    (arrCount g.s.epoch h = g.s.waiters.length ∧ g.s.waiters.length < groupSize n) ∧
    (∀ e, g.s.epoch < e → arrCount e h = 0) := by
  have I := barReach_inv hr
  refine ⟨I.cnt_old, ⟨I.cnt_cur, ?_⟩, ?_⟩
  · have := I.wlen
    unfold groupSize
    split <;> omega
  · exact fun e he => arrCount_eq_zero (fun t e b h => (I.arr_le t e b h).1) he

example : ∃ h g, BarReach 2 h g ∧ 1 < g.s.epoch ∧ arrCount 0 h = 2 ∧ arrCount 1 h = 2 :=
  let ⟨g, hr, he, _, _⟩ := exBarReach
  ⟨_, g, hr, by rw [he]; decide, by decide, by decide⟩

theorem susp_nil_of_bound_le_one {n : Nat} (hn : n ≤ 1) {h : List BarEv} {g : BarG} (hr : BarReach n h g) :
    g.susp = [] := by
  induction hr with
  | init => rfl
  | @step h g evs g' hr hs ih =>
    have I := barReach_inv hr
    cases hs with
    | arriveBlocked _ ha =>
      have := (arrive_ok_blocked ha).2.1
      have := I.bound
      omega
    | arriveRelease _ _ => exact ih
    | resume hsu _ => rw [ih] at hsu; cases hsu

/-- **barrier_bound_zero_one.**  The bounds 0 and 1 exactly as the code behaves: nobody ever
blocks or is suspended; every `wait` (by any task, at any time) completes a generation of its
own at once — it releases only itself, returns `is_leader = true`, and advances the epoch. -/
theorem barrier_bound_zero_one {n : Nat} (hn : n ≤ 1) {h : List BarEv} {g : BarG} (hr : BarReach n h g) :
    g.susp = [] ∧ g.s.waiters = [] ∧
    ∀ t c clk, ∃ s' effs, g.s.arrive t c clk = .ok (s', .released g.s.epoch, effs) ∧
      (∀ x, Eff.unblock x ∈ effs ↔ x = t) ∧
      (s'.takeLeader g.s.epoch).2 = true ∧ (s'.takeLeader g.s.epoch).1.epoch = g.s.epoch + 1 ∧
      (s'.takeLeader g.s.epoch).1.waiters = [] := by
  have I := barReach_inv hr
  have hw : g.s.waiters = [] := by
    have := I.wlen
    exact List.eq_nil_of_length_eq_zero (by omega)
  refine ⟨susp_nil_of_bound_le_one hn hr, hw, ?_⟩
  intro t c clk
  have hb := I.bound
  have := arrive_released_of g.s t c clk (by rw [hw]; simp) (by rw [hw, hb]; simp; omega)
    (by rw [hw, hb]; simp; omega) (by rw [I.tokens]; simp)
  refine ⟨_, _, this, fun x => ?_, ?_, rfl, rfl⟩
  · rw [mem_releaseEffs, hw]; simp
  · simp [BarrierState.takeLeader]

example : ∃ h g, BarReach 0 h g ∧ h = [.ret 1 1 true, .arrive 1 1 true, .ret 1 0 true, .arrive 1 0 true] :=
  ⟨_, _, .step (.step (.init (n := 0)) (.arriveRelease (t := 1) (c := [1]) (clk := fun _ => []) (by decide) rfl))
    (.arriveRelease (t := 1) (c := [2]) (clk := fun _ => []) (by decide) rfl), rfl⟩
example : ∃ h g, BarReach 1 h g ∧ h = [.ret 2 1 true, .arrive 2 1 true, .ret 1 0 true, .arrive 1 0 true] :=
  ⟨_, _, .step (.step (.init (n := 1)) (.arriveRelease (t := 1) (c := [1]) (clk := fun _ => []) (by decide) rfl))
    (.arriveRelease (t := 2) (c := [0, 1]) (clk := fun _ => []) (by decide) rfl), rfl⟩

end Barrier

section Once
open ShuttleModel.OnceState

/-- `1` and `2` race on a fresh cell, `2` wins the lock and runs its closure, `3` asks
`is_completed` in the middle (false), `2` completes and returns, `1` gets the lock, finds the flag
set, returns without running; a late `call_once` by `3` returns at once -/
theorem exOnceReach : ∃ g, OnceReach
    [.enter 3 true, .ret 1 false, .acquired 1 true, .ret 2 true, .initDone 2, .isCompleted 3 false,
     .acquired 2 false, .enter 2 false, .enter 1 false] g ∧ g.s.complete = some [0, 0, 1] ∧
    g.waiting = [] ∧ g.holder = none := by
  have r1 := OnceReach.step .init (OnceStep.enterRace (t := 1) (by simp [OnceG.busy, onceInit]) rfl)
  have r2 := OnceReach.step r1 (OnceStep.enterRace (t := 2) (by simp [OnceG.busy, onceInit]) rfl)
  have r3 := OnceReach.step r2 (OnceStep.acquire (t := 2) (by simp [onceInit]) rfl)
  have r4 := OnceReach.step r3 (OnceStep.isCompleted (t := 3))
  have r5 := OnceReach.step r4 (OnceStep.initDone (t := 2) (c := [0, 0, 1]) rfl)
  have r6 := OnceReach.step r5 (OnceStep.unlockDone (t := 2) rfl)
  have r7 := OnceReach.step r6 (OnceStep.acquire (t := 1) (by simp [onceInit]) rfl)
  have r8 := OnceReach.step r7 (OnceStep.unlockSkip (t := 1) rfl)
  have r9 := OnceReach.step r8 (OnceStep.enterDone (t := 3) (c := [0, 0, 1]) (by simp [OnceG.busy, onceInit]) rfl)
  exact ⟨_, r9, rfl, rfl, rfl⟩

/-- **exactly_one_initializer.**  Given mutual exclusion of the internal mutex (built into
`OnceStep.acquire`; property C04), in every reachable state of a `Once` under any number of racing
`call_once`: at most one caller has started its initializer in the whole execution; completion is
permanent; and once the cell is complete every later `call_once` skips the initializer — a new
call returns from its first segment, and a racer that already holds the `Rc<Mutex>` finds the flag
set when it gets the lock. -/
theorem exactly_one_initializer {h : List OnceEv} {g : OnceG} (hr : OnceReach h g) :
    initRuns h ≤ 1 ∧
    (∀ e g', OnceStep g e g' → g.s.complete.isSome = true → g'.s.complete.isSome = true) ∧
    (g.s.complete.isSome = true →
      (∀ t g', ¬ OnceStep g (.enter t false) g') ∧
      (∀ t f g', OnceStep g (.acquired t f) g' → f = true ∧ initRuns (.acquired t f :: h) = initRuns h)) := by
  have I := onceReach_inv hr
  refine ⟨?_, ?_, ?_⟩
  · rcases I.runs with ⟨h0, _⟩ | ⟨h1, _⟩ <;> omega
  · intro e g' hs hc
    have I' := onceInv_step I hs
    obtain ⟨t, ht⟩ := I.done_iff.1 hc
    exact I'.done_iff.2 ⟨t, List.mem_cons_of_mem _ ht⟩
  · intro hc
    constructor
    · intro t g' hs
      cases hs with
      | enterRace _ hn => simp only [enter_snd] at hn; rw [hn] at hc; cases hc
    · intro t f g' hs
      cases hs with
      | acquire _ _ =>
        rw [bne_iff_ne.2 (I.flag_iff.2 hc)]
        exact ⟨rfl, initRuns_cons_of_ne (e := .acquired _ true) (fun _ h => nomatch h) h⟩

example : ∃ h g, OnceReach h g ∧ initRuns h = 1 ∧ g.s.complete.isSome = true :=
  let ⟨g, hr, hc, _, _⟩ := exOnceReach
  ⟨_, g, hr, by decide, by rw [hc]; rfl⟩

/-- **call_once_returns_after_completion.**  Whatever the path (already complete at entry; lost the
race and found the flag set; ran the initializer itself), when a `call_once` returns the cell is
`Complete`, some caller's initializer has run to its end before that moment, and exactly one
initializer was ever started. -/
theorem call_once_returns_after_completion {h : List OnceEv} {g : OnceG} (hr : OnceReach h g)
    {e : OnceEv} {g' : OnceG} (hs : OnceStep g e g')
    (hret : (∃ t, e = .enter t true) ∨ (∃ t ran, e = .ret t ran)) :
    g'.s.complete.isSome = true ∧ (∃ t0, OnceEv.initDone t0 ∈ h) ∧ initRuns (e :: h) = 1 := by
  have I := onceReach_inv hr
  have I' := onceInv_step I hs
  have hc : g.s.complete.isSome = true := by
    rcases hret with ⟨t, rfl⟩ | ⟨t, ran, rfl⟩
    · cases hs with
      | enterDone _ hd => rw [← enter_snd, hd]; rfl
    · cases hs with
      | unlockSkip hh => exact Option.isSome_iff_ne_none.2 fun hn => nomatch (I.phase _ _ hh).2 hn
      | unlockDone hh => exact Option.isSome_iff_ne_none.2 fun hn => nomatch (I.phase _ _ hh).2 hn
  have hc' := (exactly_one_initializer hr).2.1 e g' hs hc
  refine ⟨hc', I.done_iff.1 hc, ?_⟩
  rcases I'.runs with ⟨_, h0, _⟩ | ⟨h1, _⟩
  · rw [h0] at hc'; cases hc'
  · exact h1

example : ∃ h g e g', OnceReach h g ∧ OnceStep g e g' ∧ ∃ t, e = .enter t true := by
  obtain ⟨g, hr, hc, hw, hh⟩ := exOnceReach
  exact ⟨_, g, _, _, hr, OnceStep.enterDone (t := 9) (c := [0, 0, 1])
    (by simp [OnceG.busy, hw, hh]) (by rw [enter_snd, hc]; exact rfl), 9, rfl⟩

/-- **is_completed_iff_complete.**  `is_completed()` answers `true` exactly when the cell is
`Complete`, i.e. exactly when some initializer has already run to its end; it never changes the
state. -/
theorem is_completed_iff_complete {h : List OnceEv} {g : OnceG} (hr : OnceReach h g) :
    (g.s.isCompleted.isSome = true ↔ ∃ t0, OnceEv.initDone t0 ∈ h) ∧
    (∀ t res g', OnceStep g (.isCompleted t res) g' →
        g' = g ∧ (res = true ↔ ∃ t0, OnceEv.initDone t0 ∈ h)) := by
  have I := onceReach_inv hr
  have h1 : g.s.isCompleted.isSome = true ↔ ∃ t0, OnceEv.initDone t0 ∈ h := I.done_iff
  refine ⟨h1, ?_⟩
  intro t res g' hs
  cases hs with
  | isCompleted => exact ⟨rfl, h1⟩

example : ∃ h g, OnceReach h g ∧ ∃ t0, OnceEv.initDone t0 ∈ h :=
  let ⟨g, hr, _, _, _⟩ := exOnceReach
  ⟨_, g, hr, 2, by simp⟩

end Once

section Park

/-- **park_consumes_or_blocks.**  `park` on the running, not parked task: a pending token is
consumed and the call does not block; without a token the task becomes parked and blocked with
`allow_spurious_wakeups = true` (so the scheduler may wake it spuriously). -/
theorem park_consumes_or_blocks (t : Task) (hr : t.state = .runnable) (hb : t.blockedInPark = false) :
    (t.tokenAvail = true → t.park = .ok (false, { t with tokenAvail := false })) ∧
    (t.tokenAvail = false →
      t.park = .ok (true, { t with blockedInPark := true, state := .blocked true }) ∧
      ({ t with blockedInPark := true, state := .blocked true } : Task).canSpuriouslyWakeup = true) := by
  constructor
  · intro ht
    simp [Task.park, Task.isBlocked, hb, hr, ht]
  · intro ht
    refine ⟨?_, rfl⟩
    simp [Task.park, Task.isBlocked, Task.block, Task.finished, hb, hr, ht]

example : ∃ t : Task, t.state = .runnable ∧ t.blockedInPark = false ∧ t.tokenAvail = true :=
  ⟨{ tokenAvail := true }, rfl, rfl, rfl⟩

/-- **unpark_unblocks_or_sets_token.**  `unpark` of a parked task (which, by `park_invariant`, is
blocked-spuriously-wakeable and has no token) makes it runnable and not parked — the wake-up is
never lost; `unpark` of a task that is not parked sets the (boolean) token. -/
theorem unpark_unblocks_or_sets_token (t : Task) :
    (t.blockedInPark = true → t.state = .blocked true → t.tokenAvail = false →
      t.unpark = .ok { t with state := .runnable, blockedInPark := false }) ∧
    (t.blockedInPark = false → t.unpark = .ok { t with tokenAvail := true }) := by
  constructor
  · intro hb hs ht
    simp [Task.unpark, Task.isBlocked, Task.canSpuriouslyWakeup, Task.unblock, Task.finished, hb, hs, ht]
  · intro hb
    simp [Task.unpark, hb]

/-- **token_is_boolean.**  Tokens do not accumulate: on a running, not parked task, two `unpark`s
followed by two `park`s — the first `park` consumes the token and does not block, the second one
blocks (spuriously wakeable) and marks the task parked. -/
theorem token_is_boolean (t : Task) (hr : t.state = .runnable) (hb : t.blockedInPark = false) :
    ∃ t1 t2 t3 t4, t.unpark = .ok t1 ∧ t1.unpark = .ok t2 ∧ t2.park = .ok (false, t3) ∧
      t3.park = .ok (true, t4) ∧ t2.tokenAvail = true ∧ t3.tokenAvail = false ∧
      t4.state = .blocked true ∧ t4.blockedInPark = true ∧ t4.tokenAvail = false :=
  let t2 : Task := { t with tokenAvail := true }
  let t3 : Task := { t with tokenAvail := false }
  ⟨t2, t2, t3, _, (unpark_unblocks_or_sets_token t).2 hb, (unpark_unblocks_or_sets_token t2).2 hb,
    (park_consumes_or_blocks t2 hr hb).1 rfl, ((park_consumes_or_blocks t3 hr hb).2 rfl).1, rfl, rfl, rfl, rfl, rfl⟩

example : ∃ t : Task, t.state = .runnable ∧ t.blockedInPark = false := ⟨{}, rfl, rfl⟩

/-- **blocked_in_park_cleared_on_any_unblock.**  Every `Task::unblock` — by `unpark`, by another
primitive, or by the scheduler's spurious wake-up, which calls the same function — clears
`blocked_in_park` and makes the task runnable; `wake` of a sleeping task does so too. -/
theorem blocked_in_park_cleared_on_any_unblock (t t' : Task) :
    (t.unblock = .ok t' → t'.blockedInPark = false ∧ t'.state = .runnable ∧ t'.tokenAvail = t.tokenAvail) ∧
    (t.sleeping = true → t.wake = .ok t' → t'.blockedInPark = false ∧ t'.state = .runnable) := by
  constructor
  · intro h
    cases Task.unblock_ok h
    exact ⟨rfl, rfl, rfl⟩
  · intro hs h
    rcases Task.wake_ok h with ⟨hn, _⟩ | ⟨_, rfl⟩
    · exact absurd (hn.symm.trans hs) Bool.false_ne_true
    · exact ⟨rfl, rfl⟩

example : ∃ t t' : Task, t.blockedInPark = true ∧ t.unblock = .ok t' :=
  ⟨{ blockedInPark := true, state := .blocked true }, _, rfl, rfl⟩

/-- **park_invariant.**  Over all sequences of operations on a task (its own `park` / `block` /
`sleep_unless_woken` / `finish` while it runs; `unpark`, `unblock`, `wake`, external `block(false)`
at any time): never `token_available ∧ blocked_in_park`; and, as long as no *external* `block(false)`
hits it (the model only issues that for condvar / semaphore waiters), a parked task is blocked with
spurious wake-ups allowed and has no token — so the next `unpark` succeeds and makes it runnable. -/
theorem park_invariant {ops : List TaskOp} {t : Task} (hr : TReach ops t) :
    ¬ (t.tokenAvail = true ∧ t.blockedInPark = true) ∧
    (TaskOp.blockExt ∉ ops → t.blockedInPark = true →
      t.state = .blocked true ∧ t.tokenAvail = false ∧
      t.unpark = .ok { t with state := .runnable, blockedInPark := false }) := by
  have h1 := treach_tokenInv hr
  refine ⟨h1, ?_⟩
  intro hno hb
  have hs := treach_parkedInv hr hno hb
  have ht : t.tokenAvail = false := by
    cases hx : t.tokenAvail with
    | false => rfl
    | true => exact absurd ⟨hx, hb⟩ h1
  exact ⟨hs, ht, (unpark_unblocks_or_sets_token t).1 hb hs ht⟩

example : ∃ ops t, TReach ops t ∧ TaskOp.blockExt ∉ ops ∧ t.blockedInPark = true :=
  ⟨[.park, .park, .unpark, .unpark], { blockedInPark := true, state := .blocked true },
    TReach.step (t := { tokenAvail := false }) (op := .park)
      (TReach.step (t := { tokenAvail := true }) (op := .park)
        (TReach.step (t := { tokenAvail := true }) (op := .unpark)
          (TReach.step (t := {}) (op := .unpark) .init ⟨rfl, by decide⟩) ⟨rfl, by decide⟩)
        ⟨rfl, fun _ => rfl⟩)
      ⟨rfl, fun _ => rfl⟩,
    by decide, rfl⟩

end Park

end ShuttleProofs.C05

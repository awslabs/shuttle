import ShuttleProofs.Lemmas.DfsWalk

/-!
# C09 — the DFS scheduler enumerates every path of every finite choice tree exactly once, in order, then stops

Model: `ShuttleModel.Dfs` (`ShuttleModel/Sched/Dfs.lean`, transcription of `shuttle-schedulers/src/dfs.rs`).
Spec-level definitions (`Tree`, `Tree.WF`, `paths`, `runOne`, `runAllEnd`, `runAll`, `iterExec`):
`ShuttleProofs/Lemmas/DfsTree.lean`; `IsPath`, `truncate`, `dedup`: `ShuttleProofs/Lemmas/DfsPaths.lean`.

`runAllEnd fuel s t = (ps, e)`: the driver loop `repeat { newExecution; if none stop; runOne }` performed the
executions `ps` (in that order) and then stopped because
`e = .done` (`newExecution` returned `none`), `e = .failed` (scheduler panic, or a choice that was not offered), or
`e = .outOfFuel` (the model's loop bound was hit while the scheduler still wanted to continue).
-/

namespace ShuttleProofs.Dfs
open ShuttleModel.Dfs

/-- Data-dependent branching (different kid lists under different siblings), depth 4, several single-kid nodes. -/
def exT : Tree :=
  .node [(0, .node [(1, .leaf), (2, .node [(0, .leaf)])]),
         (3, .leaf),
         (4, .node [(5, .leaf), (6, .node [(7, .node [(1, .leaf), (2, .leaf), (9, .leaf)])])])]

theorem exT_wf : exT.WF := by simp only [exT, Tree.WF, WFF]; decide

theorem exT_paths : paths exT = [[0, 1], [0, 2, 0], [3], [4, 5], [4, 6, 7, 1], [4, 6, 7, 2], [4, 6, 7, 9]] := by
  decide +kernel

/-- From a fresh unbounded scheduler, on every well-formed finite choice tree:
* with enough fuel (anything ≥ number of paths + 1) the executions performed are exactly `paths t` — same order,
  each once, no failure — and then `newExecution` returns `none`;
* with less fuel the loop performs exactly the first `fuel` paths and the scheduler is *not* done (so the loop never
  stops early, and fuel is not a loophole);
* the state reached after exactly `(paths t).length` executions refuses to start another execution. -/
theorem dfs_exhaustive (t : Tree) (h : t.WF) :
    (∀ fuel, fuel ≥ (paths t).length + 1 → runAllEnd fuel (DfsState.new none) t = (paths t, .done)) ∧
    (∀ fuel, fuel ≤ (paths t).length →
      runAllEnd fuel (DfsState.new none) t = ((paths t).take fuel, .outOfFuel)) ∧
    (∃ s, iterExec (paths t).length (DfsState.new none) t = some s ∧ newExecution s = none) :=
  runAllEnd_of_outcome (runAllEnd_new t h none)

/-- `runAll` form (only the list of executed paths). -/
theorem dfs_exhaustive_runAll (t : Tree) (h : t.WF) (fuel : Nat) (hf : fuel ≥ (paths t).length + 1) :
    runAll fuel (DfsState.new none) t = paths t := by
  simp [runAll, (dfs_exhaustive t h).1 fuel hf]

example : exT.WF ∧ runAllEnd 8 (DfsState.new none) exT
    = ([[0, 1], [0, 2, 0], [3], [4, 5], [4, 6, 7, 1], [4, 6, 7, 2], [4, 6, 7, 9]], .done) :=
  ⟨exT_wf, by decide +kernel⟩
example : runAllEnd 5 (DfsState.new none) exT = ([[0, 1], [0, 2, 0], [3], [4, 5], [4, 6, 7, 1]], .outOfFuel) := by
  decide +kernel
example : (iterExec 7 (DfsState.new none) exT).bind newExecution = none
    ∧ ((iterExec 6 (DfsState.new none) exT).bind newExecution).isSome := by decide +kernel

/-- The distinct-ids hypothesis is necessary: with a duplicated id the scheduler re-runs `[0]` forever. -/
example : runAllEnd 5 (DfsState.new none) (.node [(0, .leaf), (0, .node [(1, .leaf), (2, .leaf)]), (1, .leaf)])
    = ([[0], [0], [0], [0], [0]], .outOfFuel) := by decide +kernel
/-- The non-empty hypothesis is necessary: an empty offer makes `next_task` panic (`runnable.first().unwrap()`). -/
example : runAllEnd 5 (DfsState.new none) (.node [(0, .leaf), (1, .node [])]) = ([[0]], .failed) := by decide +kernel

/-- `paths t` has no duplicates (so "each exactly once" is meaningful) and contains exactly the maximal root-to-leaf
choice sequences. -/
theorem dfs_no_duplicates (t : Tree) (h : t.WF) :
    (paths t).Nodup ∧ ∀ p, IsPath t p ↔ p ∈ paths t :=
  ⟨nodup_paths.1 t h, isPath_iff t⟩

example : exT.WF ∧ (paths exT).Nodup ∧ [4, 6, 7, 2] ∈ paths exT ∧ IsPath exT [4, 6, 7, 2] :=
  ⟨exT_wf, (dfs_no_duplicates exT exT_wf).1, by decide +kernel, (isPath_iff _ _).2 (by decide +kernel)⟩

/-- With `max_iterations = Some(k)` the executions are exactly the first `k` paths, then the run stops. -/
theorem dfs_iteration_bound (t : Tree) (h : t.WF) (k : Nat) :
    (∀ fuel, fuel ≥ ((paths t).take k).length + 1 →
      runAllEnd fuel (DfsState.new (some k)) t = ((paths t).take k, .done)) ∧
    (∀ fuel, fuel ≤ ((paths t).take k).length →
      runAllEnd fuel (DfsState.new (some k)) t = (((paths t).take k).take fuel, .outOfFuel)) ∧
    (∃ s, iterExec ((paths t).take k).length (DfsState.new (some k)) t = some s ∧ newExecution s = none) :=
  runAllEnd_of_outcome (runAllEnd_new t h (some k))

example : runAllEnd 100 (DfsState.new (some 3)) exT = ([[0, 1], [0, 2, 0], [3]], .done) := by decide +kernel
example : runAllEnd 100 (DfsState.new (some 0)) exT = ([], .done) := by decide +kernel
example : runAllEnd 100 (DfsState.new (some 50)) exT = (paths exT, .done) := by decide +kernel

/-- `MaxSteps::ContinueAfter(n)` (every execution is cut after `n` scheduling decisions) presents the tree
`truncate n t`.  The scheduler enumerates `paths (truncate n t)` exhaustively, and those are exactly the distinct
length-`≤ n` prefixes `p.take n` of the paths of `t`, in first-occurrence order. -/
theorem dfs_step_bound (t : Tree) (h : t.WF) (n : Nat) :
    (truncate n t).WF ∧
    (∀ fuel, fuel ≥ (paths (truncate n t)).length + 1 →
      runAllEnd fuel (DfsState.new none) (truncate n t) = (paths (truncate n t), .done)) ∧
    paths (truncate n t) = dedup ((paths t).map (List.take n)) ∧
    (paths (truncate n t)).Nodup :=
  have hwf := truncate_wf.1 t n h
  ⟨hwf, (dfs_exhaustive _ hwf).1, paths_truncate.1 t n h, nodup_paths.1 _ hwf⟩

example : runAllEnd 100 (DfsState.new none) (truncate 2 exT) = ([[0, 1], [0, 2], [3], [4, 5], [4, 6]], .done)
    ∧ dedup ((paths exT).map (List.take 2)) = [[0, 1], [0, 2], [3], [4, 5], [4, 6]] := by decide +kernel
example : paths (truncate 3 exT) = [[0, 1], [0, 2, 0], [3], [4, 5], [4, 6, 7]] := by decide +kernel
example : paths (truncate 0 exT) = [[]] := by decide +kernel

/-- On well-formed trees no execution ever fails: `next_task` never panics (neither on a first visit nor on a
revisit) and always returns one of the offered ids — for every iteration bound and every amount of fuel. -/
theorem dfs_never_fails (t : Tree) (h : t.WF) (mi : Option Nat) (fuel : Nat) :
    (runAllEnd fuel (DfsState.new mi) t).2 ≠ .failed := by
  rw [runAllEnd_new t h mi fuel, outcome]
  split <;> simp

example : (runAllEnd 3 (DfsState.new (some 5)) exT).2 = .outOfFuel := by decide +kernel

end ShuttleProofs.Dfs

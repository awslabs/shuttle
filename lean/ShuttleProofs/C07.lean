import ShuttleProofs.Lemmas.Storage
import ShuttleProofs.Lemmas.ThreadLang
import ShuttleProofs.Lemmas.TlsRefine
import ShuttleProofs.Lemmas.KernelExamples
/-
  C07 — threads and thread-locals.  Part 1: the storage map behind `thread_local!`
  (shuttle-engine/src/runtime/storage.rs, `LocalKey` in thread_support.rs), over the transcription
  `ShuttleModel/Storage.lean`.
-/
namespace ShuttleProofs.C07
open ShuttleModel ShuttleModel.Storage ShuttleModel.Storage.StorageMap

/-- **A slot is initialised at most once.**  `init` succeeds exactly on a key that was never initialised
(the value is then readable and the key joins the end of the destruction order); on an initialised slot —
whether its value is still alive or it is a tombstone left by `pop` — it is the documented panic
"cannot reinitialize a storage slot". -/
theorem storage_init_once {α : Type} (m : StorageMap α) (k : StorageKey) (v : α) :
    (m.get k = none →
        ∃ m', m.init k v = .ok m' ∧ m'.get k = some (.ok v) ∧ m'.order = m.order ++ [k] ∧
          ∀ w, m'.init k w = .error "cannot reinitialize a storage slot") ∧
    (∀ x, m.get k = some (.ok x) → m.init k v = .error "cannot reinitialize a storage slot") ∧
    (m.get k = some (.error .alreadyDestructed) → m.init k v = .error "cannot reinitialize a storage slot") := by
  refine ⟨fun h => ?_, fun x h => ?_, fun h => ?_⟩
  · have hk := (get_eq_none_iff m k).1 h
    refine ⟨m.pushed k v, init_fresh m k v hk, ?_, rfl, fun w => init_present _ k w (by simp)⟩
    simp [StorageMap.get, lookup_pushed_self m k v hk]
  · exact init_present m k v (mem_keys_of_get h)
  · exact init_present m k v (mem_keys_of_get h)

example : ∃ m : StorageMap Nat, m.get ⟨1, 0⟩ = none ∧ m.get ⟨0, 0⟩ = some (.ok 7) ∧
    (∃ v m', m.pop = .popped v m' ∧ m'.get ⟨0, 0⟩ = some (.error .alreadyDestructed) ∧
      m'.init ⟨0, 0⟩ 9 = .error "cannot reinitialize a storage slot") :=
  ⟨{ locals := [(⟨0, 0⟩, some 7)], order := [⟨0, 0⟩] }, rfl, rfl, 7, _, rfl, rfl, rfl⟩

/-- **`pop` follows initialisation order.**  One step: on a well-formed map `pop` never hits its `expect`s;
it returns `None` exactly when no value is alive, and otherwise the oldest live value, which it removes
from the live values (so no value is returned twice) while keeping the slot as a tombstone.  Iterated:
repeated `pop` returns exactly the live values in initialisation order, each once, then `None`; and for a
map built by `init`ialising distinct keys `k₁…kₙ` with `v₁…vₙ`, that is `v₁…vₙ`. -/
theorem storage_pop_in_insertion_order {α : Type} {m : StorageMap α} (h : m.WF) :
    ((m.pop = .empty ∧ m.liveVals = []) ∨
      (∃ v m', m.pop = .popped v m' ∧ m.liveVals = v :: m'.liveVals ∧ m'.WF ∧ m'.keys = m.keys)) ∧
    (let r := drain (fun _ => []) (m.order.length + 1) m []
     r.dropped = m.liveVals ∧ r.completed = true ∧ r.panic = none ∧ r.final.pop = .empty ∧
       r.final.keys = m.keys) ∧
    (∀ kvs : List (StorageKey × α), (kvs.map (·.1)).Nodup →
      ∃ m0, initAll (new : StorageMap α) kvs = .ok m0 ∧
        (drain (fun _ => []) (kvs.length + 1) m0 []).dropped = kvs.map (·.2)) := by
  have gen : ∀ {m : StorageMap α}, m.WF →
      (let r := drain (fun _ => []) (m.order.length + 1) m []
       r.dropped = m.liveVals ∧ r.completed = true ∧ r.panic = none ∧ r.final.pop = .empty ∧
         r.final.keys = m.keys) := by
    intro m h
    have hs := drain_spec (K := []) (fun _ : α => []) (fun _ _ hp => nomatch hp) (m.order.length + 1) m [] h
      (by simp [Storage.measure])
    obtain ⟨late, hl⟩ := hs.order
    obtain ⟨ks, hk, hks⟩ := hs.keys
    have hks' : ks = [] := List.eq_nil_iff_forall_not_mem.2 fun a ha => nomatch hks a ha
    rw [hks', List.append_nil] at hk
    -- one destructor per slot ever initialised: nothing beyond the values alive at the start was dropped
    have hc := hs.count
    rw [hk, keys_length m, hl] at hc
    have : late = [] := List.eq_nil_of_length_eq_zero (by
      simp only [List.reverse_nil, List.nil_append, List.length_append, List.length_nil] at hc; omega)
    rw [this, List.append_nil] at hl
    exact ⟨hl, hs.completed, hs.noPanic, (pop_empty_iff _).2 hs.drained.1, hk⟩
  refine ⟨?_, gen h, ?_⟩
  · cases ho : m.order with
    | nil => exact .inl ⟨(pop_empty_iff m).2 ho, (liveVals_nil_of_order_nil h ho).1⟩
    | cons k rest =>
      obtain ⟨v, m', hp⟩ := pop_wf h ho
      exact .inr ⟨v, m', hp.eq, hp.liveVals, hp.wf, hp.keys⟩
  · intro kvs hn
    obtain ⟨m0, e, wf, _, vs, _⟩ := initAll_spec (K := kvs.map (·.1)) kvs (m := new) new_wf
      ((List.nil_append _).symm ▸ hn) (fun _ hp => List.mem_map_of_mem hp)
    have vs' : m0.liveVals = kvs.map (·.2) := vs.trans (List.nil_append _)
    have := (gen wf).1
    rw [wf.order_eq, liveKeys_length, vs', List.length_map] at this
    exact ⟨m0, e, this⟩

example : (drain (fun _ : Nat => []) 4
    { locals := [(⟨5, 0⟩, some 50), (⟨2, 0⟩, none), (⟨9, 1⟩, some 90)], order := [⟨5, 0⟩, ⟨9, 1⟩] } []).dropped
    = [50, 90] := by decide +kernel

/-- **No resurrection.**  After `pop` has destructed the slot of key `k`, `get k` is
`Some(Err(AlreadyDestructedError))` — not `None`, which would make `try_with` run the initialiser again —;
`LocalKey::try_with` reports `AccessError` without touching the map, `LocalKey::with` panics with the
documented message, `init` panics; and the tombstone survives the destructor loop: every later `pop` and every
`try_with` access a destructor makes, those that initialise other keys included. -/
theorem storage_tombstone_access_is_error {α : Type} {m : StorageMap α} (h : m.WF) {k : StorageKey}
    {rest : List StorageKey} (ho : m.order = k :: rest) :
    ∃ v m', m.pop = .popped v m' ∧ m.get k = some (.ok v) ∧
      m'.get k = some (.error .alreadyDestructed) ∧
      (∀ w, m'.init k w = .error "cannot reinitialize a storage slot") ∧
      (∀ w, tryWith m' k w = .ok (.error .accessError, m')) ∧
      (∀ w, withKey m' k w = .error "cannot access a Thread Local Storage value during or after destruction") ∧
      (∀ (K : List StorageKey) (dtor : α → List (StorageKey × α)), (∀ v, ∀ p ∈ dtor v, p.1 ∈ K) →
        ∀ fuel, Storage.measure K m' < fuel →
          (drain dtor fuel m' []).final.get k = some (.error .alreadyDestructed)) := by
  obtain ⟨v, m', hp⟩ := pop_wf h ho
  have hl' := hp.isDead
  have hmem : k ∈ m'.keys := mem_keys_of_lookup hl'
  have htw : ∀ w, tryWith m' k w = .ok (.error .accessError, m') := by
    intro w
    rcases tryWith_spec m' k w with ⟨hn, _⟩ | ⟨_, e⟩
    · exact absurd hmem hn
    · rw [hl'] at e; exact e
  exact ⟨v, m', hp.eq, by simp [StorageMap.get, hp.wasLive], (get_destructed_iff m' k).2 hl',
    fun w => init_present m' k w hmem, htw, fun w => by simp [withKey, htw w],
    fun K dtor hK fuel hf => (get_destructed_iff _ k).2 ((drain_spec dtor hK fuel m' [] hp.wf hf).dead k hl')⟩

example : ∃ (m : StorageMap Nat) (k : StorageKey) (rest : List StorageKey), m.WF ∧ m.order = k :: rest :=
  ⟨{ locals := [(⟨0, 0⟩, some 7), (⟨1, 0⟩, some 8)], order := [⟨0, 0⟩, ⟨1, 0⟩] }, ⟨0, 0⟩, [⟨1, 0⟩],
    ⟨by decide, by decide⟩, rfl⟩

/-- **The destructor loop terminates, also when destructors initialise new slots.**  Let every destructor
access (with `try_with`) only keys from a finite set `K` — the `thread_local!` statics of the program.  The
loop `while let Some(v) = pop() { drop(v) }` then ends after at most
`|K \ keys(m)| + |live slots|` iterations, without panicking, with no live value left, having run one
destructor per value that was ever initialised: those alive at the start first, in initialisation order,
then those the destructors initialised, so that
`#destructors run + #tombstones at the start = #slots ever initialised`.  Tombstones present at the start
are still tombstones at the end. -/
theorem storage_pop_loop_terminates_with_late_inits {α : Type} (K : List StorageKey)
    (dtor : α → List (StorageKey × α)) (hK : ∀ v, ∀ p ∈ dtor v, p.1 ∈ K)
    {m : StorageMap α} (h : m.WF) (fuel : Nat) (hf : Storage.measure K m < fuel) :
    let r := drain dtor fuel m []
    r.completed = true ∧ r.panic = none ∧ r.final.WF ∧ r.final.pop = .empty ∧ r.final.liveVals = [] ∧
      r.dropped.length + m.tombstones = r.final.keys.length ∧
      (∃ late, r.dropped = m.liveVals ++ late) ∧
      (∃ ks, r.final.keys = m.keys ++ ks ∧ ∀ k ∈ ks, k ∈ K) ∧
      (∀ k, m.get k = some (.error .alreadyDestructed) → r.final.get k = some (.error .alreadyDestructed)) := by
  have hs := drain_spec dtor hK fuel m [] h hf
  refine ⟨hs.completed, hs.noPanic, hs.wf, (pop_empty_iff _).2 hs.drained.1, hs.drained.2, by simpa using hs.count,
    by simpa using hs.order, hs.keys, ?_⟩
  exact fun k hk => (get_destructed_iff _ k).2 (hs.dead k ((get_destructed_iff m k).1 hk))

/-- non-vacuity: the destructor of value 10 initialises key 2 (value 30) and touches the already destructed
key 0; the destructor of 30 initialises key 3 (value 40): four destructors run, 10, 20, 30, 40 -/
example :
    let dtor : Nat → List (StorageKey × Nat) := fun v =>
      if v = 10 then [(⟨2, 0⟩, 30), (⟨0, 0⟩, 99)] else if v = 30 then [(⟨3, 0⟩, 40)] else []
    let m : StorageMap Nat := { locals := [(⟨0, 0⟩, some 10), (⟨1, 0⟩, some 20)], order := [⟨0, 0⟩, ⟨1, 0⟩] }
    Storage.measure [⟨0, 0⟩, ⟨1, 0⟩, ⟨2, 0⟩, ⟨3, 0⟩] m = 4 ∧
    (drain dtor 5 m []).dropped = [10, 20, 30, 40] ∧ (drain dtor 5 m []).completed = true := by decide +kernel

/-! ## Part 2 — threads over the kernel model

Not modelled, hence not covered: the *value* a closure returns and `JoinHandle::join` hands back (the model's
bodies are `Prog U Unit`; in Rust the value travels through `result: Arc<Mutex<Option<Result<T>>>>`, written by
`thread_fn` after the destructor loop and before `take_waiter`, and taken by `join` with
`expect("target should have finished")`), and thread *names* (`Task.name`, fixed at spawn, not in the model's
`Task`).  `ThreadId` is the task id, which is modelled.
-/

section threads
open ShuttleProofs.Kernel ShuttleProofs.Thread

variable {P : Program} {σ : Type}

/-- **thread_fn_order.**  `thread_fn` is, in this order: the closure, the optional pre-exit switch, the
thread-local destructor loop, and the `take_waiter`/`unblock` pair.  A round of the loop that has rounds left
(`tlsPopLoop ir k (n + 1)`) falls through to that pair only when it has read an *empty* destruction order
(otherwise it pops the oldest key, leaves a tombstone, runs the destructor and goes round again), and the pair
unblocks exactly the registered joiner.  The model's loop also carries a round bound, `ir.objs.length + 1`, and
`tlsPopLoop ir k 0` falls through without reading anything; that the bound is never what ends the loop is not
part of the statement. -/
theorem thread_fn_order (ir : IR) (k : Nat) (f : ShuttleModel.P Unit) (sbe : Bool) :
    threadFn ir k f sbe =
      Prog.bind f (fun _ => Prog.bind (exitSwitch sbe) (fun _ =>
        Prog.bind (tlsPopLoop ir k (ir.objs.length + 1)) (fun _ => joinTail))) ∧
    (∀ n, tlsPopLoop ir k (n + 1) =
      Prog.bind (K.getL (Heap.localL k)) (fun l =>
        match l.tlsOrder with
        | [] => Prog.pure ()
        | key :: rest =>
          Prog.bind (K.setL (Heap.localL k) { l with
              tlsOrder := rest,
              tlsSlots := l.tlsSlots.map (fun p => if p.1 == key then (key, false) else p) })
            (fun _ => Prog.bind (tlsDtor ir k key) (fun _ => tlsPopLoop ir k n)))) ∧
    (∀ (S : Scheduler σ) (me fuel : Nat) (st : ExecState ir.program σ) (tk : Task),
      st.k.tasks[me]? = some tk →
      (tk.waiter = none →
        runSegment S me (fuel + 1) st joinTail =
          runSegment S me fuel { st with k := st.k.setTask me { tk with waiter := none } } (.pure ())) ∧
      (∀ j, tk.waiter = some j →
        runSegment S me (fuel + 2) st joinTail =
          match (st.k.setTask me { tk with waiter := none }).modTask j (·.unblock) with
          | .ok k' => runSegment S me fuel { st with k := k' } (.pure ())
          | .error e => .panicked e { st with k := st.k.setTask me { tk with waiter := none } })) := by
  refine ⟨?_, fun n => ?_, fun S me fuel st tk h => ?_⟩
  · unfold threadFn exitSwitch joinTail
    cases sbe
    · rfl
    · show Prog.bind f _ = Prog.bind f _
      congr 1; funext _
      show Prog.op _ _ = Prog.op _ _
      congr 1; funext t
      cases t <;> rfl
  · rw [tlsPopLoop]
    rfl
  · have e : ∀ n, runSegment S me (n + 1) st joinTail =
        runSegment S me n { st with k := st.k.setTask me { tk with waiter := none } }
          (match tk.waiter with
            | some t => .op (.unblock t) (fun _ => .pure ())
            | none => .pure ()) := by
      intro n
      unfold joinTail
      rw [runSegment]
      simp only [Kernel.getTask?, h]
      rfl
    exact ⟨fun hw => by rw [e, hw], fun j hw => by rw [e, hw]; rfl⟩

example : ∃ ir : IR, ir.objs.length = 1 ∧ (ir.tasks.length = 2) :=
  ⟨{ objs := [{ name := "t", kind := "tls", args := ["log"] }], tasks := [{}, {}] }, rfl, rfl⟩

/-- **join_returns_only_when_finished.**
(a) `Task::set_waiter` answers "do not block" only for a `Finished` target, and otherwise records the joiner
    without touching the target's state;
(b) a task `j` blocked by `block(false)` (what `join` does after `set_waiter` returned `true`) and not parked
    is not offered to the scheduler, and is still blocked after any loop iteration whose segment issues no
    `unblock(j)` request before its next scheduling point — no other request (`wake`, `unpark`, `block`, …, of
    any task) and no scheduler decision resumes it;
The tail of the target's `thread_fn` is such a request, for exactly the registered joiner, and it comes after
the destructor loop: `thread_fn_order`.
What is **not** claimed here: that no *other* code issues `unblock(j)` while `j` waits in `join`.  The last
scoped thread of a `thread::scope` issues `unblock(main)`, since the repair of F10 only when `main` has blocked at
the end of the scope (`scope_unblock_only_when_waiting`); the wait loop of `join` sends a joiner woken by anyone but
its target back to sleep (C07Join.lean). -/
theorem join_returns_only_when_finished :
    (∀ (tk tk' : Task) (w : Nat) (b : Bool), tk.setWaiter w = .ok (b, tk') →
      (b = false → tk.finished = true ∧ tk' = tk) ∧
      (b = true → tk.finished = false ∧ tk'.waiter = some w ∧ tk'.state = tk.state)) ∧
    (∀ (S : Scheduler σ) (segFuel : Nat) (st b : ExecState P σ) (j : Nat) (tk : Task),
      st.k.next = .none → st.conts.length = st.k.tasks.length → loopStep S segFuel st = .inr b →
      st.k.tasks[j]? = some tk → HardBlocked tk →
      j ∉ st.k.offered ∧
      ((∀ t p, t ∈ st.k.offered → st.conts[t]? = some p →
          UntilSwitch (P := P) (isUnblockOf j) p ∧ UntilSwitch (P := P) (isUnblockOf j) (P.unwind t)) →
        ∃ tk', b.k.tasks[j]? = some tk' ∧ HardBlocked tk')) := by
  refine ⟨?_, ?_⟩
  · intro tk tk' w b h
    rcases setWaiter_ok h with ⟨rfl, hf, rfl⟩ | ⟨rfl, hf, rfl⟩
    · exact ⟨fun _ => ⟨hf, rfl⟩, fun hb => (nomatch hb)⟩
    · exact ⟨fun hb => (nomatch hb), fun _ => ⟨hf, rfl, rfl⟩⟩
  · intro S segFuel st b j tk hn hc hs hj hb
    -- `HardBlocked` is stable under every request of another task except `unblock(j)`
    exact ⟨not_offered_of_hardBlocked hj hb, iter_preserves hn hc hs hj hb (not_offered_of_hardBlocked hj hb)
      (isUnblockOf j) fun _ hne _ o ho => stable_blocked hne o ho⟩

/-- non-vacuity of (b): in `exDeadlock` main blocks itself with `block(false)`; at the second loop head it is
`HardBlocked` and not offered -/
example : ∃ tk, (runLoop firstSched 20 1 (initState exDeadlock .none 0 ())).st.k.tasks[0]? = some tk ∧
    tk.state = .blocked false ∧ tk.blockedInPark = false := ⟨_, rfl, by decide, by decide⟩

/-- **task_ids_unique.**  A task id is the index of its entry in the append-only task table:
`spawn` (all of `spawn_thread` / `spawn_future` / `spawn_main_thread`) returns the current length of the table,
a spawn by an existing task lengthens the table by exactly one, no request and no loop iteration shortens it —
so an id is never handed out twice in an execution —, and the id a thread reads for itself (`ExecutionState::me()`,
hence `thread::current().id()`) is the index under which the run loop resumed it. -/
theorem task_ids_unique :
    (∀ (k : Kernel) (parent : Option Nat), (k.spawnTask parent).1 = k.tasks.length) ∧
    (∀ (k : Kernel), (k.spawnTask none).2.tasks.length = k.tasks.length + 1) ∧
    (∀ (k : Kernel) (p : Nat), p < k.tasks.length → (k.spawnTask (some p)).2.tasks.length = k.tasks.length + 1) ∧
    (∀ (S : Scheduler σ) (me fuel : Nat) (st : ExecState P σ) (fut : Bool) (body : Nat) (kont : Nat → Prog P.U Unit),
      runSegment S me (fuel + 1) st (.op (.spawn fut body) kont) =
        runSegment S me fuel { st with k := (st.k.spawnTask (some me)).2, conts := st.conts ++ [P.bodies body] }
          (kont st.k.tasks.length)) ∧
    (∀ (S : Scheduler σ) (me fuel : Nat) (st : ExecState P σ) (p : Prog P.U Unit),
      st.k.tasks.length ≤ (runSegment S me fuel st p).st.k.tasks.length) ∧
    (∀ (S : Scheduler σ) (segFuel : Nat) (ms : MaxSteps) (a b : ExecState P σ), LoopInv ms a →
      Reach S segFuel a b → a.k.tasks.length ≤ b.k.tasks.length) ∧
    (∀ (S : Scheduler σ) (me fuel : Nat) (st : ExecState P σ) (kont : Nat → Prog P.U Unit),
      runSegment S me (fuel + 1) st (.op .me kont) = runSegment S me fuel st (kont me)) := by
  refine ⟨spawnTask_fst, ?_, ?_, runSegment_spawn, ?_, ?_, ?_⟩
  · intro k; simp [Kernel.spawnTask]
  · intro k p hp
    obtain ⟨ts, heq, _, hlt⟩ := spawnTask_some_spec k p
    rw [heq]; exact hlt hp
  · intro S me fuel st p
    exact (runSegment_trace S me fuel st p).frame.tasksLen
  · intro S segFuel ms a b hi h
    refine (h.invariant (fun x => LoopInv ms x ∧ a.k.tasks.length ≤ x.k.tasks.length) ?_ ⟨hi, Nat.le_refl _⟩).2
    intro x y ⟨hl, hlen⟩ hs
    obtain ⟨t, s', _, _, _, hf, _⟩ := iter_frame hl.next hl.conts hs
    have h1 := hf.tasksLen
    simp only [segStart, chosenK, wokenTasks_length] at h1
    exact ⟨hl.step hs, Nat.le_trans hlen h1⟩
  · intro S me fuel st kont
    rw [runSegment]

example : ((({} : Kernel).spawnTask none).2.spawnTask (some 0)).1 = 1 := by decide

/-- **closure_runs_once.**
(a) the program of body `b` enters the continuation table only through a `spawn … b` request, as a new last
    entry whose index is the id that request returns (the table has one entry per task);
(b) a loop iteration resumes exactly one task, one the scheduler was offered — hence not `Finished` — from the
    continuation stored for it, and leaves every other task's continuation untouched;
(c) when that task's closure returns, the task becomes `Finished`;
(d) a `Finished` task stays `Finished`, is never offered again and its continuation never changes, at every
    loop head reachable afterwards: its closure is not run a second time. -/
theorem closure_runs_once :
    (∀ (S : Scheduler σ) (me fuel : Nat) (st : ExecState P σ) (fut : Bool) (body : Nat) (kont : Nat → Prog P.U Unit),
      st.conts.length = st.k.tasks.length →
      ∃ st', runSegment S me (fuel + 1) st (.op (.spawn fut body) kont) =
          runSegment S me fuel st' (kont st.k.tasks.length) ∧
        st'.conts = st.conts ++ [P.bodies body] ∧ st'.conts[st.k.tasks.length]? = some (P.bodies body)) ∧
    (∀ (S : Scheduler σ) (segFuel : Nat) (st b : ExecState P σ),
      st.k.next = .none → st.conts.length = st.k.tasks.length → loopStep S segFuel st = .inr b →
      ∃ t s' p, t ∈ st.k.offered ∧ st.conts[t]? = some p ∧
        (∃ tk, st.k.tasks[t]? = some tk ∧ tk.finished = false) ∧
        (∀ i, i ≠ t → i < st.conts.length → b.conts[i]? = st.conts[i]?) ∧
        (runSegment S t segFuel (segStart st t s') p = .atSwitch b ∨
          ∃ st' tk', runSegment S t segFuel (segStart st t s') p = .returned st' ∧
            b.k.tasks[t]? = some tk' ∧ tk'.finished = true ∧ b.conts[t]? = some (.pure ()))) ∧
    (∀ (S : Scheduler σ) (segFuel : Nat) (ms : MaxSteps) (a b : ExecState P σ) (j : Nat) (tk : Task),
      LoopInv ms a → Reach S segFuel a b → a.k.tasks[j]? = some tk → tk.finished = true →
      (∃ tk', b.k.tasks[j]? = some tk' ∧ tk'.finished = true) ∧ j ∉ b.k.offered ∧
        b.conts[j]? = a.conts[j]?) := by
  refine ⟨?_, ?_, ?_⟩
  · intro S me fuel st fut body kont hc
    exact ⟨_, runSegment_spawn S me fuel st fut body kont, rfl, by simp [← hc]⟩
  · intro S segFuel st b hn hc hs
    obtain ⟨t, s', p, hoff, hp, hco, hend⟩ := iter_fine hn hc hs
    refine ⟨t, s', p, hoff, hp, mem_live.mp (offered_subset_live hoff), hco, ?_⟩
    rcases hend with he | ⟨st', tk0, tk0', he, h1, h2, hb⟩
    · exact .inl he
    · refine .inr ⟨st', tk0', he, ?_⟩
      subst hb
      obtain ⟨l, _, hr⟩ := (runSegment_fineTrace S t segFuel (segStart st t s') p).conts
      have htl : t < st.conts.length := (List.getElem?_eq_some_iff.1 hp).1
      refine ⟨List.getElem?_set_self (List.getElem?_eq_some_iff.1 h1).1, finish_ok h2, ?_⟩
      rw [hr st' he]
      exact List.getElem?_set_self (List.length_append ▸ Nat.lt_add_right _ htl)
  · intro S segFuel ms a b j tk hi hr hj hf
    obtain ⟨⟨tk', h1, h2⟩, h3⟩ := reach_finished hi hr hj hf
    exact ⟨⟨tk', h1, h2⟩, not_offered_of_finished h1 h2, h3⟩

/-- non-vacuity: `exP` runs to completion with both closures returning -/
example : (execute exP firstSched .none 0 () 20 20).outcome = .ok ∧
    (execute exP firstSched .none 0 () 20 20).st.k.tasks.length = 2 ∧
    (execute exP firstSched .none 0 () 20 20).st.k.tasks.all (·.finished) = true := by decide +kernel

end threads

section tls_link
open ShuttleProofs.TlsRefine

/-- **The harness model's thread-locals are a `StorageMap`.**  The TLS fields of a task's `Local` in Lang.lean
(`tlsSlots`, `tlsOrder`) denote a `StorageMap Unit` (`toStorage`); `tlsTryWith` is "read the `Local`, apply
`tlsAccess`, write it back when a slot was created", and `tlsAccess` is `LocalKey::try_with` on that map:
`"seen"` ⇔ the slot is alive, `"destroyed"` ⇔ it is a tombstone (nothing changes: no resurrection), `"init"` ⇔
it was never initialised and is now created at the end of the destruction order; one round of `tlsPopLoop`
(`tlsPopStep`) stops exactly when `StorageMap::pop` returns `None`, and otherwise leaves the map that `pop` leaves
when it succeeds (the head of the order turned into a tombstone, the order shortened).  That `pop` does succeed
there, i.e. that `toStorage l` is well-formed, is not part of the statement.  So the storage theorems above speak
about what `tls_with` and the destructor loop of `threadFn` do in the executable model; each task (`Local` is per
body, the main one included) has its own map. -/
theorem tls_model_refines_storage (k oi : Nat) (l : Local) :
    (tlsTryWith k oi =
      Prog.bind (K.getL (Heap.localL k)) (fun l =>
        match l.tlsSlots.find? (·.1 == oi) with
        | some (_, true) => Prog.pure (tlsAccess l oi).1
        | some (_, false) => Prog.pure (tlsAccess l oi).1
        | none => Prog.bind (K.setL (Heap.localL k) (tlsAccess l oi).2) (fun _ => Prog.pure (tlsAccess l oi).1))) ∧
    (((tlsAccess l oi).1 = "seen" ∧ (toStorage l).get (key oi) = some (.ok ()) ∧ (tlsAccess l oi).2 = l) ∨
     ((tlsAccess l oi).1 = "destroyed" ∧ (toStorage l).get (key oi) = some (.error .alreadyDestructed) ∧
        (tlsAccess l oi).2 = l) ∨
     ((tlsAccess l oi).1 = "init" ∧ (toStorage l).get (key oi) = none ∧
        toStorage (tlsAccess l oi).2 = (toStorage l).pushed (key oi) ())) ∧
    ((l.tlsOrder = [] ∧ tlsPopStep l = none ∧ (toStorage l).pop = .empty) ∨
     (∃ k' rest l', l.tlsOrder = k' :: rest ∧ tlsPopStep l = some (k', l') ∧
        toStorage l' = { locals := tombstone (toStorage l).locals (key k'), order := (toStorage l).order.tail })) := by
  refine ⟨?_, ?_, ?_⟩
  · unfold tlsTryWith
    show Prog.bind _ _ = Prog.bind _ _
    congr 1
    funext l
    unfold tlsAccess
    cases h : l.tlsSlots.find? (·.1 == oi) with
    | none => rfl
    | some p => obtain ⟨a, b⟩ := p; cases b <;> rfl
  · have hl := lookup_toStorage l oi
    unfold tlsAccess
    cases h : l.tlsSlots.find? (·.1 == oi) with
    | none =>
      right; right
      rw [h] at hl
      refine ⟨rfl, by rw [StorageMap.get, hl]; rfl, ?_⟩
      simp only [toStorage, pushed, List.map_append]
      rfl
    | some p =>
      obtain ⟨a, b⟩ := p
      rw [h] at hl
      cases b with
      | true => left; exact ⟨rfl, by rw [StorageMap.get, hl]; rfl, rfl⟩
      | false => right; left; exact ⟨rfl, by rw [StorageMap.get, hl]; rfl, rfl⟩
  · unfold tlsPopStep
    cases h : l.tlsOrder with
    | nil => exact .inl ⟨rfl, rfl, by rw [pop_empty_iff, toStorage, h]; rfl⟩
    | cons k rest =>
      refine .inr ⟨k, rest, _, rfl, rfl, ?_⟩
      simp only [toStorage, h, List.map_cons, List.tail_cons, tombstone, List.map_map]
      congr 1
      apply List.map_congr_left
      intro p _
      simp only [Function.comp_def, key_beq]
      cases p.1 == k <;> rfl

example : (tlsAccess { tlsSlots := [(3, false), (5, true)], tlsOrder := [5] } 3).1 = "destroyed" ∧
    (tlsAccess { tlsSlots := [(3, false), (5, true)], tlsOrder := [5] } 5).1 = "seen" ∧
    (tlsAccess { tlsSlots := [(3, false), (5, true)], tlsOrder := [5] } 7).2.tlsOrder = [5, 7] := by decide

end tls_link

section scope
open ShuttleProofs.Kernel ShuttleProofs.Thread

variable {σ : Type}

/-- **scope_waits_for_all.**
(a) A scoped thread is `thread_fn(wrapper, switch_before_exit = false)` where the wrapper runs the thread's
    closure, its own pre-exit switch and then `scopeExit`; the thread's thread-local destructors and the
    wake-up of its joiner come *after* `scopeExit` (in `thread_fn`).  So what `scope` waits for is the return of
    every scoped *closure* — not the end of the scoped threads: their TLS destructors may still run, and the
    tasks are not yet `Finished`, when `scope` returns (the same holds for the Rust code, thread.rs:88-109).
(b) At the end of the scope the main task goes on at once — heap untouched, no flag set — when the counter is 0;
    otherwise, in one segment, it sets the scope's `mainWaiting` flag, blocks itself with `block(false)` and
    switches — by `join_returns_only_when_finished` (b) it then stays blocked until some segment issues
    `unblock(main)`.
(c) `scopeExit` decrements the counter and changes no task (the kernel is left exactly as it was) unless it read
    the counter at 1 (last running thread) **and** found the flag set: a thread that is the last one to exit while
    the main task is still inside the scope closure changes no task either.
(d) `scopeExit` writes nothing but its scope's counter: every scope keeps its `mainWaiting` flag and its
    `mainTask`, and every other scope its counter.  Hence a scoped thread that exits while the flag is unset
    leaves it unset, and with (b): the main task blocked at the end of the scope is woken by the thread that
    takes the counter from 1 to 0, not by an earlier one.
Not proven as a theorem (it is a fact about all of `execOp`, some 300 lines of harness operations): that no
*other* harness operation writes a scope's counter or flag; in Lang.lean the counter is written by `scope_spawn`
(+1) and `scopeExit` (−1) only and the flag by `scopeClose` only. -/
theorem scope_waits_for_all (ir : IR) :
    (∀ k sid, ir.scopedBody k sid =
      threadFn ir k (do
        runOps ir k ((ir.tasks[k]?).getD {}).ops (2 * ((ir.tasks[k]?).getD {}).ops.length + 4) 0
        let t ← K.exitTruncates
        if t then K.switch else pure ()
        scopeExit sid) false) ∧
    (∀ (S : Scheduler σ) (me fuel : Nat) (st : ExecState ir.program σ) (sid : Nat)
        (kont : Unit → ShuttleModel.P Unit),
      (((st.u.scopes[sid]?).getD {}).running = 0 →
        runSegment S me (fuel + 1) st (Prog.bind (scopeClose sid) kont) = runSegment S me fuel st (kont ())) ∧
      (((st.u.scopes[sid]?).getD {}).running ≠ 0 →
        runSegment S me (fuel + 4) st (Prog.bind (scopeClose sid) kont) =
          match st.k.modTask me (·.block false) with
          | .ok k' => .atSwitch { st with u := withMainWaiting st.u sid, k := k',
                                          conts := st.conts.set me (kont ()) }
          | .error e => .panicked e { st with u := withMainWaiting st.u sid })) ∧
    (∀ (S : Scheduler σ) (me fuel : Nat) (st : ExecState ir.program σ) (sid : Nat)
        (kont : Unit → ShuttleModel.P Unit),
      (((st.u.scopes[sid]?).getD {}).running ≠ 1 ∨ ((st.u.scopes[sid]?).getD {}).mainWaiting = false) →
        runSegment S me (fuel + 2) st (Prog.bind (scopeExit sid) kont) =
          runSegment S me fuel { st with u := afterScopeExit st.u sid } (kont ())) ∧
    (∀ (h : Heap) (sid : Nat),
      (afterScopeExit h sid).scopes.length = h.scopes.length ∧
      (∀ s : Nat, ((afterScopeExit h sid).scopes[s]?).map ScopeState.mainWaiting =
        (h.scopes[s]?).map ScopeState.mainWaiting) ∧
      (∀ s : Nat, ((afterScopeExit h sid).scopes[s]?).map ScopeState.mainTask =
        (h.scopes[s]?).map ScopeState.mainTask) ∧
      (∀ s : Nat, s ≠ sid → (afterScopeExit h sid).scopes[s]? = h.scopes[s]?) ∧
      ((afterScopeExit h sid).scopes[sid]?).map ScopeState.running =
        (h.scopes[sid]?).map (fun sc => sc.running - 1)) := by
  refine ⟨fun _ _ => rfl, fun S me fuel st sid kont => ?_, fun S me fuel st sid kont hr => ?_, fun h sid =>
    ⟨List.length_modify _ _ _, fun s => getElem?_modify_map _ _ _ _ _ fun _ => rfl,
      fun s => getElem?_modify_map _ _ _ _ _ fun _ => rfl, fun _ hs => List.getElem?_modify_ne _ _ (Ne.symm hs),
      by rw [afterScopeExit, List.getElem?_modify_eq]; cases h.scopes[sid]? <;> rfl⟩⟩
  · refine ⟨fun hr => ?_, fun hr => ?_⟩
    · refine (runSegment_scopeClose S me fuel st sid kont).trans ?_
      rw [if_neg (by simpa using hr)]
      rfl
    · refine (runSegment_scopeClose S me (fuel + 3) st sid kont).trans ?_
      rw [if_pos (by simpa using hr)]
      refine (runSegment_block S me (fuel + 1) { st with u := withMainWaiting st.u sid } false
        fun _ => .op .switch kont).trans ?_
      cases st.k.modTask me (·.block false) <;> rfl
  · refine (runSegment_scopeExit S me fuel st sid kont).trans ?_
    rw [if_neg (by rcases hr with hr | hr <;> simp [hr])]
    rfl

example : (afterScopeExit { scopes := [{ running := 2, mainTask := 0, mainWaiting := true }] } 0).scopes.map
    (fun sc => (sc.running, sc.mainWaiting)) = [(1, true)] := by
  decide

/-- non-vacuity of (b)/(c), both orders of the regular end of a scope (`exScopeEnd`: real `scopeClose` and
`scopeExit`).  `firstSched`: main blocks at the end of the scope first (flag set), the scoped thread's exit then
unblocks it.  `lastSched`: the scoped thread exits first (counter 1, flag unset: no unblock), main then reads the
counter at 0 and neither sets the flag nor blocks.  Both end `ok` with main past the scope. -/
example :
    (execute exScopeEnd firstSched .none 0 () 20 20).outcome = .ok ∧
    Ev.obs "scope returned" ∈ (execute exScopeEnd firstSched .none 0 () 20 20).st.log.toList ∧
    (execute exScopeEnd firstSched .none 0 () 20 20).st.u.scopes.map (fun sc => (sc.running, sc.mainWaiting))
      = [(0, true)] ∧
    (execute exScopeEnd lastSched .none 0 () 20 20).outcome = .ok ∧
    Ev.obs "scope returned" ∈ (execute exScopeEnd lastSched .none 0 () 20 20).st.log.toList ∧
    (execute exScopeEnd lastSched .none 0 () 20 20).st.u.scopes.map (fun sc => (sc.running, sc.mainWaiting))
      = [(0, false)] := by decide +kernel

/-- **scope_unblock_only_when_waiting.**
For the code after the repair of defect F10 (/repo 9ec3e7a, `Scope::main_task_waiting`; the defect is described in
ThreadLang.lean):
(a) *iff.*  A scoped thread's exit code (`scopeExit`) issues `unblock(main_task)` exactly when it read the counter
    at 1 (it is the last running scoped thread) **and** the scope's `mainWaiting` flag is set: in that case it
    continues with the (unfinished) main task runnable; in every other case — in particular whenever the flag is
    unset, whatever the counter — it continues with the kernel, i.e. every task's state, exactly as it was.
(b) *who sets the flag.*  `scopeExit` leaves every scope's flag as it found it (`scope_waits_for_all` (d)); a new
    `ScopeState` starts with the flag unset; `scopeClose` leaves the heap untouched when the counter is 0, and
    otherwise sets the flag of *its* scope only and, in the same segment — no other task runs in between —, takes
    its own task to `Blocked(false)` and stops at a scheduling point.  So the flag of scope `sid` is set only from
    the moment its main task blocks at the end of `scope`.
(c) Hence a main task that is blocked in some other operation inside the scope closure (its `scopeClose` has not
    run: flag unset) is not touched by any scoped thread's exit.  Concretely (`exF10`, the F10 scenario over
    the real `scopeExit`): main blocks inside the closure on something that never happens while the
    last scoped thread exits; under both schedulers the execution is reported as a deadlock with main blocked —
    the verdict of the same program without any scoped-thread exit code (`exDeadlock`) —, main never runs past
    its blocking point, and the flag is still unset at the end.
(As in `scope_waits_for_all`, that no other harness operation writes the flag is read off Lang.lean, not proven
over `execOp`.)  The full-stack check of this scenario is /verif/corpus/C07/f10_scope_unblock_blocked_sender.vp. -/
theorem scope_unblock_only_when_waiting (ir : IR) :
    (∀ (S : Scheduler σ) (me fuel : Nat) (st : ExecState ir.program σ) (sid : Nat)
        (kont : Unit → ShuttleModel.P Unit),
      ((((st.u.scopes[sid]?).getD {}).running ≠ 1 ∨ ((st.u.scopes[sid]?).getD {}).mainWaiting = false) →
        runSegment S me (fuel + 2) st (Prog.bind (scopeExit sid) kont) =
          runSegment S me fuel { st with u := afterScopeExit st.u sid } (kont ())) ∧
      (∀ tm : Task, ((st.u.scopes[sid]?).getD {}).running = 1 → ((st.u.scopes[sid]?).getD {}).mainWaiting = true →
        st.k.tasks[((st.u.scopes[sid]?).getD {}).mainTask]? = some tm → tm.finished = false →
        runSegment S me (fuel + 3) st (Prog.bind (scopeExit sid) kont) =
          runSegment S me fuel
            { st with u := afterScopeExit st.u sid,
                      k := st.k.setTask ((st.u.scopes[sid]?).getD {}).mainTask
                        { tm with state := .runnable, blockedInPark := false } } (kont ()))) ∧
    ((∀ (h : Heap) (sid s : Nat), ((afterScopeExit h sid).scopes[s]?).map ScopeState.mainWaiting =
        (h.scopes[s]?).map ScopeState.mainWaiting) ∧
     (∀ r m : Nat, ({ running := r, mainTask := m } : ScopeState).mainWaiting = false) ∧
     (∀ (S : Scheduler σ) (me fuel : Nat) (st : ExecState ir.program σ) (sid : Nat)
        (kont : Unit → ShuttleModel.P Unit),
      (((st.u.scopes[sid]?).getD {}).running = 0 →
        runSegment S me (fuel + 1) st (Prog.bind (scopeClose sid) kont) = runSegment S me fuel st (kont ())) ∧
      (∀ tm : Task, ((st.u.scopes[sid]?).getD {}).running ≠ 0 → st.k.tasks[me]? = some tm → tm.finished = false →
        runSegment S me (fuel + 4) st (Prog.bind (scopeClose sid) kont) =
          .atSwitch { st with u := withMainWaiting st.u sid,
                              k := st.k.setTask me { tm with state := .blocked false },
                              conts := st.conts.set me (kont ()) })) ∧
     (∀ (h : Heap) (sid : Nat),
      (∀ s : Nat, s ≠ sid → (withMainWaiting h sid).scopes[s]? = h.scopes[s]?) ∧
      (∀ sc, h.scopes[sid]? = some sc →
        (withMainWaiting h sid).scopes[sid]? = some { sc with mainWaiting := true }))) ∧
    ((execute exF10 firstSched .none 0 () 20 20).outcome = .deadlock [(0, false, false)] ∧
     (execute exF10 lastSched .none 0 () 20 20).outcome = .deadlock [(0, false, false)] ∧
     Ev.obs "main resumed although nothing it waited for happened" ∉
       (execute exF10 firstSched .none 0 () 20 20).st.log.toList ∧
     (execute exF10 firstSched .none 0 () 20 20).st.u.scopes.map (fun sc => (sc.running, sc.mainWaiting))
       = [(0, false)] ∧
     (execute exDeadlock firstSched .none 0 () 20 20).outcome = .deadlock [(0, false, false)]) := by
  obtain ⟨_, hclose, hquietExit, _⟩ := scope_waits_for_all (σ := σ) ir
  refine ⟨?_, ⟨fun _ _ _ => getElem?_modify_map _ _ _ _ _ fun _ => rfl, fun _ _ => rfl, ?_, ?_⟩, by decide +kernel⟩
  · intro S me fuel st sid kont
    refine ⟨hquietExit S me fuel st sid kont, fun tm hr hw hm hf => ?_⟩
    refine (runSegment_scopeExit S me (fuel + 1) st sid kont).trans ?_
    rw [if_pos (by simp [hr, hw])]
    refine Eq.trans (b := match st.k.modTask ((st.u.scopes[sid]?).getD {}).mainTask (·.unblock) with
      | .ok k' => runSegment S me fuel { st with u := afterScopeExit st.u sid, k := k' } (kont ())
      | .error e => .panicked e { st with u := afterScopeExit st.u sid }) rfl ?_
    rw [modTask_eq_ok hm (show tm.unblock = .ok _ by simp only [Task.unblock, hf]; rfl)]
    rfl
  · intro S me fuel st sid kont
    obtain ⟨hzero, hnonzero⟩ := hclose S me fuel st sid kont
    refine ⟨hzero, fun tm hr hm hf => (hnonzero hr).trans ?_⟩
    rw [modTask_eq_ok hm (show tm.block false = .ok _ by simp only [Task.block, hf]; rfl)]
  · intro h sid
    exact ⟨fun _ hs => List.getElem?_modify_ne _ _ (Ne.symm hs),
      fun sc hsc => by rw [withMainWaiting, List.getElem?_modify_eq, hsc]; rfl⟩

/-- non-vacuity: a heap satisfying the premise of (a), first case (counter 1, flag unset — the heap `exF10` starts
from); after `withMainWaiting` it satisfies the premise of the second case (that is the state in which the scoped
thread of `exScopeEnd` exits under `firstSched`, where the main task is then unblocked and the execution ends
`ok`, see above) -/
example : ∃ h : Heap,
    ((h.scopes[0]?).getD ({} : ScopeState)).running = 1 ∧ ((h.scopes[0]?).getD ({} : ScopeState)).mainWaiting = false ∧
    (((withMainWaiting h 0).scopes[0]?).getD ({} : ScopeState)).running = 1 ∧
    (((withMainWaiting h 0).scopes[0]?).getD ({} : ScopeState)).mainWaiting = true ∧
    (((afterScopeExit (withMainWaiting h 0) 0).scopes[0]?).getD ({} : ScopeState)).running = 0 :=
  ⟨{ scopes := [{ running := 1, mainTask := 0 }] }, rfl, rfl, rfl, rfl, rfl⟩

end scope

end ShuttleProofs.C07

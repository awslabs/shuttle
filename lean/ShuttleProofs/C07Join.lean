import ShuttleProofs.C07
/-
  C07 — `thread::JoinHandle::join`, the wait loop (F29 repaired in /repo c6d7a0a):
    `loop { if !target.set_waiter(me) { break }; me.block(false); thread::switch(); }`
  modelled by `ShuttleModel.joinWait` (Lang.lean).  `join_returns_only_when_finished` (C07.lean) does not claim
  that no other code issues `unblock(j)` while `j` waits in `join`.  The loop makes that harmless for the join
  wrapper itself: its only way to its continuation is a `set_waiter` request that was answered `false`, and the
  kernel gives that answer only for a `Finished` target.
-/
namespace ShuttleProofs.C07
open ShuttleModel ShuttleProofs.Kernel ShuttleProofs.Thread

/-- Programs whose **only** way to return is the `false` edge of a `set_waiter(tid)` request.
There is deliberately no constructor for a bare `.pure ()`: `pure ()` is reachable only as `kont false` of a
`.op (.setWaiter tid) kont` node.  The other two requests are the ones the loop issues between two looks at the
target (`K.block false = .op (.block false) .pure`, `K.switch = .op .switch .pure`); whatever they answer, the
rest of the program is again of this shape. -/
inductive ExitsViaNotBlocking (tid : Nat) : Prog Heap Unit → Prop where
  | panic (msg : String) : ExitsViaNotBlocking tid (.panic msg)
  | setWaiter (kont : Bool → Prog Heap Unit) :
      kont false = .pure () → ExitsViaNotBlocking tid (kont true) →
      ExitsViaNotBlocking tid (.op (.setWaiter tid) kont)
  | block (kont : Unit → Prog Heap Unit) :
      (∀ a, ExitsViaNotBlocking tid (kont a)) → ExitsViaNotBlocking tid (.op (.block false) kont)
  | switch (kont : Unit → Prog Heap Unit) :
      (∀ a, ExitsViaNotBlocking tid (kont a)) → ExitsViaNotBlocking tid (.op .switch kont)

theorem not_exitsViaNotBlocking_pure (tid : Nat) : ¬ ExitsViaNotBlocking tid (.pure ()) := by
  intro h
  cases h

theorem joinWait_succ (tid fuel : Nat) :
    joinWait tid (fuel + 1) =
      .op (.setWaiter tid) (fun shouldBlock =>
        if shouldBlock then .op (.block false) (fun _ => .op .switch (fun _ => joinWait tid fuel))
        else .pure ()) := by
  rw [joinWait]
  rfl

theorem joinWait_succ_bind {α : Type} (tid fuel : Nat) (kont : Unit → Prog Heap α) :
    Prog.bind (joinWait tid (fuel + 1)) kont =
      .op (.setWaiter tid) (fun shouldBlock =>
        if shouldBlock then
          .op (.block false) (fun _ => .op .switch (fun _ => Prog.bind (joinWait tid fuel) kont))
        else kont ()) := by
  rw [joinWait_succ]
  show Prog.op _ _ = Prog.op _ _
  congr 1
  funext b
  cases b <;> rfl

theorem joinWait_zero_bind {α : Type} (tid : Nat) (kont : Unit → Prog Heap α) :
    Prog.bind (joinWait tid 0) kont = .panic "model: join loop fuel exhausted" := rfl

/-- **joinWait_exits_only_via_finished_answer.**  For every target `tid` and every loop bound `fuel`, the wait
loop of `join` is a program that can return *only* through a `set_waiter(tid)` request answered `false`
("do not block"): every path from the root of `joinWait tid fuel` to a `pure ()` leaf ends with the `false` edge
of a `.op (.setWaiter tid) _` node.  Being resumed after `block(false); switch()` — by the target's exit, by a
semaphore grant, by a scope exit, by anything — leads to the next `set_waiter`, not to the continuation.
(The `fuel = 0` leaf is the model's `panic "model: join loop fuel exhausted"`, which does not return either.) -/
theorem joinWait_exits_only_via_finished_answer (tid fuel : Nat) :
    ExitsViaNotBlocking tid (joinWait tid fuel) := by
  induction fuel with
  | zero => exact .panic _
  | succ n ih =>
    rw [joinWait_succ]
    exact .setWaiter _ rfl (.block _ (fun _ => .switch _ (fun _ => ih)))

theorem setTask_self {k : Kernel} {t : Nat} {tk : Task} (h : k.tasks[t]? = some tk) : k.setTask t tk = k := by
  obtain ⟨hlt, rfl⟩ := List.getElem?_eq_some_iff.1 h
  simp [Kernel.setTask]

variable {Pg : Program} {σ : Type}

/-- **The `set_waiter` request in `runSegment`.**  Exactly one of three things happens when task `me` issues
`set_waiter(tid)`:
* the answer is `false` — then the target exists and **is `Finished` in the current state**, and that state is
  not changed at all;
* the answer is `true` — then the target is not `Finished`; it records `me` as its waiter;
* the request panics (unknown id, or the target already has another waiter). -/
theorem runSegment_setWaiter (S : Scheduler σ) (me f : Nat) (st : ExecState Pg σ) (tid : Nat)
    (kont : Bool → Prog Pg.U Unit) :
    (∃ tk, st.k.tasks[tid]? = some tk ∧ tk.finished = true ∧
      runSegment S me (f + 1) st (.op (.setWaiter tid) kont) = runSegment S me f st (kont false)) ∨
    (∃ tk, st.k.tasks[tid]? = some tk ∧ tk.finished = false ∧
      runSegment S me (f + 1) st (.op (.setWaiter tid) kont) =
        runSegment S me f { st with k := st.k.setTask tid { tk with waiter := some me } } (kont true)) ∨
    (∃ msg, runSegment S me (f + 1) st (.op (.setWaiter tid) kont) = .panicked msg st) := by
  rw [show runSegment S me (f + 1) st (.op (.setWaiter tid) kont) =
    (match st.k.tasks[tid]? with
      | none => .panicked "called `Option::unwrap()` on a `None` value (set_waiter)" st
      | some tk => match tk.setWaiter me with
        | .ok (b, tk') => runSegment S me f { st with k := st.k.setTask tid tk' } (kont b)
        | .error e => .panicked e st) from rfl]
  cases hg : st.k.tasks[tid]? with
  | none => exact .inr (.inr ⟨_, rfl⟩)
  | some tk =>
    dsimp only
    cases hw : tk.setWaiter me with
    | error e => exact .inr (.inr ⟨e, rfl⟩)
    | ok r =>
      obtain ⟨b, tk'⟩ := r
      rcases setWaiter_ok hw with ⟨rfl, hfin, rfl⟩ | ⟨rfl, hfin, rfl⟩
      · exact .inl ⟨tk', rfl, hfin, by dsimp only; rw [setTask_self hg]⟩
      · exact .inr (.inl ⟨tk, rfl, hfin, rfl⟩)

/-- **join_returns_only_when_finished_loop.**  Every path of `joinWait` to its continuation passes through a
`set_waiter` that saw the target `Finished`; stray `unblock`s of the joiner (semaphore grants, scope exits) only
send it round the loop.  Precisely:
(1) syntactically, `joinWait tid fuel` returns only through the `false` edge of a `set_waiter(tid)` request, for
    every `tid` and `fuel` (`joinWait_exits_only_via_finished_answer`), and a program of that shape is never a
    bare `pure ()`;
(2) `Task::set_waiter` answers `false` only for a `Finished` target, which it leaves untouched (part (a) of
    `join_returns_only_when_finished`), so that in every kernel state `k` in which the target entry
    `k.tasks[tid]` gives that answer the target is `Finished` and the state after the request is `k` itself;
(3) `runSegment` hands `false` to the continuation of a `set_waiter(tid)` request only in a state whose task
    `tid` is `Finished`, and goes on in that very state (`runSegment_setWaiter`).
For the statement about a whole segment of the loop followed by an arbitrary continuation see
`joinWait_segment` below.  Not proved here: a statement over `runLoop` quantifying over *all* later segments at
once; it follows by applying `joinWait_segment` at each segment in which the joiner is resumed, since the
continuation the segment stores for the joiner is again `joinWait tid n >>= kont`. -/
theorem join_returns_only_when_finished_loop :
    (∀ tid fuel : Nat, ExitsViaNotBlocking tid (joinWait tid fuel)) ∧
    (∀ tid : Nat, ¬ ExitsViaNotBlocking tid (.pure ())) ∧
    (∀ (k : Kernel) (tid me : Nat) (tk tk' : Task), k.tasks[tid]? = some tk →
      tk.setWaiter me = .ok (false, tk') → tk.finished = true ∧ tk' = tk ∧ k.setTask tid tk' = k) ∧
    (∀ (S : Scheduler σ) (me f : Nat) (st : ExecState Pg σ) (tid : Nat) (kont : Bool → Prog Pg.U Unit),
      (∃ tk, st.k.tasks[tid]? = some tk ∧ tk.finished = true ∧
        runSegment S me (f + 1) st (.op (.setWaiter tid) kont) = runSegment S me f st (kont false)) ∨
      (∃ tk, st.k.tasks[tid]? = some tk ∧ tk.finished = false ∧
        runSegment S me (f + 1) st (.op (.setWaiter tid) kont) =
          runSegment S me f { st with k := st.k.setTask tid { tk with waiter := some me } } (kont true)) ∨
      (∃ msg, runSegment S me (f + 1) st (.op (.setWaiter tid) kont) = .panicked msg st)) := by
  refine ⟨joinWait_exits_only_via_finished_answer, not_exitsViaNotBlocking_pure, ?_, runSegment_setWaiter⟩
  intro k tid me tk tk' hg hw
  rcases setWaiter_ok hw with ⟨_, hfin, rfl⟩ | ⟨hb, _⟩
  · exact ⟨hfin, rfl, setTask_self hg⟩
  · cases hb

/-- what the joiner's stored continuation is when a segment runs out of fuel right after `set_waiter` -/
def joinBlocking {α : Type} (tid n : Nat) (kont : Unit → Prog Heap α) : Prog Heap α :=
  .op (.block false) (fun _ => .op .switch (fun _ => Prog.bind (joinWait tid n) kont))

/-- … and right after `block(false)`, before `switch` (nothing to do with `Task.park`) -/
def joinParked {α : Type} (tid n : Nat) (kont : Unit → Prog Heap α) : Prog Heap α :=
  .op .switch (fun _ => Prog.bind (joinWait tid n) kont)

/-- **joinWait_segment.**  A segment of task `me` that starts at the head of the wait loop, followed by an
arbitrary continuation `kont` (in `execOp "join"`: read the target's clock, `update_clock`, log `ok`), does
exactly one of the following, for every scheduler, state, target, loop bound and segment fuel:
* (A) **it reaches `kont ()`** — then the target is `Finished` in the state in which `kont ()` starts, which is
  the state the segment started in (nothing was written);
* (B) it panics (unknown target, a second waiter, `block` on a finished current task);
* (C) the target is not `Finished`, it recorded `me` as waiter, `me` is blocked by `block(false)`, and the segment
  ends at `thread::switch()` with the joiner's continuation being **the head of the loop again**
  (`joinWait tid n >>= kont`) — so whoever unblocks `me` later, the next thing `me` does is look at the target
  again;
* (D) the segment's fuel (0 or 1 requests left after `set_waiter`) runs out inside the round, the target not
  being `Finished`; the stored continuation is the rest of the round, not `kont ()`.
Only (A) runs any part of `kont`.  With `n = 0` the loop is the model's fuel panic and `kont` is not reached
(`joinWait_zero_bind`). -/
theorem joinWait_segment {i : Heap} {b u : Nat → ShuttleModel.P Unit} (S : Scheduler σ) (me f : Nat)
    (st : ExecState (HeapProgram i b u) σ) (tid n : Nat) (kont : Unit → ShuttleModel.P Unit) :
    (∃ tk, st.k.tasks[tid]? = some tk ∧ tk.finished = true ∧
      runSegment S me (f + 1) st (Prog.bind (joinWait tid (n + 1)) kont) = runSegment S me f st (kont ())) ∨
    (∃ msg st', runSegment S me (f + 1) st (Prog.bind (joinWait tid (n + 1)) kont) = .panicked msg st') ∨
    (∃ tk k', st.k.tasks[tid]? = some tk ∧ tk.finished = false ∧ 2 ≤ f ∧
      (st.k.setTask tid { tk with waiter := some me }).modTask me (·.block false) = .ok k' ∧
      runSegment S me (f + 1) st (Prog.bind (joinWait tid (n + 1)) kont) =
        .atSwitch { st with k := k', conts := st.conts.set me (Prog.bind (joinWait tid n) kont) }) ∨
    (∃ tk st' p, st.k.tasks[tid]? = some tk ∧ tk.finished = false ∧ f ≤ 1 ∧
      runSegment S me (f + 1) st (Prog.bind (joinWait tid (n + 1)) kont) = .outOfFuel st' ∧
      st'.conts = st.conts.set me p ∧ (p = joinBlocking tid n kont ∨ p = joinParked tid n kont)) := by
  rw [joinWait_succ_bind]
  rcases runSegment_setWaiter S me f st tid _ with ⟨tk, hg, hfin, he⟩ | ⟨tk, hg, hfin, he⟩ | ⟨msg, he⟩
  · exact .inl ⟨tk, hg, hfin, he⟩ -- (A)
  · -- answered `true`: `he` says the segment goes on with `block(false); switch(); …`; how far it gets
    -- depends on the fuel left
    match f, he with
    | 0, he => -- (D), before `block`
      exact .inr (.inr (.inr ⟨tk, _, joinBlocking tid n kont, hg, hfin, Nat.le_succ 0, he, rfl, .inl rfl⟩))
    | f + 1, he =>
      have e1 := he.trans (runSegment_block S me f _ false _)
      cases hm : (st.k.setTask tid { tk with waiter := some me }).modTask me (fun x => x.block false) with
      | error e => exact .inr (.inl ⟨e, _, e1.trans (by rw [hm])⟩) -- (B)
      | ok k' =>
        rw [hm] at e1
        cases f with
        | zero => -- (D), before `switch`
          exact .inr (.inr (.inr ⟨tk, _, joinParked tid n kont, hg, hfin, Nat.le_refl 1, e1, rfl, .inr rfl⟩))
        | succ f => -- (C)
          exact .inr (.inr (.inl ⟨tk, k', hg, hfin, Nat.le_add_left 2 f, hm, e1.trans (runSegment_switch ..)⟩))
  · exact .inr (.inl ⟨msg, st, he⟩) -- (B)

/-- the loop is not the trivial program, its first request is `set_waiter(1)`, whose `false` edge returns and whose
`true` edge blocks -/
example : joinWait 1 2 ≠ .pure () ∧
    ∃ kont, joinWait 1 2 = .op (.setWaiter 1) kont ∧ kont false = .pure () ∧
      kont true = .op (.block false) (fun _ => .op .switch (fun _ => joinWait 1 1)) :=
  ⟨(by rw [joinWait_succ]; intro h; cases h), _, joinWait_succ 1 1, rfl, rfl⟩

/-- case (A) of `joinWait_segment` happens: target 1 is `Finished`, the joiner (task 0) goes straight on -/
example : ∃ tk : Task, ([{}, { state := .finished }] : List Task)[1]? = some tk ∧ tk.finished = true ∧
    tk.setWaiter 0 = .ok (false, tk) := ⟨_, rfl, rfl, rfl⟩

/-- case (C) happens: target 1 is runnable, `set_waiter` answers `true` and records the joiner -/
example : ∃ tk : Task, ([{}, {}] : List Task)[1]? = some tk ∧ tk.finished = false ∧
    tk.setWaiter 0 = .ok (true, { tk with waiter := some 0 }) := ⟨_, rfl, rfl, rfl⟩

end ShuttleProofs.C07

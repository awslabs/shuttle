import ShuttleProofs.Lemmas.LocksAtomic
import ShuttleProofs.Lemmas.LocksRw
/-
  C04 — Mutex, RwLock (`shuttle-std/src/sync/{mutex,rwlock}.rs`, model `ShuttleModel/Prim/Locks.lean`
  over the BatchSemaphore of `Prim/Sem.lean`) and atomics (`shuttle-std/src/sync/atomic/mod.rs`).

  "In every execution at most one task holds a given Mutex or a given RwLock for writing, and no
   task holds it for reading while it is held for writing; lock and read/write return only when
   that is true, try_lock/try_read/try_write succeed exactly when the lock is available
   (re-entrant attempts fail or are diagnosed) and leave it unchanged when they fail, and a lock
   released by a panicking holder is seen as poisoned. Every atomic operation takes effect
   indivisibly and all atomic operations of an execution form one total order consistent with
   program order, each returning what std's atomic of the same type would return at that point."

  Locks: the statements are about the most-general disciplined client of `Lemmas/LocksLts.lean`
  (`MReach` / `RReach fixedF3`; its head comment says what each step mirrors in the wrappers).
-/
namespace ShuttleModel
namespace C04
open SemLts LocksLts

/-- In every reachable state the tasks owning a live `MutexGuard` are exactly `holder` (so there is
at most one), and while the lock is not poisoned the single permit is accounted for:
`avail + (permits granted to a waiter that has not yet returned from lock) + (1 if held) = 1`. -/
theorem mutex_exclusive {g : MG} (h : MReach g) :
    g.guards = g.m.holder.toList ∧
    (g.m.sem.closed = false →
      g.m.sem.avail + pend g.m.sem.table + (if g.m.holder.isSome then 1 else 0) = 1) ∧
    Inv g.m.sem :=
  LocksLts.mutex_exclusive h

theorem mutex_at_most_one_guard {g : MG} (h : MReach g) : g.guards.length ≤ 1 := by
  rw [(mreach_inv h).guards]
  cases g.m.holder <;> simp

/-- while held (and unpoisoned) no permit is available and none has been granted to a waiter -/
theorem mutex_held_no_permit {g : MG} (h : MReach g) (hc : g.m.sem.closed = false)
    (hh : g.m.holder.isSome = true) : g.m.sem.avail = 0 ∧ pend g.m.sem.table = 0 := by
  obtain ⟨t, ht⟩ := Option.isSome_iff_exists.mp hh
  exact (mreach_inv h).bal_held hc ht

/-- `lock` / `try_lock` hand out a guard only from a state in which nobody holds the Mutex — also on
a poisoned Mutex, where the semaphore no longer protects it and the `holder.is_none()` assertion
does (`mutex_poisoned_second_locker_panics`) -/
theorem mutex_lock_returns_only_if_free {fin : Nat → Bool} {p : Bool} {g : MG} {op : MOp}
    {m' : MutexState} {out : MOut} (hr : MReach g) (h : mstep fin p g.m op = .ok (m', out))
    (hgd : out.guard = true) : g.m.holder = none ∧ m'.holder = some op.task := by
  cases mstep_ok h with
  | lockStart | pending | unlock | write => cases hgd
  | locked _ hnone => exact ⟨hnone, rfl⟩
  | lockPoisoned _ hnone => exact ⟨hnone, rfl⟩
  | tryOk hacq => exact ⟨(mreach_inv hr).free_of_acquire hacq, rfl⟩
  | tryFail => simp [MOut.guard] at hgd

open MutexExample in
example : ∃ g, MReach g ∧ g.m.holder = some 2 ∧ g.guards = [2] ∧ g.m.sem.avail = 0 ∧
    g.m.sem.closed = false := ⟨_, r6, rfl, rfl, rfl, rfl⟩
open MutexExample in
example : ∃ g, MReach g ∧ g.m.holder = some 1 ∧ g.m.sem.queue = [1] ∧ g.m.sem.closed = false :=
  ⟨_, r4, rfl, rfl, rfl⟩

/-- In every reachable state (also a poisoned one) the owners of live guards match `holder`:
`write w` ⇒ exactly one write guard and no read guard; `read rs` ⇒ the read guards are `rs`
(non-empty, no duplicates) and there is no write guard; and while unpoisoned the `MAX_READS`
permits are accounted for (write = `MAX_READS`, read = 1; `owed` = permits taken by re-entrant
`try_read`s that the caller does not hold as a guard — defect F3 —, given back by `tryGiveBack`
in the repaired code). -/
theorem rwlock_exclusive {fx : Bool} {g : RG} (h : RReach fx g) :
    HM g.m.holder g.rguards g.wguards ∧
    (g.m.sem.closed = false →
      g.m.sem.avail + pend g.m.sem.table + g.rguards.length + Generated.MAX_READS * g.wguards.length
        + g.owed.length = Generated.MAX_READS) ∧
    Inv g.m.sem :=
  ⟨(rreach_inv h).hm, (rreach_inv h).bal, (rreach_inv h).sem⟩

theorem rwlock_writer_exclusive {fx : Bool} {g : RG} (h : RReach fx g) : g.wguards.length ≤ 1 :=
  LocksLts.rwlock_writer_exclusive h

theorem rwlock_no_reader_with_writer {fx : Bool} {g : RG} (h : RReach fx g) :
    g.rguards = [] ∨ g.wguards = [] :=
  LocksLts.rwlock_no_reader_with_writer h

/-- readers ≤ MAX_READS is not an assumption: it follows; and a writer leaves no permit -/
theorem rwlock_counts {fx : Bool} {g : RG} (h : RReach fx g) (hc : g.m.sem.closed = false) :
    g.rguards.length ≤ Generated.MAX_READS ∧
      (g.wguards ≠ [] → g.m.sem.avail = 0 ∧ pend g.m.sem.table = 0 ∧ g.owed = []) := by
  have hb := (rreach_inv h).bal hc
  have hw := (rreach_inv h).hm.lists.1
  refine ⟨by omega, fun hne => ?_⟩
  have : g.wguards.length = 1 := by
    have := List.length_pos_iff.mpr hne
    omega
  rw [this] at hb
  obtain ⟨h1, h2, h3⟩ : g.m.sem.avail = 0 ∧ pend g.m.sem.table = 0 ∧ g.owed.length = 0 := by omega
  exact ⟨h1, h2, List.eq_nil_of_length_eq_zero h3⟩

/-- `read`/`write`/`try_read`/`try_write` hand out a guard only from a compatible state -/
theorem rwlock_lock_returns_only_if_compatible {fx : Bool} {fin : Nat → Bool} {p : Bool} {g : RG}
    {op : ROp} {m' : RwLockState} {out : ROut} (hr : RReach fx g)
    (h : rstep fin p g.m op = .ok (m', out)) (hgd : out.guard = true) :
    if op.isWrite then g.m.holder = .none ∧ m'.holder = .write op.task
    else (g.m.holder = .none ∧ m'.holder = .read [op.task]) ∨
      ∃ rs, g.m.holder = .read rs ∧ op.task ∉ rs ∧ m'.holder = .read (rs ++ [op.task]) := by
  cases rstep_ok h with
  | lockStart | pending | giveBack | unlock | write => cases hgd
  | locked _ htg => exact (takeGuard_ok_holder htg :)
  | lockPoisoned htg => exact takeGuard_ok_holder htg
  | tryOk _ htg => exact (takeGuard_ok_holder htg :)
  | tryAlready | tryFail => simp [ROut.guard] at hgd
  | tryIncompatible hacq htg => exact absurd htg (try_take_compatible (rreach_inv hr) hacq)

/-- the branch of `try_lock` that returns a guard without recording a holder (holder incompatible
although the permits were obtained) is unreachable -/
theorem rwlock_try_incompatible_unreachable {fx : Bool} {g : RG} (hr : RReach fx g) {t : Nat}
    {write p : Bool} {clk : Clock} {s' : SemState} {pc : Clock}
    (hacq : g.m.sem.acquirePermits (RwLock.permits write) clk = .ok (.ok (s', pc))) :
    ({ g.m with sem := s' } : RwLockState).takeGuard t write p ≠ .incompatible :=
  try_take_compatible (rreach_inv hr) hacq

open RwExample in
example : ∃ g, RReach true g ∧ g.m.holder = .write 3 ∧ g.wguards = [3] ∧ g.rguards = [] :=
  ⟨_, r8, rfl, rfl, rfl⟩
open RwExample in
example : ∃ g, RReach true g ∧ g.m.holder = .read [1, 2] ∧ g.rguards = [1, 2] ∧ g.wguards = [] ∧
    g.m.sem.queue = [1] := ⟨_, r5, rfl, rfl, rfl, rfl⟩

/-- Every `Acquire` on a Mutex's semaphore asks for exactly 1 permit, on a RwLock's for 1 or
`MAX_READS`: the enabling condition of `lockPoll` in `LocksLts` (the polled `Acquire` asks for the
permits of this lock operation) only says that the polled `Acquire` is alive (Mutex) / was
created by a `read` resp. `write` (RwLock). -/
theorem lock_waiters_request_lock_amounts :
    (∀ {g : MG}, MReach g → ∀ w ∈ g.m.sem.table, w.n = 1) ∧
    (∀ {g : MG}, MReach g → ∀ t wid clk,
      MEnabled g (.lockPoll t wid clk) ↔ (g.m.sem.getW wid).isSome = true) ∧
    (∀ {fx : Bool} {g : RG}, RReach fx g → ∀ w ∈ g.m.sem.table,
      ∃ write : Bool, w.n = RwLock.permits write) :=
  ⟨fun hr => mutex_all_waiters_one hr,
   fun {g} hr t wid clk => ⟨fun ⟨w, hw, _⟩ => by rw [hw]; rfl, fun h => by
     cases hw : g.m.sem.getW wid with
     | none => rw [hw] at h; cases h
     | some w => exact ⟨w, hw, mutex_all_waiters_one hr w (tget_some_mem hw).1⟩⟩,
   fun hr => rwlock_all_waiters_amount hr⟩

/-- Mutex: `try_lock` returns a guard exactly when the lock is available: not poisoned, not held,
and not already handed to a waiter that has yet to return from `lock` (the inner semaphore is
unfair: queued waiters do not matter) -/
theorem try_succeeds_iff_available_mutex {fin : Nat → Bool} {p : Bool} {g : MG} {m' : MutexState}
    {t : Nat} {clk : Clock} {r : LockRes} (hr : MReach g)
    (h : mstep fin p g.m (.tryLock t clk) = .ok (m', .tried r)) :
    (r ≠ .wouldBlock ↔ (g.m.sem.closed = false ∧ 1 ≤ g.m.sem.avail)) ∧
    (r ≠ .wouldBlock ↔ (g.m.sem.closed = false ∧ g.m.holder = none ∧ pend g.m.sem.table = 0)) := by
  have hI := mreach_inv hr
  have h1 : r ≠ .wouldBlock ↔ (g.m.sem.closed = false ∧ 1 ≤ g.m.sem.avail) := by
    rw [← acquirePermits_unfair_ok_iff (c := clk) hI.fair (by omega)]
    cases mstep_ok h with
    | tryOk hacq => exact ⟨fun _ => ⟨_, _, hacq⟩, fun _ => result_ne_wouldBlock g.m⟩
    | tryFail hacq => exact ⟨fun h => absurd rfl h, fun ⟨s', pc, h'⟩ => by rw [hacq] at h'; cases h'⟩
  -- by the permit balance, the permit is there exactly when nobody holds it and no waiter was granted it
  refine ⟨h1, h1.trans ⟨fun ⟨hc, ha⟩ => ?_, fun ⟨hc, hh, hp⟩ => ?_⟩⟩
  · cases hh : g.m.holder with
    | none => have := hI.bal_free hc hh; exact ⟨hc, rfl, by omega⟩
    | some x => have := (hI.bal_held hc hh).1; omega
  · have := hI.bal_free hc hh
    exact ⟨hc, by omega⟩

/-- `try_lock` never panics -/
theorem mutex_try_lock_total (fin : Nat → Bool) (p : Bool) (m : MutexState) (t : Nat) (clk : Clock) :
    ∃ m' r, mstep fin p m (.tryLock t clk) = .ok (m', .tried r) := by
  -- `acquire_permits` fails only on a request for 0 permits
  obtain ⟨r, e⟩ := acquirePermits_defined m.sem clk (Nat.succ_pos 0)
  simp only [mstep, step, e]
  cases r with
  | ok q => exact ⟨_, _, rfl⟩
  | error e => exact ⟨_, _, rfl⟩

/-- RwLock: `try_read`/`try_write` return a guard exactly when the permits are available and the
caller is not already a holder (a re-entrant `try_read` finds a permit but fails) -/
theorem try_succeeds_iff_available_rwlock {fx : Bool} {fin : Nat → Bool} {p : Bool} {g : RG}
    {m' : RwLockState} {t : Nat} {write : Bool} {clk : Clock} {r : LockRes} {owes : Bool}
    (hr : RReach fx g) (h : rstep fin p g.m (.tryLock t write clk) = .ok (m', .tried r owes)) :
    r ≠ .wouldBlock ↔
      (g.m.sem.closed = false ∧ RwLock.permits write ≤ g.m.sem.avail ∧ g.m.holds t = false) := by
  have hI := rreach_inv hr
  -- the `tryAcquire` part succeeds exactly when the unfair semaphore is open and has the permits
  rw [← and_assoc, ← acquirePermits_unfair_ok_iff (c := clk) hI.fair (permits_pos write)]
  cases rstep_ok h with
  | tryOk hacq htg =>
    exact ⟨fun _ => ⟨⟨_, _, hacq⟩, (takeGuard_ok_not_holds htg :)⟩,
      fun _ => rresult_ne_wouldBlock g.m⟩
  | tryAlready hacq htg =>
    have hh : g.m.holds t = true := (takeGuard_already_holds htg :)
    refine ⟨fun h => absurd rfl h, fun h => ?_⟩
    rw [hh] at h; cases h.2
  | tryIncompatible hacq htg => exact absurd htg (try_take_compatible hI hacq)
  | tryFail hacq =>
    exact ⟨fun h => absurd rfl h, fun ⟨⟨s', pc, h'⟩, _⟩ => by rw [hacq] at h'; cases h'⟩

/-- a failed `try_lock` / `try_read` / `try_write` leaves the whole lock state unchanged … -/
theorem failed_try_leaves_state_mutex {fin : Nat → Bool} {p : Bool} {m m' : MutexState} {t : Nat}
    {clk : Clock} (h : mstep fin p m (.tryLock t clk) = .ok (m', .tried .wouldBlock)) : m' = m := by
  generalize hout : MOut.tried .wouldBlock = out at h
  cases mstep_ok h with
  | tryOk => exact absurd (MOut.tried.inj hout).symm (result_ne_wouldBlock m)
  | tryFail => rfl

/-- … for the RwLock whenever the failure is not the re-entrant `try_read` (`owes = false`) -/
theorem failed_try_leaves_state_rwlock {fin : Nat → Bool} {p : Bool} {m m' : RwLockState} {t : Nat}
    {write : Bool} {clk : Clock}
    (h : rstep fin p m (.tryLock t write clk) = .ok (m', .tried .wouldBlock false)) : m' = m := by
  generalize hout : ROut.tried .wouldBlock false = out at h
  cases rstep_ok h with
  | tryOk | tryIncompatible => exact absurd (ROut.tried.inj hout).1.symm (rresult_ne_wouldBlock m)
  | tryAlready => cases (ROut.tried.inj hout).2
  | tryFail => rfl

/- `failed_try_leaves_state` in full generality —
     `rstep fin p m (.tryLock t write clk) = .ok (m', .tried .wouldBlock owes) → m' = m` —
   is FALSE for a `try_read` by a task that already holds the read lock (defect F3): -/

/-- the re-entrant `try_read` returns `WouldBlock` but has taken one permit -/
theorem failed_try_read_takes_permit {fin : Nat → Bool} {p : Bool} {m m' : RwLockState} {t : Nat}
    {write : Bool} {clk : Clock} {r : LockRes} (hi : Inv m.sem)
    (h : rstep fin p m (.tryLock t write clk) = .ok (m', .tried r true)) :
    r = .wouldBlock ∧ write = false ∧ m.holds t = true ∧ m'.sem.avail + 1 = m.sem.avail ∧
      m'.sem.table = m.sem.table ∧ m'.sem.queue = m.sem.queue ∧ m'.sem.closed = m.sem.closed ∧
      m'.holder = m.holder ∧ m'.poisoned = m.poisoned ∧ m'.value = m.value := by
  obtain ⟨hr, hw, hh, s', pc, hacq, rfl⟩ := rwlock_tryLock_owes h
  obtain ⟨_, hav, ht, hq, hcl, _⟩ := acquirePermits_inv hi hacq
  exact ⟨hr, hw, hh, hav, ht, hq, hcl, rfl, rfl, rfl⟩

/-- original code (`fixedF3 := false`): the permit is lost for good — reachable state in which
nobody holds the lock, yet this and every later `try_write` fails in every continuation -/
theorem failed_try_read_leaks_permit_witness :
    RReach false ⟨RwExample.b1, [1], [], []⟩ ∧
    rstep RwExample.nf false RwExample.b1 (.tryLock 1 false RwExample.c0)
      = .ok (RwExample.b2, .tried .wouldBlock true) ∧
    RwExample.b2.sem.avail + 1 = RwExample.b1.sem.avail ∧ RwExample.b2 ≠ RwExample.b1 ∧
    RReach false ⟨RwExample.b3, [], [], [1]⟩ ∧ RwExample.b3.holder = .none ∧
    RwExample.b3.sem.avail + 1 = Generated.MAX_READS ∧
    rstep RwExample.nf false RwExample.b3 (.tryLock 2 true RwExample.c0)
      = .ok (RwExample.b3, .tried .wouldBlock false) ∧
    (∀ g', RSteps false ⟨RwExample.b3, [], [], [1]⟩ g' → ∀ fin p t clk m' out,
      rstep fin p g'.m (.tryLock t true clk) = .ok (m', out) → out = .tried .wouldBlock false) :=
  RwExample.failed_try_read_leaks_permit_witness

/-- repaired code (`fixedF3 := true`): the wrapper gives the permit back through a full
`Sem.release` (a scheduling point, hence the separate step `tryGiveBack`); afterwards holder,
`avail`, queue, waiter table, `closed`, value and poison flags are as before the `try_read` (only
the batch clocks of the semaphore differ) -/
theorem failed_try_leaves_state_fixed {fin fin' : Nat → Bool} {p : Bool} {m m1 m2 : RwLockState}
    {t : Nat} {write : Bool} {clk clk' : Clock} {r : LockRes} {out' : ROut} (hi : Inv m.sem)
    (hf : m.sem.fair = false)
    (h1 : rstep fin p m (.tryLock t write clk) = .ok (m1, .tried r true))
    (h2 : rstep fin' false m1 (.tryGiveBack t clk') = .ok (m2, out')) :
    m2.holder = m.holder ∧ m2.sem.avail = m.sem.avail ∧ m2.sem.queue = m.sem.queue ∧
      m2.sem.table = m.sem.table ∧ m2.sem.closed = m.sem.closed ∧ m2.sem.fair = m.sem.fair ∧
      m2.sem.nextWid = m.sem.nextWid ∧ m2.value = m.value ∧ m2.poisoned = m.poisoned ∧
      m2.wGuardPanicking = m.wGuardPanicking := by
  obtain ⟨_, _, _, s', pc, hacq, rfl⟩ := rwlock_tryLock_owes h1
  obtain ⟨_, hav, ht, hq, hcl, hfr, hnx⟩ := acquirePermits_inv hi hacq
  simp only [rstep, relOp, Bool.false_eq_true, if_false, step, Nat.succ_ne_zero,
    Except.ok.injEq, Prod.mk.injEq] at h2
  obtain ⟨rfl, _⟩ := h2
  -- `release` of an unfair semaphore only adds the permits (and a batch)
  have hr : (s'.releasePure fin' 1 clk').1 = s'.paRelease 1 clk' := by
    unfold SemState.releasePure
    have : (s'.paRelease 1 clk').fair = false := hfr.trans hf
    simp only [this, Bool.false_eq_true, if_false]
  rw [hr]
  exact ⟨rfl, by show s'.avail + 1 = m.sem.avail; omega, hq, ht, hcl, hfr, hnx, rfl, rfl, rfl⟩

open MutexExample in
example : mstep nf false s4 (.tryLock 3 c0) = .ok (s4, .tried .wouldBlock) := rfl
open MutexExample in
example : ∃ m', mstep nf false s5 (.tryLock 3 c0) = .ok (m', .tried (.ok 0)) ∧ m'.holder = some 3 :=
  ⟨_, rfl, rfl⟩
open RwExample in
example : RReach true ⟨b2', [1], [], []⟩ ∧ b2'.sem.avail = b1.sem.avail ∧ b2'.holder = b1.holder :=
  ⟨q3', rfl, rfl⟩

/-- `lock` by the task that holds the Mutex / `read`,`write` by a task that holds the RwLock
(unpoisoned) panics with the documented diagnostic; re-entrant `try_*` fail -/
theorem reentrant_diagnosed (fin : Nat → Bool) (p : Bool) (t : Nat) (clk : Clock) :
    (∀ m : MutexState, m.holder = some t →
      mstep fin p m (.lockStart t clk) =
        .error s!"deadlock! task TaskId({t}) tried to acquire a Mutex it already holds") ∧
    (∀ (m : RwLockState) (write : Bool), m.holds t = true →
      rstep fin p m (.lockStart t write clk) =
        .error s!"deadlock! task TaskId({t}) tried to acquire a RwLock it already holds") :=
  ⟨fun _ hh => by simp only [mstep, hh, beq_self_eq_true, if_true]; rfl,
   fun _ write hh => by simp only [rstep, hh, if_true]; rfl⟩

theorem reentrant_try_fails {fin : Nat → Bool} {p : Bool} {t : Nat} {clk : Clock} :
    (∀ {g : MG} {m' : MutexState} {r : LockRes}, MReach g → g.m.holder = some t →
      mstep fin p g.m (.tryLock t clk) = .ok (m', .tried r) → r = .wouldBlock ∧ m' = g.m) ∧
    (∀ {fx : Bool} {g : RG} {m' : RwLockState} {write : Bool} {r : LockRes} {owes : Bool},
      RReach fx g → g.m.holds t = true →
      rstep fin p g.m (.tryLock t write clk) = .ok (m', .tried r owes) → r = .wouldBlock) :=
  ⟨fun hr hh h => by
     have hr' : _ = LockRes.wouldBlock := Classical.byContradiction fun hne => by
       have := ((try_succeeds_iff_available_mutex hr h).2.mp hne).2.1
       rw [hh] at this; cases this
     subst hr'
     exact ⟨rfl, failed_try_leaves_state_mutex h⟩,
   fun hr hh h => Classical.byContradiction fun hne => by
     have := ((try_succeeds_iff_available_rwlock hr h).mp hne).2.2
     rw [hh] at this; cases this⟩

open MutexExample in
example : mstep nf false s2 (.lockStart 1 c0) =
    .error s!"deadlock! task TaskId({1}) tried to acquire a Mutex it already holds" :=
  rfl

/-- A guard taken before the panic and dropped while panicking poisons the lock: the poison flag is
set, the inner semaphore is closed by `releasePoison` (queue emptied, waiters NOT woken), nobody
holds the lock … -/
theorem poison_after_panicking_release :
    (∀ {fin : Nat → Bool} {m m' : MutexState} {t : Nat} {clk : Clock} {out : MOut}, Inv m.sem →
      m.guardPanicking = false → mstep fin true m (.unlock t clk) = .ok (m', out) →
      m'.poisoned = true ∧ m'.sem.closed = true ∧ m'.sem.queue = [] ∧ m'.holder = none) ∧
    (∀ {fin : Nat → Bool} {m m' : RwLockState} {t : Nat} {clk : Clock} {out : ROut}, Inv m.sem →
      m.wGuardPanicking = false → rstep fin true m (.unlock t true clk) = .ok (m', out) →
      m'.poisoned = true ∧ m'.sem.closed = true ∧ m'.sem.queue = [] ∧ m'.holder = .none) :=
  ⟨fun hi hg h => by
     cases mstep_ok h with
     | unlock h1 =>
       obtain ⟨h3, h4⟩ := relOp_poison hi (Nat.succ_pos 0) h1
       exact ⟨by simp [MutexState.dropGuard, hg], h3, h4, rfl⟩,
   fun {fin m m' t clk out} hi hg h => by
     cases rstep_ok h with
     | unlock h1 hd =>
       obtain ⟨h3, h4⟩ := relOp_poison hi (permits_pos true) h1
       rcases dropGuard_ok_cases hd with ⟨_, _, rfl⟩ | ⟨hf, _⟩
       · exact ⟨by simp [show m.wGuardPanicking = false from hg], h3, h4, rfl⟩
       · cases hf⟩

/-- … for ever, and every later `lock`/`read`/`write` that returns, returns `Err(Poisoned)` -/
theorem poisoned_is_seen :
    (∀ {g g' : MG}, MReach g → MSteps g g' → g.m.poisoned = true → g.m.sem.closed = true →
      g'.m.poisoned = true ∧ g'.m.sem.closed = true) ∧
    (∀ {fin : Nat → Bool} {p : Bool} {m m' : MutexState} {op : MOp} {r : LockRes},
      m.poisoned = true → mstep fin p m op = .ok (m', .locked r) → r = .poisoned m.value) ∧
    (∀ {fx : Bool} {g g' : RG}, RReach fx g → RSteps fx g g' → g.m.poisoned = true →
      g.m.sem.closed = true → g'.m.poisoned = true ∧ g'.m.sem.closed = true) ∧
    (∀ {fin : Nat → Bool} {p : Bool} {m m' : RwLockState} {op : ROp} {r : LockRes},
      m.poisoned = true → rstep fin p m op = .ok (m', .locked r) → r = .poisoned m.value) :=
  ⟨fun hr hs hp hc => by
     induction hs with
     | refl => exact ⟨hp, hc⟩
     | step fin p op hsteps hen hs ih =>
       have := mstep_poison_mono (mreach_inv (msteps_reach hr hsteps)) hen hs
       exact ⟨this.1 ih.1, this.2 ih.2⟩,
   fun hp h => by
     cases mstep_ok h with
     | locked | lockPoisoned => simp [MutexState.result, hp],
   fun hr hs hp hc => by
     induction hs with
     | refl => exact ⟨hp, hc⟩
     | step fin p op hsteps hen hs ih =>
       have := rstep_poison_mono (rreach_inv (rsteps_reach hr hsteps)) hen hs
       rw [rnext_m]
       exact ⟨this.1 ih.1, this.2 ih.2⟩,
   fun hp h => by
     cases rstep_ok h with
     | locked | lockPoisoned => simp [RwLockState.result, hp]⟩

/-- observation: on a poisoned shuttle lock `try_lock` returns `WouldBlock` (the semaphore is
closed), where std returns `Err(Poisoned)` -/
theorem try_on_poisoned_would_block {fin : Nat → Bool} {p : Bool} {m m' : MutexState} {t : Nat}
    {clk : Clock} {out : MOut} (hc : m.sem.closed = true)
    (h : mstep fin p m (.tryLock t clk) = .ok (m', out)) : out = .tried .wouldBlock ∧ m' = m := by
  cases mstep_ok h with
  | tryOk hacq => rw [(acquirePermits_ok hacq).2.1] at hc; cases hc
  | tryFail => exact ⟨rfl, rfl⟩

/-- F12: on a poisoned Mutex mutual exclusion is kept by an assertion, not by blocking: a second
`lock` while the first poisoned guard is alive panics -/
theorem mutex_poisoned_second_locker_panics (fin : Nat → Bool) (p : Bool) {m : MutexState} (t : Nat)
    (hh : m.holder.isSome = true) :
    mstep fin p m (.lockPoisoned t) = .error "assertion failed: state.holder.is_none()" := by
  simp only [mstep, hh, if_true]
  rfl

/-- observation: a READ guard dropped while panicking closes the semaphore too (later lockers bypass
it) although the lock is not marked poisoned -/
theorem rwlock_panicking_read_release_closes {fin : Nat → Bool} {m m' : RwLockState} {t : Nat}
    {clk : Clock} {out : ROut} (hi : Inv m.sem)
    (h : rstep fin true m (.unlock t false clk) = .ok (m', out)) :
    m'.poisoned = m.poisoned ∧ m'.sem.closed = true ∧ m'.sem.queue = [] := by
  cases rstep_ok h with
  | unlock h1 hd =>
    obtain ⟨h3, h4⟩ := relOp_poison hi (permits_pos false) h1
    rcases dropGuard_ok_cases hd with ⟨hf, _⟩ | ⟨_, _, _, _, rfl⟩
    · cases hf
    · exact ⟨rfl, h3, h4⟩

open MutexExample in
example : MReach ⟨s5p, []⟩ ∧ s5p.poisoned = true ∧ s5p.sem.closed = true ∧ s5p.sem.queue = [] ∧
    s5p.holder = none :=
  ⟨r5p, rfl, rfl, rfl, rfl⟩
open MutexExample in
example : ∃ m', mstep nf false s5p (.lockPoisoned 3) = .ok (m', .locked (.poisoned 0)) ∧
    m'.holder = some 3 := ⟨_, rfl, rfl⟩
open RwExample in
example : RReach true ⟨a9, [], [], []⟩ ∧ a9.poisoned = true ∧ a9.sem.closed = true :=
  ⟨r9, rfl, rfl⟩

section Atomics
open AtomicExample

/-- Every atomic operation is, as a program, exactly ONE scheduling point (`thread::switch()`, at its
very beginning) followed by a body that contains no scheduling point. -/
theorem atomic_ops_are_fetch_update {U : Type} (L : Lens U AtomicState) :
    (Atomic.load L = Prog.op .switch (fun _ => Atomic.loadBody L) ∧ (Atomic.loadBody L).SwitchFree) ∧
    (∀ v, Atomic.store L v = Prog.op .switch (fun _ => Atomic.storeBody L v) ∧
      (Atomic.storeBody L v).SwitchFree) ∧
    (∀ v, Atomic.swap L v = Prog.op .switch (fun _ => Atomic.swapBody L v) ∧
      (Atomic.swapBody L v).SwitchFree) ∧
    (∀ f, Atomic.fetchUpdate L f = Prog.op .switch (fun _ => Atomic.fetchUpdateBody L f) ∧
      (Atomic.fetchUpdateBody L f).SwitchFree) :=
  ⟨⟨rfl, Atomic.loadBody_switchFree L⟩, fun v => ⟨rfl, Atomic.storeBody_switchFree L v⟩,
    fun v => ⟨rfl, Atomic.swapBody_switchFree L v⟩, fun f => ⟨rfl, Atomic.fetchUpdateBody_switchFree L f⟩⟩

/-- The body of `fetch_update`, run by the real segment semantics `runSegment`, computes exactly std's
`fetch_update(f)` (`AtomicState.rmw`: heap update `value := v % 2^bits` when `f old = some v`,
result `(Ok/Err, old)`), touching nothing else (`RmwEffect`: rest of the shared state, other
tasks, continuations, scheduler, log unchanged; only the caller's vector clock moves), for any
lawful lens and any state in which the calling task exists. -/
theorem atomic_fetch_update_is_rmw {P : Program} {σ : Type} (S : Scheduler σ) (me : Nat)
    {L : Lens P.U AtomicState} (hL : L.Lawful) {st : ExecState P σ} {tk : Task}
    (h : st.k.tasks[me]? = some tk) (fuel : Nat) (f : Nat → Option Nat)
    (k : Bool × Nat → Prog P.U Unit) :
    ∃ st', runSegment S me (fuel + Atomic.fetchUpdateCost f (L.get st.u)) st
          (Atomic.fetchUpdateBody L f >>= k) =
        runSegment S me fuel st' (k ((L.get st.u).rmw f).2) ∧
      Atomic.RmwEffect L me f st st' :=
  (Atomic.fetchUpdateBody_isRmw S me hL f).effect hL h fuel k

/-- `load` = `fetch_update(|_| None)` returning the value -/
theorem atomic_load_is_rmw {P : Program} {σ : Type} (S : Scheduler σ) (me : Nat)
    {L : Lens P.U AtomicState} (hL : L.Lawful) {st : ExecState P σ} {tk : Task}
    (h : st.k.tasks[me]? = some tk) (fuel : Nat) (k : Nat → Prog P.U Unit) :
    ∃ st', runSegment S me (fuel + 5) st (Atomic.loadBody L >>= k) =
        runSegment S me fuel st' (k (L.get st.u).value) ∧
      Atomic.RmwEffect L me (fun _ => none) st st' :=
  (Atomic.loadBody_isRmw S me hL).effect hL h fuel k

/-- `store v` = `fetch_update(|_| Some(v))`, result ignored -/
theorem atomic_store_is_rmw {P : Program} {σ : Type} (S : Scheduler σ) (me : Nat)
    {L : Lens P.U AtomicState} (hL : L.Lawful) {st : ExecState P σ} {tk : Task}
    (h : st.k.tasks[me]? = some tk) (fuel : Nat) (v : Nat) (k : Unit → Prog P.U Unit) :
    ∃ st', runSegment S me (fuel + 7) st (Atomic.storeBody L v >>= k) = runSegment S me fuel st' (k ()) ∧
      Atomic.RmwEffect L me (fun _ => some v) st st' :=
  (Atomic.storeBody_isRmw S me hL v).effect hL h fuel k

/-- `swap v` = `fetch_update(|_| Some(v))` returning the previous value -/
theorem atomic_swap_is_rmw {P : Program} {σ : Type} (S : Scheduler σ) (me : Nat)
    {L : Lens P.U AtomicState} (hL : L.Lawful) {st : ExecState P σ} {tk : Task}
    (h : st.k.tasks[me]? = some tk) (fuel : Nat) (v : Nat) (k : Nat → Prog P.U Unit) :
    ∃ st', runSegment S me (fuel + 11) st (Atomic.swapBody L v >>= k) =
        runSegment S me fuel st' (k (L.get st.u).value) ∧
      Atomic.RmwEffect L me (fun _ => some v) st st' :=
  (Atomic.swapBody_isRmw S me hL v).effect hL h fuel k

/-- std instances: `fetch_add(n)` wraps at `2^bits`; `compare_exchange(cur, new)` -/
theorem atomic_std_instances (a : AtomicState) (n cur new : Nat) :
    a.rmw (fun old => some (old + n)) = ({ a with value := (a.value + n) % 2 ^ a.bits }, true, a.value) ∧
    a.rmw (fun old => if old == cur then some new else none) =
      (if a.value = cur then ({ a with value := new % 2 ^ a.bits }, true, a.value)
       else (a, false, a.value)) :=
  ⟨rfl, by
    by_cases hc : a.value = cur
    · rw [if_pos hc, AtomicState.rmw_of_some (v := new) (if_pos (beq_iff_eq.mpr hc))]
    · rw [if_neg hc, AtomicState.rmw_of_none (if_neg (mt beq_iff_eq.mp hc))]⟩

/-- `fetch_add(10)` on an `AtomicU8` holding 250 returns `Ok(250)` and leaves 4 -/
example (fuel : Nat) (k : Bool × Nat → Prog P8.U Unit) :
    ∃ st', runSegment S0 0 (fuel + 11) st0 (Atomic.fetchUpdateBody idL (fun old => some (old + 10)) >>= k) =
        runSegment S0 0 fuel st' (k (true, 250)) ∧ (idL.get st'.u).value = 4 := by
  obtain ⟨st', e, hv, _⟩ := Atomic.fetchAdd_runSegment S0 0 idL_lawful st0_task fuel 10 k
  exact ⟨st', e, hv⟩
example : (({ value := 250, bits := 8 } : AtomicState).rmw (fun old => some (old + 10))).1.value = 4 ∧
    (({ value := 250, bits := 8 } : AtomicState).rmw (fun old => some (old + 10))).2 = (true, 250) := by
  decide

/-- The single-segment facts on which "the atomic operations of an execution form one total order
consistent with program order" rests: (a) a switch-free piece of program (in particular the body of an
atomic operation) is executed inside ONE segment: `runSegment` never stops at a scheduling point inside
it — it reaches the continuation `k a`, or the task fails / runs out of segment fuel;
(b) an atomic operation first yields (`atSwitch`, shared state untouched, the stored continuation is
the body); (c) the segment that later resumes the body performs exactly the operation and stops at the
task's next scheduling point. The order itself (one operation per iteration of `runLoop`, a task's
operations in program order) is not stated here; one iteration is `atomic_one_loop_iteration`. -/
theorem atomic_total_order {P : Program} {σ : Type} (S : Scheduler σ) (me : Nat) :
    (∀ {α : Type} {p : Prog P.U α}, p.SwitchFree → ∀ (k : α → Prog P.U Unit) (fuel : Nat)
        (st : ExecState P σ), SwitchFreeOutcome S me fuel st k (runSegment S me fuel st (p >>= k))) ∧
    (∀ (L : Lens P.U AtomicState) (fuel : Nat) (st : ExecState P σ) (f : Nat → Option Nat)
        (k : Bool × Nat → Prog P.U Unit),
        runSegment S me (fuel + 1) st (Atomic.fetchUpdate L f >>= k) =
          .atSwitch { st with conts := st.conts.set me (Atomic.fetchUpdateBody L f >>= k) }) ∧
    (∀ (L : Lens P.U AtomicState), L.Lawful → ∀ (st : ExecState P σ) (tk : Task),
        st.k.tasks[me]? = some tk → ∀ (fuel : Nat) (f : Nat → Option Nat)
        (kont : Bool × Nat → Unit → Prog P.U Unit),
        ∃ st', runSegment S me (fuel + 1 + Atomic.fetchUpdateCost f (L.get st.u)) st
              (Atomic.fetchUpdateBody L f >>= fun r => .op .switch (kont r)) =
            .atSwitch { st' with conts := st'.conts.set me (kont ((L.get st.u).rmw f).2 ()) } ∧
          Atomic.RmwEffect L me f st st') :=
  ⟨fun hp k fuel st => runSegment_switchFree S me hp k fuel st,
   fun _ fuel st f k => Atomic.fetchUpdate_runSegment_atSwitch S me fuel st f k,
   fun _ hL _ _ h fuel f _ => (Atomic.fetchUpdateBody_isRmw S me hL f).effect hL h (fuel + 1) _⟩

/-- the same at the level of the run loop: one iteration = exactly one atomic operation -/
theorem atomic_one_loop_iteration {P : Program} {σ : Type} (S : Scheduler σ)
    {L : Lens P.U AtomicState} (hL : L.Lawful) (sf fuel : Nat)
    (st : ExecState P σ) (k : Kernel) (s : σ) (ev : Option Ev) (t : Nat) (tk : Task)
    (f : Nat → Option Nat) (kont : Bool × Nat → Unit → Prog P.U Unit)
    (hs : st.k.schedule S st.sch = .ok k s ev) (hc : k.advance.current = .some t)
    (hp : st.conts[t]? = some (Atomic.fetchUpdateBody L f >>= fun r => .op .switch (kont r)))
    (ht : k.tasks[t]? = some tk) :
    ∃ st', runLoop S (sf + 1 + Atomic.fetchUpdateCost f (L.get st.u)) (fuel + 1) st =
        runLoop S (sf + 1 + Atomic.fetchUpdateCost f (L.get st.u)) fuel
          { st' with conts := st'.conts.set t (kont ((L.get st.u).rmw f).2 ()) } ∧
      Atomic.RmwEffect L t f (afterSchedule st k s ev) st' :=
  (Atomic.fetchUpdateBody_isRmw S t hL f).loop hL sf fuel st k s ev tk kont hs hc hp ht

example (fuel : Nat) (k : Bool × Nat → Prog P8.U Unit) :
    runSegment S0 0 (fuel + 1) st0 (Atomic.fetchUpdate idL (fun o => some (o + 10)) >>= k) =
      .atSwitch { st0 with conts := st0.conts.set 0 (Atomic.fetchUpdateBody idL (fun o => some (o + 10)) >>= k) } :=
  Atomic.fetchUpdate_runSegment_atSwitch S0 0 fuel st0 _ k

end Atomics
end C04
end ShuttleModel

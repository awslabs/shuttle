import ShuttleProofs.Lemmas.SemStep
/-
  Order of service: `unblock_waiters_from_front` serves a prefix of the queue in order and touches
  nothing else (`Served`, `unblockFront_served`), and under every step the queue only loses entries
  or grows at the back. Then single steps as C18 states them: the effects of `close`, cancellation,
  the closed semaphore, `try_acquire` against a fresh `acquire` polled once; and `runOps` to exhibit
  concrete reachable states.
-/
namespace ShuttleModel
namespace SemLts
open Sem (PollOut)

/-- what happened to a waiter taken off the front of the queue: `s` before, `r` after, `effs` the
kernel effects of the whole scan -/
inductive Served (fin : Nat → Bool) (s r : SemState) (effs : List Eff) (wid : Nat) : Prop
  /-- its task has finished: discarded without consuming permits -/
  | stale (w : Waiter) (hw : s.getW wid = some w) (hf : fin w.taskId = true)
      (hr : r.getW wid = some (staleW w))
  /-- granted: marked `has_permits`, its task (the latest poller) is unblocked and its waker woken -/
  | granted (w : Waiter) (hw : s.getW wid = some w) (hf : fin w.taskId = false)
      (hr : r.getW wid = some (grantedW w))
      (hu : Eff.unblock w.taskId ∈ effs)
      (hwk : ∀ t, w.waker = some t → Eff.wake t ∈ effs)

theorem Served.congr {fin : Nat → Bool} {s r s2 r2 : SemState} {effs effs2 : List Eff} {wid : Nat}
    (h : Served fin s r effs wid) (hs : s2.getW wid = s.getW wid) (hr : r2.getW wid = r.getW wid)
    (he : ∀ e ∈ effs, e ∈ effs2) : Served fin s2 r2 effs2 wid := by
  cases h with
  | stale w hw hf hr' => exact .stale w (hs ▸ hw) hf (hr ▸ hr')
  | granted w hw hf hr' hu hwk =>
    exact .granted w (hs ▸ hw) hf (hr ▸ hr') (he _ hu) (fun t ht => he _ (hwk t ht))

theorem unblockFront_served (fin : Nat → Bool) (q : List Nat) (s : SemState) (nx : Nat)
    (h : TQ q s.table nx) :
    ∃ pre, q = pre ++ (SemState.unblockFront fin q s).1.queue ∧
      (∀ wid ∈ pre,
        Served fin s (SemState.unblockFront fin q s).1 (SemState.unblockFront fin q s).2 wid) ∧
      ∀ wid, wid ∉ pre → (SemState.unblockFront fin q s).1.getW wid = s.getW wid := by
  -- one round: the head `w` becomes `w'` in a state `s1` with the same table
  have round : ∀ {wid rest} {s s1 : SemState} {w w' : Waiter} {r : SemState × List Eff}
      {effs : List Eff}, TQ (wid :: rest) s.table nx → s.getW wid = some w → s1.table = s.table →
      w'.wid = w.wid → w'.isQueued = false →
      (r.1.getW wid = some w' → Served fin s r.1 effs wid) → (∀ e ∈ r.2, e ∈ effs) →
      (TQ rest (s1.setW w').table nx → ∃ pre, rest = pre ++ r.1.queue ∧
        (∀ x ∈ pre, Served fin (s1.setW w') r.1 r.2 x) ∧
        ∀ x, x ∉ pre → r.1.getW x = (s1.setW w').getW x) →
      ∃ pre, wid :: rest = pre ++ r.1.queue ∧ (∀ x ∈ pre, Served fin s r.1 effs x) ∧
        ∀ x, x ∉ pre → r.1.getW x = s.getW x := by
    intro wid rest s s1 w w' r effs h hw ht hwid hq hhead he ih
    have hwid' : w'.wid = wid := hwid.trans (tget_some_mem hw).2
    have hw1 : tget s1.table w'.wid = some w := by rw [ht, hwid']; exact hw
    have hnotin : wid ∉ rest := (List.nodup_cons.mp h.nodupQ).1
    obtain ⟨pre, hp, hs, hu⟩ := ih (by rw [← ht] at h; exact h.pop (hwid' ▸ hw1) hwid' hq)
    have hsame : ∀ x, x ≠ wid → (s1.setW w').getW x = s.getW x := fun x hx => by
      rw [getW_eq, getW_eq, setW_table, ht]; exact tget_tset_ne (hwid' ▸ hx)
    have hpre : wid ∉ pre := fun hm => hnotin (by rw [hp]; exact List.mem_append_left _ hm)
    refine ⟨wid :: pre, congrArg (List.cons wid) hp, fun x hx => ?_, fun x hx => ?_⟩
    · rcases List.mem_cons.mp hx with rfl | hx
      · exact hhead ((hu _ hpre).trans (hwid' ▸ getW_setW_of hw1 rfl))
      · exact (hs x hx).congr (hsame x (fun e => hpre (e ▸ hx))).symm rfl he
    · rw [List.mem_cons, not_or] at hx
      exact (hu x hx.2).trans (hsame x hx.1)
  refine unblockFront_induct fin (motive := fun q s r => TQ q s.table nx →
    ∃ pre, q = pre ++ r.1.queue ∧ (∀ wid ∈ pre, Served fin s r.1 r.2 wid) ∧
      ∀ wid, wid ∉ pre → r.1.getW wid = s.getW wid) ?_ ?_ ?_ ?_ ?_ q s h
  · intro s _; exact ⟨[], rfl, by simp, fun _ _ => rfl⟩
  · intro wid rest s r hw _ h
    obtain ⟨w, hw', _⟩ := h.tget_of_mem_queue (List.mem_cons_self ..)
    rw [getW_eq] at hw; rw [hw] at hw'; cases hw'
  · intro wid rest s w r hw hf ih h
    exact round (w' := staleW w) (r := r) h hw rfl rfl rfl (fun hr => .stale w hw hf hr) (fun _ he => he) ih
  · intro wid rest s w s' c r hw hf hpa ih h
    refine round (w' := grantedW w) (r := r) h hw (paAcquire_some hpa).1.table rfl rfl
      (fun hr => .granted w hw hf hr (by simp) (fun t ht => by simp [ht]))
      (fun _ he => List.mem_append_right _ he) ih
  · intro wid rest s w _ _ _ _; exact ⟨[], rfl, by simp, fun _ _ => rfl⟩

theorem mem_wakeList {o : Option Nat} {e : Eff} :
    e ∈ (match o with | some t => [Eff.wake t] | none => []) ↔ ∃ t, o = some t ∧ e = Eff.wake t := by
  cases o <;> simp

/-- the effects of a pass over the queue that emits `f w` for every queued waiter `w` -/
theorem mem_queueEffs {s : SemState} {g : Nat → List Eff} {f : Waiter → List Eff} {P : Waiter → Prop}
    {e : Eff} (hg : ∀ wid, g wid = match s.getW wid with | none => [] | some w => f w)
    (hf : ∀ w, e ∈ f w ↔ P w) :
    e ∈ s.queue.flatMap g ↔ ∃ wid ∈ s.queue, ∃ w, s.getW wid = some w ∧ P w := by
  simp only [List.mem_flatMap, hg]
  refine exists_congr fun wid => and_congr_right fun _ => ?_
  cases s.getW wid <;> simp [hf]

theorem mem_closePure_effs (fin : Nat → Bool) {s : SemState} (hc : s.closed = false) (e : Eff) :
    e ∈ (s.closePure fin).2 ↔
      ∃ wid ∈ s.queue, ∃ w, s.getW wid = some w ∧
        ((fin w.taskId = false ∧ e = Eff.unblock w.taskId) ∨ ∃ t, w.waker = some t ∧ e = Eff.wake t) := by
  rw [show (s.closePure fin).2 = _ from congrArg Prod.snd (if_neg (c := s.closed = true) (Bool.eq_false_iff.mp hc))]
  refine mem_queueEffs (fun _ => rfl) fun w => ?_
  refine List.mem_append.trans (or_congr ?_ mem_wakeList)
  rw [List.mem_ite_nil_left, Bool.not_eq_true, List.mem_singleton]

theorem releasePure_frame (fin : Nat → Bool) (s : SemState) (n : Nat) (c : Clock) :
    (∃ pre, s.queue = pre ++ (s.releasePure fin n c).1.queue) ∧
      (s.releasePure fin n c).1.closed = s.closed := by
  cases hf : s.fair with
  | true =>
    rw [releasePure_fair fin n c hf]
    exact ⟨(unblockFront_spec fin _ (s.paRelease n c)).suffix, (unblockFront_spec fin _ _).closed⟩
  | false => rw [releasePure_unfair_state fin n c hf]; exact ⟨⟨[], rfl⟩, rfl⟩

theorem step_queue (fin : Nat → Bool) {s : SemState} {op : SemOp} {o : StepOut} (hi : Inv s)
    (h : step fin s op = .ok o) : QueueEvolves s.queue o.s.queue := by
  cases step_ok_iff.mp h with
  | tryErr | newAcq | dropGone | dropUnqueued | releaseZero | poisonZero => exact .refl _
  | tryOk hacq => simp only [(acquirePermits_frame hacq).1.queue]; exact .refl _
  | poll hw hnc hpp => exact (pollPure_spec hi hw hnc hpp).queue
  | dropQueued _ _ hrm =>
    obtain ⟨_, _, _, rs⟩ := removeWaiterPure_spec fin hi hrm
    exact .of_sublist rs.queueSub
  | release =>
    obtain ⟨pre, hp⟩ := (releasePure_frame fin s _ _).1
    exact .of_sublist (by rw [hp]; exact List.sublist_append_right _ _)
  | close => simp only [(closePure_spec fin hi).2.2.2.2]; exact .of_sublist (List.nil_sublist _)
  | poison => simp only [(releasePoison_spec _ hi).2.2.2]; exact .of_sublist (List.nil_sublist _)

theorem step_closed_mono (fin : Nat → Bool) {s : SemState} {op : SemOp} {o : StepOut} (hi : Inv s)
    (h : step fin s op = .ok o) (hc : s.closed = true) : o.s.closed = true := by
  cases step_ok_iff.mp h with
  | tryErr | newAcq | dropGone | dropUnqueued | releaseZero | poisonZero => exact hc
  | tryOk hacq => rw [(acquirePermits_ok hacq).2.1] at hc; cases hc
  | poll hw _ hpp =>
    cases pollPure_cases hw hpp with
    | granted _ _ ho | closed _ _ _ ho => subst ho; exact hc
    | acquiredFresh _ hc' | acquiredQueued _ hc' | enqueued _ hc' | stillQueued _ hc' | fairWait _ hc' =>
      rw [hc] at hc'; cases hc'
  | dropQueued hw hq => rw [hi.open_of_queued hw hq] at hc; cases hc
  | release => exact (releasePure_frame ..).2.trans hc
  | close => exact (closePure_spec fin hi).2.2.2.1
  | poison => exact (releasePoison_spec _ hi).2.2.1

theorem drop_no_trace (fin : Nat → Bool) {s : SemState} {task wid : Nat} {o : StepOut} (hi : Inv s)
    (h : step fin s (.dropAcquire task wid) = .ok o) :
    o.s.getW wid = none ∧ wid ∉ o.s.queue ∧ ∀ w ∈ o.s.table, w.wid ≠ wid := by
  have hg : o.s.getW wid = none := by
    cases step_ok_iff.mp h with
    | dropGone hw => exact hw
    | dropQueued | dropUnqueued => exact getW_dropW_self _ _
  refine ⟨hg, fun hin => ?_, tget_none_iff.mp hg⟩
  obtain ⟨w, hw, _⟩ := (step_spec fin hi h).1.tq.tget_of_mem_queue hin
  rw [getW_eq] at hg; rw [hg] at hw; cases hw

/-- dropping a completed (or never polled) `Acquire` just forgets it -/
theorem drop_plain (fin : Nat → Bool) {s : SemState} {task wid : Nat} {w : Waiter}
    (hw : s.getW wid = some w) (hq : w.isQueued = false)
    (hpc : (w.hasPermits && !w.completed) = false) :
    step fin s (.dropAcquire task wid) = .ok { s := s.dropW wid, out := .dropped 0 } := by
  simp only [step, hw]
  rw [if_neg (by simp [hq]), if_neg (by simp [hpc])]

theorem drop_fair_head (fin : Nat → Bool) {s : SemState} {task wid : Nat} {rest : List Nat}
    {o : StepOut} (hi : Inv s) (hf : s.fair = true) (hq : s.queue = wid :: rest)
    (h : step fin s (.dropAcquire task wid) = .ok o) :
    o.out = .dropped 0 ∧
    ∃ pre, rest = pre ++ o.s.queue ∧ (∀ x ∈ pre, Served fin s o.s o.effs x) ∧ HeadBlocked o.s := by
  obtain ⟨w, (hw : s.getW wid = some w), hwq⟩ :=
    hi.tq.tget_of_mem_queue (wid := wid) (hq ▸ List.mem_cons_self ..)
  have hwid : w.wid = wid := (tget_some_mem hw).2
  have hinv := (step_spec fin hi h).1
  cases step_ok_iff.mp h with
  | dropGone hw' => rw [hw] at hw'; cases hw'
  | dropUnqueued hw' hq' => rw [hw] at hw'; cases hw'; rw [hwq] at hq'; cases hq'
  | @dropQueued _ _ _ s' effs hw' _ hrm =>
    refine ⟨rfl, ?_⟩
    obtain ⟨w', idx, hw', hnc, hp, hidx⟩ := removeWaiterPure_pre hrm
    rw [hw] at hw'; cases hw'
    have hidx0 : idx = 0 := by
      rw [hq, List.findIdx?_cons] at hidx
      simpa using hidx.symm
    subst hidx0
    rw [removeWaiterPure_eq fin hw hnc hp hidx, if_pos (by simp [hf])] at hrm
    simp only [Except.ok.injEq] at hrm
    obtain ⟨htq, r_queue⟩ := rmState_tq hi hw hidx
    rw [hq, List.erase_cons_head] at r_queue
    obtain ⟨pre, hpre, hserved, _⟩ := unblockFront_served fin (rmState s w 0).queue (rmState s w 0) _ htq
    rw [hrm] at hpre hserved
    simp only at hpre hserved
    have hnotin : wid ∉ rest := (List.nodup_cons.mp (hq ▸ hi.tq.nodupQ)).1
    have sp := unblockFront_spec fin (rmState s w 0).queue (rmState s w 0)
    rw [hrm] at sp
    refine ⟨pre, r_queue ▸ hpre, ?_, hinv.headBlocked (sp.fair.trans hf)⟩
    intro x hx
    have hxr : x ∈ rest := by rw [← r_queue, hpre]; exact List.mem_append_left _ hx
    have hne : x ≠ wid := fun e => hnotin (e ▸ hxr)
    exact (hserved x hx).congr
      (getW_setW_ne (s := { s with queue := s.queue.eraseIdx 0 }) (hwid ▸ hne)).symm
      (getW_dropW_ne _ hne) (fun _ he => he)

theorem poll_closed (fin : Nat → Bool) {s : SemState} {wid me cx : Nat} {clk : Clock}
    {w0 : Waiter} (hi : Inv s) (hc : s.closed = true) (hw : s.getW wid = some w0)
    (hnc : w0.completed = false) :
    ∃ o, step fin s (.poll wid me cx clk) = .ok o ∧ o.out = .polled (.ready w0.hasPermits) ∧
      o.s.avail = s.avail := by
  have hq : w0.isQueued = false :=
    Bool.eq_false_iff.mpr fun hq => by rw [hi.open_of_queued hw hq] at hc; cases hc
  refine ⟨{ s := s.setW (finishedW w0), out := .polled (.ready w0.hasPermits) }, ?_, rfl, rfl⟩
  simp only [step, hw, hnc, Bool.false_eq_true, if_false, SemState.pollPure, hq, hc, if_true]
  cases hp : w0.hasPermits <;> simp [hp, hq, finishedW, polled]

theorem newAcquire_getW {s : SemState} (hi : Inv s) (me n : Nat) (c : Clock) :
    (s.newAcquire me n c).2.getW s.nextWid
      = some { wid := s.nextWid, taskId := me, n := n, clock := c } := by
  show tget (s.table ++ [{ wid := s.nextWid, taskId := me, n := n, clock := c }]) s.nextWid = _
  exact tget_append_new (w := { wid := s.nextWid, taskId := me, n := n, clock := c })
    (fun x hx => by have := hi.tq.ltNext x hx; simp only; omega)

theorem pollPure_fresh_ok {s1 : SemState} {wid me cx : Nat} {clk : Clock} {fin : Nat → Bool}
    {w : Waiter} (hw : s1.getW wid = some w) (hp : w.hasPermits = false) (hq : w.isQueued = false)
    (hwk : w.waker = none) (hc : s1.closed = false) {s' : SemState} {pc : Clock}
    (hacq : s1.acquirePermits w.n clk = .ok (.ok (s', pc))) :
    ∃ o, s1.pollPure wid me cx clk fin = .ok o ∧ o.res = .ready true := by
  have hwid : w.wid = wid := (tget_some_mem hw).2
  obtain ⟨_, _, _, hpa⟩ := acquirePermits_ok hacq
  obtain ⟨fr, _, _⟩ := paAcquire_some hpa
  have hg : ∀ w1 : Waiter, w1.wid = wid → (s'.setW w1).getW wid = some w1 := by
    intro w1 h1
    have hw1 : s'.getW wid = some w := by rw [getW_eq, fr.table]; exact hw
    exact getW_setW_of hw1 h1
  unfold SemState.pollPure
  rw [hw]
  simp only [hp, hq, hwk, hc, hacq, Bool.false_eq_true, if_false, Option.isSome_none, bne_self_eq_false,
    Bool.and_false, Bool.not_false, if_true]
  split
  · next h => rw [hg _ (by exact hwid)] at h; cases h
  · exact ⟨_, rfl, rfl⟩

theorem tryAcquire_ok_iff (fin : Nat → Bool) (s : SemState) (task n : Nat) (c : Clock) :
    (∃ o, step fin s (.tryAcquire task n c) = .ok o ∧ o.out = .tried (.ok ())) ↔
      ∃ s' pc, s.acquirePermits n c = .ok (.ok (s', pc)) := by
  constructor
  · rintro ⟨o, h, ho⟩
    cases step_ok_iff.mp h with
    | tryOk hacq => exact ⟨_, _, hacq⟩
    | tryErr => cases ho
  · rintro ⟨s', pc, hacq⟩
    exact ⟨_, step_ok_iff.mpr (.tryOk hacq), rfl⟩

theorem try_iff_immediate_aux (fin : Nat → Bool) {s : SemState} (hi : Inv s) (task n : Nat)
    (c c' : Clock) :
    (∃ o, step fin s (.tryAcquire task n c) = .ok o ∧ o.out = .tried (.ok ())) ↔
    (∃ o, stepPollNew fin s task n c' = .ok o ∧ o.out = .polled (.ready true)) := by
  have hg := newAcquire_getW hi task n c'
  -- whether `acquire_permits` succeeds depends neither on the clock nor on the fresh table entry
  refine (tryAcquire_ok_iff fin s task n c).trans ((acquirePermits_ok_iff s n c).trans
    ((acquirePermits_ok_iff (s.newAcquire task n c').2 n c').symm.trans ⟨?_, ?_⟩))
  · rintro ⟨s2, pc2, hacq2⟩
    obtain ⟨po, hpo, hres⟩ := pollPure_fresh_ok (fin := fin) (me := task) (cx := task) hg rfl rfl rfl
      (acquirePermits_ok hacq2).2.1 hacq2
    exact ⟨_, step_ok_iff.mpr (.poll hg rfl hpo), by rw [hres]⟩
  · rintro ⟨o, h, ho⟩
    obtain ⟨_, po, hpp, rfl⟩ := step_poll hg h
    simp only [Out.polled.injEq] at ho
    cases pollPure_cases hg hpp with
    | granted hp => cases hp
    | closed _ _ _ ho' | enqueued _ _ _ _ _ ho' => subst ho'; cases ho
    | acquiredFresh _ _ _ s' pc hacq => exact ⟨s', pc, hacq⟩
    | acquiredQueued _ _ hq | stillQueued _ _ hq | fairWait _ _ hq => cases hq

/-- run the operations in order (same `fin` for every step); collects the effects of each step -/
def runOps (fin : Nat → Bool) : G → List SemOp → Except String (G × List (List Eff))
  | g, [] => .ok (g, [])
  | g, op :: ops =>
    match gstep fin g op with
    | .error e => .error e
    | .ok (g', _, effs) =>
      match runOps fin g' ops with
      | .error e => .error e
      | .ok (g'', es) => .ok (g'', effs :: es)

theorem runOps_reach {s0 : SemState} (fin : Nat → Bool) {g g' : G} {ops : List SemOp}
    {es : List (List Eff)} (hr : Reach s0 g) (h : runOps fin g ops = .ok (g', es)) : Reach s0 g' := by
  fun_induction runOps fin g ops generalizing es
  case case1 => cases h; exact hr
  case case2 | case3 => cases h
  case case4 hs _ _ hro ih => cases h; exact ih (.step hr hs) hro

/-- the state after running `ops` from `s0` (for concrete examples) -/
def finalOf (fin : Nat → Bool) (s0 : SemState) (ops : List SemOp) : G :=
  match runOps fin { s := s0 } ops with
  | .ok (g, _) => g
  | .error _ => { s := s0 }

def effsOf (fin : Nat → Bool) (s0 : SemState) (ops : List SemOp) : List (List Eff) :=
  match runOps fin { s := s0 } ops with
  | .ok (_, es) => es
  | .error _ => []

def runOk (fin : Nat → Bool) (s0 : SemState) (ops : List SemOp) : Bool :=
  match runOps fin { s := s0 } ops with
  | .ok _ => true
  | .error _ => false

theorem finalOf_reach {fin : Nat → Bool} {s0 : SemState} {ops : List SemOp}
    (h : runOk fin s0 ops = true) : Reach s0 (finalOf fin s0 ops) := by
  unfold runOk at h
  unfold finalOf
  cases hr : runOps fin { s := s0 } ops with
  | error e => rw [hr] at h; cases h
  | ok r =>
    obtain ⟨g, es⟩ := r
    exact runOps_reach fin .init hr

theorem releasePure_fair_served (fin : Nat → Bool) {s : SemState} (n : Nat) (c : Clock) (hi : Inv s)
    (hf : s.fair = true) :
    ∃ pre, s.queue = pre ++ (s.releasePure fin n c).1.queue ∧
      (∀ x ∈ pre, Served fin s (s.releasePure fin n c).1 (s.releasePure fin n c).2 x) ∧
      (∀ x ∈ (s.releasePure fin n c).1.queue, (s.releasePure fin n c).1.getW x = s.getW x) ∧
      HeadBlocked (s.releasePure fin n c).1 := by
  have htq : TQ (s.paRelease n c).queue (s.paRelease n c).table s.nextWid := hi.tq
  obtain ⟨pre, hp, hs, hu⟩ := unblockFront_served fin (s.paRelease n c).queue (s.paRelease n c) _ htq
  have sp := unblockFront_spec fin (s.paRelease n c).queue (s.paRelease n c)
  -- the queue has no duplicates, so what is left of it is outside the served prefix
  have hnd := htq.nodupQ
  rw [hp, List.nodup_append] at hnd
  rw [releasePure_fair fin n c hf]
  exact ⟨pre, hp, fun x hx => (hs x hx).congr rfl rfl (fun _ he => he),
    fun x hx => hu x (fun hpre => hnd.2.2 x hpre x hx rfl), sp.head⟩

end SemLts
end ShuttleModel

import ShuttleProofs.Lemmas.KernelSegment
/-!
# One iteration of `runLoop` as a function, reachability of loop heads

`loopStep S segFuel st : Result ⊕ ExecState` is the body of `run_to_completion`'s loop (`runLoop_succ`): `.inl r`,
the run ends here with result `r`; `.inr st'`, it continues at loop head `st'`.
`ReachN n st st'` / `Reach st st'`: loop head `st'` is reached from loop head `st` (after `n` iterations).
`runLoop_reach`: every result of `runLoop` is produced by a terminal `loopStep` at a reachable loop head, or is
`outOfFuel` there; `runLoop_of_reach` is the converse.
-/

namespace ShuttleProofs.Kernel
open ShuttleModel

variable {P : Program} {σ : Type}

/-- state after `schedule()` answered `ok k s ev`: `advance_to_next_task`, scheduler state, event logged -/
def afterSched (st : ExecState P σ) (k : Kernel) (s : σ) (ev : Option Ev) : ExecState P σ :=
  { st with k := k.advance, sch := s, log := match ev with | some e => st.log.push e | none => st.log }

/-- `Stopped` because of the `ContinueAfter` bound rather than a `None` answer -/
def byBound (k : Kernel) (ev : Option Ev) : Bool :=
  match k.maxSteps with
  | .continueAfter n => k.stepBoundExceeded n && (match ev with | none => true | some _ => false)
  | _ => false

/-- what `run_to_completion` does with the end of task `t`'s segment -/
def finishSeg (t : Nat) : SegEnd P σ → Result P σ ⊕ ExecState P σ
  | .atSwitch st' => .inr st'
  | .returned st' =>
    match st'.k.modTask t (·.finish) with
    | .ok k' => .inr { st' with k := k' }
    | .error e => .inl ⟨.panic t e, st'⟩
  | .panicked msg st' => .inl ⟨.panic t msg, st'⟩
  | .schedPanic msg st' => .inl ⟨.schedPanic msg, st'⟩
  | .outOfFuel st' => .inl ⟨.outOfFuel, st'⟩
  | .aborted msg st' => .inl ⟨.abort msg, st'⟩

/-- the part of an iteration after a successful `schedule()` -/
def afterOk (S : Scheduler σ) (segFuel : Nat) (st1 : ExecState P σ) (ev : Option Ev) :
    Result P σ ⊕ ExecState P σ :=
  match st1.k.current with
  | .none => .inl ⟨.schedulingError, st1⟩
  | .stopped => .inl ⟨if byBound st1.k ev then .abandoned else .stopped, st1⟩
  | .finished =>
    .inl (if st1.k.unfinishedAttached then ⟨.deadlock st1.k.deadlockList, st1⟩ else ⟨.ok, st1⟩)
  | .some t =>
    match st1.conts[t]? with
    | none => .inl ⟨.schedulingError, st1⟩
    | some p => finishSeg t (runSegment S t segFuel st1 p)

/-- one iteration of the loop of `run_to_completion` -/
def loopStep (S : Scheduler σ) (segFuel : Nat) (st : ExecState P σ) : Result P σ ⊕ ExecState P σ :=
  match st.k.schedule S st.sch with
  | .err .stepBoundExceeded k s =>
    .inl ⟨.stepBoundFail (match k.maxSteps with | .failAfter n => n | _ => 0), { st with k := k, sch := s }⟩
  | .err _ k s => .inl ⟨.schedulingError, { st with k := k, sch := s }⟩
  | .schedPanic msg k s => .inl ⟨.schedPanic msg, { st with k := k, sch := s }⟩
  | .ok k s ev => afterOk S segFuel (afterSched st k s ev) ev

theorem runLoop_zero (S : Scheduler σ) (segFuel : Nat) (st : ExecState P σ) :
    runLoop S segFuel 0 st = ⟨.outOfFuel, st⟩ := by
  rw [runLoop]

theorem runLoop_succ (S : Scheduler σ) (segFuel fuel : Nat) (st : ExecState P σ) :
    runLoop S segFuel (fuel + 1) st =
      match loopStep S segFuel st with
      | .inl r => r
      | .inr st' => runLoop S segFuel fuel st' := by
  rw [runLoop]
  unfold loopStep
  cases hs : st.k.schedule S st.sch with
  | err e k s => cases e <;> rfl
  | schedPanic msg k s => rfl
  | ok k s ev =>
    simp only
    unfold afterOk
    cases hc : k.advance.current with
    | none => simp only [afterSched, hc]; rfl
    | stopped => simp only [afterSched, hc]; rfl
    | finished =>
      simp only [afterSched, hc]
      rfl
    | some t =>
      simp only [afterSched, hc]
      cases hp : st.conts[t]? with
      | none => rfl
      | some p =>
        simp only
        generalize runSegment S t segFuel _ p = e
        cases e with
        | returned st' =>
          simp only [finishSeg]
          generalize (st'.k.modTask t fun x => x.finish) = m
          cases m <;> rfl
        | _ => rfl

inductive ReachN (S : Scheduler σ) (segFuel : Nat) : Nat → ExecState P σ → ExecState P σ → Prop
  | refl (st : ExecState P σ) : ReachN S segFuel 0 st st
  | head {n : Nat} {st st' st'' : ExecState P σ} :
      loopStep S segFuel st = .inr st' → ReachN S segFuel n st' st'' → ReachN S segFuel (n + 1) st st''

def Reach (S : Scheduler σ) (segFuel : Nat) (st st' : ExecState P σ) : Prop := ∃ n, ReachN S segFuel n st st'

theorem ReachN.tail {S : Scheduler σ} {segFuel n : Nat} {st st' st'' : ExecState P σ}
    (h : ReachN S segFuel n st st') (hs : loopStep S segFuel st' = .inr st'') :
    ReachN S segFuel (n + 1) st st'' := by
  induction h with
  | refl st => exact .head hs (.refl _)
  | head h1 _ ih => exact .head h1 (ih hs)

theorem Reach.refl (S : Scheduler σ) (segFuel : Nat) (st : ExecState P σ) : Reach S segFuel st st :=
  ⟨0, .refl st⟩

theorem Reach.tail {S : Scheduler σ} {segFuel : Nat} {st st' st'' : ExecState P σ}
    (h : Reach S segFuel st st') (hs : loopStep S segFuel st' = .inr st'') : Reach S segFuel st st'' := by
  obtain ⟨n, h⟩ := h
  exact ⟨n + 1, h.tail hs⟩

theorem ReachN.invariant {S : Scheduler σ} {segFuel : Nat} (Inv : ExecState P σ → Prop)
    (hstep : ∀ a b, Inv a → loopStep S segFuel a = .inr b → Inv b)
    {n : Nat} {st st' : ExecState P σ} (h : ReachN S segFuel n st st') (h0 : Inv st) : Inv st' := by
  induction h with
  | refl st => exact h0
  | head h1 _ ih => exact ih (hstep _ _ h0 h1)

theorem Reach.invariant {S : Scheduler σ} {segFuel : Nat} (Inv : ExecState P σ → Prop)
    (hstep : ∀ a b, Inv a → loopStep S segFuel a = .inr b → Inv b)
    {st st' : ExecState P σ} (h : Reach S segFuel st st') (h0 : Inv st) : Inv st' := by
  obtain ⟨n, h⟩ := h
  exact h.invariant Inv hstep h0

theorem runLoop_reach (S : Scheduler σ) (segFuel : Nat) :
    ∀ (fuel : Nat) (st : ExecState P σ), ∃ n stf, ReachN S segFuel n st stf ∧
      ((n = fuel ∧ runLoop S segFuel fuel st = ⟨.outOfFuel, stf⟩) ∨
       (n < fuel ∧ loopStep S segFuel stf = .inl (runLoop S segFuel fuel st)))
  | 0, st => ⟨0, st, .refl st, Or.inl ⟨rfl, runLoop_zero S segFuel st⟩⟩
  | fuel + 1, st => by
    rw [runLoop_succ]
    cases h : loopStep S segFuel st with
    | inl r => exact ⟨0, st, .refl st, Or.inr ⟨Nat.succ_pos _, h⟩⟩
    | inr st' =>
      obtain ⟨n, stf, hr, hc⟩ := runLoop_reach S segFuel fuel st'
      refine ⟨n + 1, stf, .head h hr, ?_⟩
      rcases hc with ⟨h1, h2⟩ | ⟨h1, h2⟩
      · exact Or.inl ⟨by omega, h2⟩
      · exact Or.inr ⟨by omega, h2⟩

theorem runLoop_add_of_reachN {S : Scheduler σ} {segFuel n : Nat} {st st' : ExecState P σ}
    (h : ReachN S segFuel n st st') (fuel : Nat) :
    runLoop S segFuel (n + fuel) st = runLoop S segFuel fuel st' := by
  induction h with
  | refl st => rw [Nat.zero_add]
  | head h1 _ ih => rw [Nat.add_right_comm, runLoop_succ, h1]; exact ih

/-- converse of `runLoop_reach` -/
theorem runLoop_of_reach {S : Scheduler σ} {segFuel n : Nat} {st stf : ExecState P σ} {r : Result P σ}
    (h : ReachN S segFuel n st stf) (ht : loopStep S segFuel stf = .inl r) :
    ∀ fuel, n < fuel → runLoop S segFuel fuel st = r := by
  intro fuel hf
  obtain ⟨f, rfl⟩ : ∃ f, fuel = n + (f + 1) := ⟨fuel - n - 1, by omega⟩
  rw [runLoop_add_of_reachN h, runLoop_succ, ht]

theorem runLoop_outOfFuel_of_reach {S : Scheduler σ} {segFuel n : Nat} {st stf : ExecState P σ}
    (h : ReachN S segFuel n st stf) : runLoop S segFuel n st = ⟨.outOfFuel, stf⟩ :=
  (runLoop_add_of_reachN h 0).trans (runLoop_zero S segFuel stf)

/-- the state `Execution::run` starts the loop in -/
def initState (P : Program) {σ : Type} (ms : MaxSteps) (seed : Nat) (s : σ) : ExecState P σ :=
  { k := (({ seed := seed, maxSteps := ms } : Kernel).spawnTask none).2, u := P.init,
    conts := [P.bodies 0], sch := s }

theorem execute_eq (P : Program) {σ : Type} (S : Scheduler σ) (ms : MaxSteps) (seed : Nat) (s : σ)
    (fuel segFuel : Nat) :
    execute P S ms seed s fuel segFuel = runLoop S segFuel fuel (initState P ms seed s) := rfl

end ShuttleProofs.Kernel

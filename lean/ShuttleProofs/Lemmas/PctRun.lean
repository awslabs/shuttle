import ShuttleProofs.Lemmas.PctNext

/-!
# Runs of the PCT scheduler: sequences of successful calls, step counting
-/

namespace ShuttleProofs.Pct
open ShuttleModel ShuttleModel.Pct

/-- A call made by the engine to the scheduler. -/
inductive Call where
  | exec
  | task (runnable : List Nat) (current : Option Nat) (isYielding : Bool)
  | u64
deriving Repr, DecidableEq

/-- The call is a `next_task` with more than one offered task (a "multi-choice decision"). -/
def Call.isMulti : Call → Bool
  | .task r _ _ => decide (r.length > 1)
  | _ => false

def Call.isExec : Call → Bool
  | .exec => true
  | _ => false

/-- Perform one call; `none` if the scheduler panics or `new_execution` returns `None`. -/
def applyCall (s : PctState) : Call → Option PctState
  | .exec => match newExecution s with
    | .some _ s' => some s'
    | _ => none
  | .task r c y => match nextTask s r c y with
    | .ok _ s' => some s'
    | .panic _ => none
  | .u64 => some (nextU64 s).2

def runCalls (s : PctState) : List Call → Option PctState
  | [] => some s
  | c :: cs => match applyCall s c with
    | none => none
    | some s' => runCalls s' cs

/-- The body of one execution: calls other than `new_execution`. -/
def NoExec (cs : List Call) : Prop := ∀ c ∈ cs, c.isExec = false

instance (cs : List Call) : Decidable (NoExec cs) := by unfold NoExec; infer_instance

/-- Number of multi-choice decisions in a call sequence. -/
def multiCount (cs : List Call) : Nat := (cs.filter Call.isMulti).length

/-- The values of `self.steps` seen (before the increment) by the successive multi-choice decisions of a run. -/
def multiSteps (s : PctState) : List Call → List Nat
  | [] => []
  | c :: cs => match applyCall s c with
    | none => []
    | some s' => if c.isMulti then s.steps :: multiSteps s' cs else multiSteps s' cs

/-- One or several whole executions: `new_execution` followed by the calls of the body. -/
def runExecs (s : PctState) : List (List Call) → Option PctState
  | [] => some s
  | e :: es => match runCalls s (.exec :: e) with
    | none => none
    | some s' => runExecs s' es

theorem applyCall_task {s s' : PctState} {r : List Nat} {cur : Option Nat} {y : Bool} {c : Nat}
    (h : nextTask s r cur y = .ok c s') : applyCall s (.task r cur y) = some s' := by
  simp only [applyCall, h]

theorem runCalls_cons {s s' : PctState} {c : Call} (h : applyCall s c = some s') (cs : List Call) :
    runCalls s (c :: cs) = runCalls s' cs := by
  simp only [runCalls, h]

theorem multiSteps_cons {s s' : PctState} {c : Call} (h : applyCall s c = some s') (cs : List Call) :
    multiSteps s (c :: cs) = if c.isMulti then s.steps :: multiSteps s' cs else multiSteps s' cs := by
  simp only [multiSteps, h]

theorem runExecs_append (s : PctState) (es es' : List (List Call)) :
    runExecs s (es ++ es') = (runExecs s es).bind (runExecs · es') := by
  induction es generalizing s with
  | nil => rfl
  | cons e es ih =>
    simp only [List.cons_append, runExecs]
    cases runCalls s (.exec :: e) with
    | none => rfl
    | some s1 => exact ih s1

theorem multiCount_cons (c : Call) (cs : List Call) :
    multiCount (c :: cs) = (if c.isMulti then 1 else 0) + multiCount cs := by
  unfold multiCount
  rw [List.filter_cons]
  cases c.isMulti
  · simp only [Bool.false_eq_true, ↓reduceIte, Nat.zero_add]
  · simp only [↓reduceIte, List.length_cons, Nat.add_comm]

theorem Counted.trans {s s1 s2 : PctState} {j k : Nat} (a : Counted s s1 j) (b : Counted s1 s2 k) :
    Counted s s2 (j + k) :=
  { maxIterations := b.maxIterations.trans a.maxIterations
    maxDepth := b.maxDepth.trans a.maxDepth
    iterations := b.iterations.trans a.iterations
    changePoints := b.changePoints.trans a.changePoints
    steps := by rw [b.steps, a.steps, Nat.add_assoc]
    maxSteps := by rw [b.maxSteps, a.maxSteps, a.steps, Nat.max_assoc, Nat.add_assoc,
      Nat.max_eq_right (Nat.add_le_add_left (Nat.le_add_right j k) _)] }

theorem Counted.steps_le {s s' : PctState} {k : Nat} (a : Counted s s' k) : s'.steps ≤ s'.maxSteps := by
  rw [a.steps, a.maxSteps]; exact Nat.le_max_right _ _

theorem Counted.maxSteps_le {s s' : PctState} {k : Nat} (a : Counted s s' k) : s.maxSteps ≤ s'.maxSteps := by
  rw [a.maxSteps]; exact Nat.le_max_left _ _

theorem applyCall_noExec {s s' : PctState} {c : Call} (hI : Inv s) (hsm : s.steps ≤ s.maxSteps)
    (hc : c.isExec = false) (h : applyCall s c = some s') :
    Inv s' ∧ Counted s s' (if c.isMulti then 1 else 0) := by
  cases c with
  | exec => cases hc
  | u64 =>
    cases h
    exact ⟨inv_nextU64 hI, { maxIterations := rfl, maxDepth := rfl, iterations := rfl, changePoints := rfl,
                             steps := rfl, maxSteps := (Nat.max_eq_left hsm).symm }⟩
  | task r cur y =>
    simp only [applyCall] at h
    split at h
    · next ch s1 hn =>
      cases h
      obtain ⟨_, _, _, sp⟩ := nextTask_spec hI hn
      refine ⟨sp.inv, ?_⟩
      simp only [Call.isMulti, decide_eq_true_eq]
      exact sp.counted hsm
    · cases h

theorem applyCall_exec {s s' : PctState} (h : applyCall s .exec = some s') :
    ∃ seed, newExecution s = .some seed s' := by
  simp only [applyCall] at h
  split at h
  · next seed s1 hn => cases h; exact ⟨seed, hn⟩
  · cases h

/-- The body of an execution: `steps` counts the multi-choice decisions, `max_steps` is the running maximum, the
    successive multi-choice decisions see `steps = c, c+1, c+2, …`. -/
theorem runCalls_noExec {cs : List Call} {s s' : PctState} (hI : Inv s) (hsm : s.steps ≤ s.maxSteps)
    (hne : NoExec cs) (h : runCalls s cs = some s') :
    Inv s' ∧ Counted s s' (multiCount cs) ∧ multiSteps s cs = List.range' s.steps (multiCount cs) := by
  fun_induction runCalls s cs with
  | case1 s => cases h; exact ⟨hI, Counted.refl hsm, rfl⟩
  | case2 => cases h
  | case3 s c cs s1 ha ih =>
    obtain ⟨hI1, a⟩ := applyCall_noExec hI hsm (hne c List.mem_cons_self) ha
    obtain ⟨hI', b, hsteps⟩ := ih hI1 a.steps_le (fun c' hc' => hne c' (List.mem_cons_of_mem _ hc')) h
    refine ⟨hI', multiCount_cons c cs ▸ a.trans b, ?_⟩
    rw [multiSteps_cons ha, hsteps, a.steps, multiCount_cons]
    cases c.isMulti
    · simp only [Bool.false_eq_true, ↓reduceIte, Nat.add_zero, Nat.zero_add]
    · simp only [↓reduceIte, Nat.add_comm 1, List.range'_succ]

/-- Whole executions: `iterations` counts them, `max_steps` is the maximum of the per-execution numbers of
    multi-choice decisions (and of its initial value). -/
theorem runExecs_spec {es : List (List Call)} {s s' : PctState} (hI : Inv s) (hit : s.iterations ≤ s.maxIterations)
    (hne : ∀ e ∈ es, NoExec e) (h : runExecs s es = some s') :
    Inv s' ∧ s'.maxIterations = s.maxIterations ∧ s'.maxDepth = s.maxDepth ∧
    s'.iterations = s.iterations + es.length ∧ s'.iterations ≤ s'.maxIterations ∧
    s'.maxSteps = (es.map multiCount).foldl max s.maxSteps := by
  fun_induction runExecs s es with
  | case1 s => cases h; exact ⟨hI, rfl, rfl, rfl, hit, rfl⟩
  | case2 => cases h
  | case3 s e es s2 hr ih =>
    cases ha : applyCall s .exec with
    | none => simp [runCalls, ha] at hr
    | some s1 =>
      rw [runCalls_cons ha] at hr
      obtain ⟨seed, hex⟩ := applyCall_exec ha
      have sp := newExecution_some hI hex
      obtain ⟨hI2, b, _⟩ := runCalls_noExec (inv_newExecution hI hex) (sp.steps ▸ Nat.zero_le _)
        (hne e List.mem_cons_self) hr
      have hit2 : s2.iterations ≤ s2.maxIterations := by
        rw [b.iterations, b.maxIterations, sp.iterations, sp.maxIterations]; exact sp.lt
      obtain ⟨hI', hmi, hmd, hits, hle, hms⟩ := ih hI2 hit2 (fun e' he' => hne e' (List.mem_cons_of_mem _ he')) h
      refine ⟨hI', ?_, ?_, ?_, hle, ?_⟩
      · rw [hmi, b.maxIterations, sp.maxIterations]
      · rw [hmd, b.maxDepth, sp.maxDepth]
      · rw [hits, b.iterations, sp.iterations, List.length_cons, Nat.add_assoc, Nat.add_comm 1]
      · rw [hms, b.maxSteps, sp.steps, sp.maxSteps, Nat.zero_add]; rfl

end ShuttleProofs.Pct

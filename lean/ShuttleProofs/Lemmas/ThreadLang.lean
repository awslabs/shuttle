import ShuttleModel.Lang
import ShuttleProofs.Lemmas.ThreadFine
/-!
# The pieces of `threadFn`, `IR.scopedBody` and `scopeClose` (Lang.lean) and what `runSegment` does on them
-/

namespace ShuttleProofs.Thread
open ShuttleModel ShuttleProofs.Kernel

/-- `if switch_before_exit && exit_current_truncates_execution() { thread::switch() }` -/
def exitSwitch (sbe : Bool) : P Unit :=
  if sbe then do
    let t ← K.exitTruncates
    if t then K.switch else pure ()
  else pure ()

/-- the tail of `thread_fn`: `if let Some(waiter) = current_mut().take_waiter() { get_mut(waiter).unblock() }` -/
def joinTail {U : Type} : Prog U Unit :=
  .op .takeWaiter (fun w => match w with
    | some t => .op (.unblock t) (fun _ => .pure ())
    | none => .pure ())

variable {σ : Type}

/-- `block(sp)`: the task blocks itself and goes on (in `join`, `scope` and the primitives: to `thread::switch()`) -/
theorem runSegment_block {Pg : Program} (S : Scheduler σ) (me fuel : Nat) (st : ExecState Pg σ) (sp : Bool)
    (kont : Unit → Prog Pg.U Unit) :
    runSegment S me (fuel + 1) st (.op (.block sp) kont) =
      match st.k.modTask me (·.block sp) with
      | .ok k' => runSegment S me fuel { st with k := k' } (kont ())
      | .error e => .panicked e st := rfl

theorem runSegment_switch {Pg : Program} (S : Scheduler σ) (me fuel : Nat) (st : ExecState Pg σ)
    (kont : Unit → Prog Pg.U Unit) :
    runSegment S me (fuel + 1) st (.op .switch kont) = .atSwitch { st with conts := st.conts.set me (kont ()) } :=
  rfl

theorem runSegment_spawn {Pg : Program} (S : Scheduler σ) (me fuel : Nat) (st : ExecState Pg σ) (fut : Bool)
    (body : Nat) (kont : Nat → Prog Pg.U Unit) :
    runSegment S me (fuel + 1) st (.op (.spawn fut body) kont) =
      runSegment S me fuel { st with k := (st.k.spawnTask (some me)).2, conts := st.conts ++ [Pg.bodies body] }
        (kont st.k.tasks.length) := by
  rw [← spawnTask_fst st.k (some me)]
  rfl

theorem getElem?_modify_map {α β : Type} (l : List α) (i j : Nat) (f : α → α) (g : α → β)
    (hg : ∀ a, g (f a) = g a) : ((l.modify i f)[j]?).map g = (l[j]?).map g := by
  rw [List.getElem?_modify]
  cases l[j]? with
  | none => rfl
  | some a => by_cases e : i = j <;> simp [e, hg]

/-! ### `thread::scope`

The pinned tree unblocked the scope's main task *unconditionally* when the last scoped thread exited (thread.rs:99-101;
defect F10: a main task blocked in a `recv` / `Condvar::wait` / `join` inside the scope closure was woken spuriously).
Repaired in /repo 9ec3e7a: `Scope` has a flag `main_task_waiting`, set by `scope()` right before it blocks at its
end, and the last scoped thread unblocks the main task only if that flag is set.  The model follows
(`ScopeState.mainWaiting`); everything below is about the repaired code. -/

/-- what `Scope::spawn`'s wrapper does after the scoped closure (and its pre-exit switch):
`finished.store(true); if num_running_threads.fetch_sub(1) == 1 && main_task_waiting.load() {
get_mut(main_task).unblock() }` -/
def scopeExit (sid : Nat) : P Unit := do
  let h ← K.getU
  let sc := (h.scopes[sid]?).getD {}
  K.setU { h with scopes := h.scopes.modify sid (fun sc => { sc with running := sc.running - 1 }) }
  if sc.running == 1 && sc.mainWaiting then K.unblock sc.mainTask else pure ()

def afterScopeExit (h : Heap) (sid : Nat) : Heap :=
  { h with scopes := h.scopes.modify sid (fun sc => { sc with running := sc.running - 1 }) }

/-- the heap after `scope()` has recorded that its main task is about to block at the end of the scope -/
def withMainWaiting (h : Heap) (sid : Nat) : Heap :=
  { h with scopes := h.scopes.modify sid (fun sc => { sc with mainWaiting := true }) }

/-- a program over the harness heap: `IR.program ir` is one (`rfl`).  The segment lemmas below and in C07Join.lean
are stated over it, so that they hold of any bodies and unwinding code; applied to a state of `ir.program` they
need no arguments for `i`, `b`, `u`. -/
abbrev HeapProgram (i : Heap) (b u : Nat → P Unit) : Program := { U := Heap, init := i, bodies := b, unwind := u }

theorem program_eq (ir : IR) : ir.program = HeapProgram ir.initHeap ir.bodiesA ir.unwind := rfl

/-- **What `scopeExit` does to the kernel.**  It decrements the scope's counter, and it goes on to apply
`unblock()` to the scope's main task **iff** the counter was 1 (last running scoped thread) **and** the scope's
`mainWaiting` flag is set. -/
theorem runSegment_scopeExit {i : Heap} {b u : Nat → P Unit} (S : Scheduler σ) (me fuel : Nat)
    (st : ExecState (HeapProgram i b u) σ) (sid : Nat) (kont : Unit → P Unit) :
    runSegment S me (fuel + 2) st (Prog.bind (scopeExit sid) kont) =
      runSegment S me fuel { st with u := afterScopeExit st.u sid }
        (Prog.bind (if (((st.u.scopes[sid]?).getD {}).running == 1 && ((st.u.scopes[sid]?).getD {}).mainWaiting)
          then K.unblock ((st.u.scopes[sid]?).getD {}).mainTask else pure ()) kont) := rfl

/-- **The end of `thread::scope`**, up to its test of the counter: with scoped threads still running it sets the
scope's `mainWaiting` flag, blocks itself (`block(false)`: not spuriously wakeable) and reaches a scheduling
point, all three in one segment. -/
theorem runSegment_scopeClose {i : Heap} {b u : Nat → P Unit} (S : Scheduler σ) (me fuel : Nat)
    (st : ExecState (HeapProgram i b u) σ) (sid : Nat) (kont : Unit → P Unit) :
    runSegment S me (fuel + 1) st (Prog.bind (scopeClose sid) kont) =
      runSegment S me fuel st (Prog.bind (if ((st.u.scopes[sid]?).getD {}).running != 0 then (do
          K.setU (withMainWaiting st.u sid)
          K.block false
          K.switch : P Unit)
        else pure ()) kont) := rfl

/-- The F10 scenario, over the harness heap and with the real `scopeExit`.  Scope 0 (main task 0, one running
scoped thread) is open; main (task 0) spawns the scoped thread and then blocks with `block(false)` *inside the
scope closure* — standing for a `recv` / `Condvar::wait` / `join` whose wake-up never comes —; the scoped thread,
the last of its scope, runs `scopeExit 0`.  (In the pinned tree `scopeExit` ended with an unconditional
`unblock(main_task)` and this execution ended `ok` with main past its blocking point; with the repaired
`scopeExit` it is a deadlock.) -/
def exF10 : Program :=
  { U := Heap, init := { scopes := [{ running := 1, mainTask := 0 }] },
    bodies := fun i => match i with
      | 0 => do
        let _ ← Prog.lift (.spawn false 1)
        Prog.lift (.block false)
        Prog.lift .switch
        Prog.lift (.emit "main resumed although nothing it waited for happened")
        pure ()
      | _ => scopeExit 0 }

/-- The regular end of a scope, with the real `scopeClose` / `scopeExit`: main spawns the scoped thread, reaches
a scheduling point, closes the scope and goes on.  Depending on the schedule the scoped thread exits after main
has blocked at the end of the scope (flag set: it unblocks main) or before (flag not set: no unblock, main reads
the counter at 0 and does not block). -/
def exScopeEnd : Program :=
  { U := Heap, init := { scopes := [{ running := 1, mainTask := 0 }] },
    bodies := fun i => match i with
      | 0 => do
        let _ ← Prog.lift (.spawn false 1)
        Prog.lift .switch
        scopeClose 0
        Prog.lift (.emit "scope returned")
        pure ()
      | _ => scopeExit 0 }

end ShuttleProofs.Thread

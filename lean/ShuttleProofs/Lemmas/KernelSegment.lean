import ShuttleProofs.Lemmas.KernelSchedule
/-!
# Task segments: `runSegment` request by request, relationally, and what a segment can change

`stepOp S me st o kont` is what one request does to the state (`runSegment_op_eq`); facts about single requests are
proved about `stepOp`.  `SegStep` (a request after which the segment continues), `SegHalt` (a request that ends it) and
`SegTrace` (a whole segment: `runSegment_trace`) abstract this to what the kernel-level properties need.
`SegFrame me st st'` collects the fields no request touches, the monotone quantities and the bookkeeping invariants;
`SegLog extra st st'` says the log grew by non-`dec` events and the recorded schedule by one `.random` per `draw`,
plus `extra`.  `Never bad p` / `UntilSwitch bad p`: the program never issues (resp. not before its next `switch`) a
request satisfying `bad`; since a panic continues with the unwinding program `P.unwind me`, the theorems ask the same
of every `P.unwind i`.
-/

namespace ShuttleProofs.Kernel
open ShuttleModel

theorem forall_mem_set {α : Type _} {Q : α → Prop} {l : List α} (hl : ∀ x ∈ l, Q x) {a : α} (ha : Q a) (i : Nat) :
    ∀ x ∈ l.set i a, Q x :=
  fun x hx => (List.mem_or_eq_of_mem_set hx).elim (hl x) (fun h => h ▸ ha)

/-! ## `SegStep`, `SegHalt`, `SegTrace` -/

def isYield {U : Type} : {β : Type} → KOp U β → Bool
  | _, .requestYield => true
  | _, _ => false

def isReset {U : Type} : {β : Type} → KOp U β → Bool
  | _, .resetSteps => true
  | _, _ => false

def isSwitch {U : Type} : {β : Type} → KOp U β → Bool
  | _, .switch => true
  | _, _ => false

/-- neither `request_yield`, `reset_step_count` nor `switch`.  The constructors of `SegStep` that ask for it leave
`has_yielded`, `steps_reset_at` and the recorded schedule alone (`rand` and `spawn`, which have constructors of their
own, satisfy it too). -/
def Quiet {U : Type} {β : Type} (o : KOp U β) : Prop :=
  isYield o = false ∧ isReset o = false ∧ isSwitch o = false

variable {P : Program} {σ : Type}

def _root_.ShuttleModel.SegEnd.st : SegEnd P σ → ExecState P σ
  | .atSwitch st => st
  | .returned st => st
  | .panicked _ st => st
  | .schedPanic _ st => st
  | .outOfFuel st => st
  | .aborted _ st => st

/-- the kernel after `CurrentSchedule::push_random()` -/
def pushRandom (k : Kernel) : Kernel := { k with schedRev := .random :: k.schedRev }

/-- Sound, not complete (`stepOp_sound`): `nop`, `setU`, `obs`, `tasks` hold of ANY quiet `o`, so which request has
which effect, which task was written and what the program was answered are forgotten; go to `stepOp` for those. -/
inductive SegStep (S : Scheduler σ) (me : Nat) :
    {β : Type} → KOp P.U β → ExecState P σ → ExecState P σ → Prop
  | nop {β : Type} (o : KOp P.U β) (st : ExecState P σ) : Quiet o → SegStep S me o st st
  | setU {β : Type} (o : KOp P.U β) (st : ExecState P σ) (u : P.U) : Quiet o →
      SegStep S me o st { st with u := u }
  | obs {β : Type} (o : KOp P.U β) (st : ExecState P σ) (s : String) : Quiet o →
      SegStep S me o st { st with log := st.log.push (.obs s) }
  /-- any task table of the same length -/
  | tasks {β : Type} (o : KOp P.U β) (st : ExecState P σ) (ts : List Task) : Quiet o →
      ts.length = st.k.tasks.length →
      SegStep S me o st { st with k := { st.k with tasks := ts } }
  | yield (st : ExecState P σ) :
      SegStep S me .requestYield st { st with k := { st.k with hasYielded := true } }
  | reset (st : ExecState P σ) :
      SegStep S me .resetSteps st { st with k := { st.k with stepsResetAt := st.k.schedLen } }
  | rand (st : ExecState P σ) (v : Nat) (s' : σ) : S.nextU64 st.sch = (.ok v, s') →
      SegStep S me .rand st { st with k := pushRandom st.k, sch := s', log := st.log.push (.draw v) }
  | spawn (st : ExecState P σ) (fut : Bool) (body : Nat) :
      SegStep S me (.spawn fut body) st
        { st with k := (st.k.spawnTask (some me)).2, conts := st.conts ++ [P.bodies body] }

/-- as loose as `SegStep`: `panicked` holds of any request with any message -/
inductive SegHalt (S : Scheduler σ) (me : Nat) :
    {β : Type} → KOp P.U β → (β → Prog P.U Unit) → ExecState P σ → SegEnd P σ → Prop
  | switch (kont : Unit → Prog P.U Unit) (st : ExecState P σ) :
      SegHalt S me .switch kont st (.atSwitch { st with conts := st.conts.set me (kont ()) })
  | panicked {β : Type} (o : KOp P.U β) (kont : β → Prog P.U Unit) (st : ExecState P σ) (msg : String) :
      SegHalt S me o kont st (.panicked msg st)
  | randFail (kont : Nat → Prog P.U Unit) (st : ExecState P σ) (e : String) (s' : σ) :
      S.nextU64 st.sch = (.error e, s') →
      SegHalt S me .rand kont st (.schedPanic e { st with k := pushRandom st.k, sch := s' })

/-- An over-approximation like its parts (`runSegment_trace`): `step` goes on with an arbitrary answer `b`, `unwind`
with arbitrary `pk`, `apk`, and `retPanicking` reports any message. -/
inductive SegTrace (S : Scheduler σ) (me : Nat) : ExecState P σ → Prog P.U Unit → SegEnd P σ → Prop
  | fuel (st : ExecState P σ) (p : Prog P.U Unit) :
      SegTrace S me st p (.outOfFuel { st with conts := st.conts.set me p })
  /-- the closure returned (and this task is not the one unwinding) -/
  | ret (st : ExecState P σ) :
      SegTrace S me st (.pure ()) (.returned { st with conts := st.conts.set me (.pure ()) })
  /-- an unwinding task has run all its destructors: its panic reaches `catch_unwind` -/
  | retPanicking (st : ExecState P σ) (msg : String) : SegTrace S me st (.pure ()) (.panicked msg st)
  /-- panic in a destructor during this task's own unwinding -/
  | abort (st : ExecState P σ) (msg : String) : SegTrace S me st (.panic msg) (.aborted msg st)
  /-- a panic starts unwinding: the panic bookkeeping (`panicking`, `alsoPanicking`) is updated and the task
  goes on with its destructors `P.unwind me` -/
  | unwind (st : ExecState P σ) (msg : String) (pk : Option (Nat × String)) (apk : List (Nat × String))
      (e : SegEnd P σ) :
      SegTrace S me { st with k := { st.k with panicking := pk, alsoPanicking := apk } } (P.unwind me) e →
      SegTrace S me st (.panic msg) e
  | halt {β : Type} (o : KOp P.U β) (kont : β → Prog P.U Unit) (st : ExecState P σ) (e : SegEnd P σ) :
      SegHalt S me o kont st e → SegTrace S me st (.op o kont) e
  | step {β : Type} (o : KOp P.U β) (kont : β → Prog P.U Unit) (st st' : ExecState P σ) (b : β)
      (e : SegEnd P σ) :
      SegStep S me o st st' → SegTrace S me st' (kont b) e → SegTrace S me st (.op o kont) e

theorem SegStep.not_switch {S : Scheduler σ} {me : Nat} {β : Type} {o : KOp P.U β} {st st' : ExecState P σ}
    (h : SegStep S me o st st') : isSwitch o = false := by
  cases h with
  | nop _ _ hq | setU _ _ _ hq | obs _ _ _ hq | tasks _ _ _ hq _ => exact hq.2.2
  | _ => rfl

/-! ## `stepOp` and `runSegment_trace` -/

theorem modTask_ok {k k' : Kernel} {t : Nat} {f : Task → Except String Task}
    (h : k.modTask t f = .ok k') :
    ∃ tk tk', k.tasks[t]? = some tk ∧ f tk = .ok tk' ∧ k' = k.setTask t tk' := by
  unfold Kernel.modTask Kernel.getTask? at h
  cases hg : k.tasks[t]? with
  | none => rw [hg] at h; cases h
  | some tk =>
    rw [hg] at h
    simp only at h
    cases hf : f tk with
    | error e => rw [hf] at h; cases h
    | ok tk' =>
      rw [hf] at h
      simp only [Except.ok.injEq] at h
      exact ⟨tk, tk', rfl, hf, h.symm⟩

theorem setTask_eq (k : Kernel) (t : Nat) (tk : Task) :
    k.setTask t tk = { k with tasks := k.tasks.set t tk } := rfl

theorem spawnTask_some_spec (k : Kernel) (me : Nat) :
    ∃ ts, (k.spawnTask (some me)).2 = { k with tasks := ts } ∧ k.tasks.length ≤ ts.length ∧
      (me < k.tasks.length → ts.length = k.tasks.length + 1) := by
  simp only [Kernel.spawnTask, Kernel.getTask?]
  cases h : k.tasks[me]? with
  | none =>
    refine ⟨k.tasks, rfl, Nat.le_refl _, ?_⟩
    intro hlt
    rw [List.getElem?_eq_none_iff] at h
    omega
  | some ptk =>
    refine ⟨_, rfl, ?_, ?_⟩ <;> simp [Kernel.setTask]

/-- What one request does: the segment goes on from `st'` with answer `b`, or ends with `e`. -/
inductive OpRes (P : Program) (σ : Type) (β : Type) where
  | next (st' : ExecState P σ) (b : β)
  | stop (e : SegEnd P σ)

def OpRes.run {β : Type} (r : OpRes P σ β) (c : ExecState P σ → β → SegEnd P σ) : SegEnd P σ :=
  match r with
  | .next st' b => c st' b
  | .stop e => e

/-- a request that reads and updates one task; `missing` is the panic message for an unknown id -/
def taskOp {β : Type} (st : ExecState P σ) (t : Nat) (missing : String) (f : Task → Except String (β × Task)) :
    OpRes P σ β :=
  match st.k.tasks[t]? with
  | none => .stop (.panicked missing st)
  | some tk =>
    match f tk with
    | .ok (b, tk') => .next { st with k := st.k.setTask t tk' } b
    | .error e => .stop (.panicked e st)

/-- a request that goes through `modTask`, whose `unwrap` of an unknown id panics with the default `missing` -/
def modOp (st : ExecState P σ) (t : Nat) (f : Task → Except String Task)
    (missing : String := "called `Option::unwrap()` on a `None` value (unknown task id)") : OpRes P σ Unit :=
  taskOp st t missing (fun tk => (f tk).map (Prod.mk ()))

/-- `raw_waker_wake` returns at once when the execution is over or the task has finished -/
def wakeSkips (k : Kernel) (t : Nat) : Bool :=
  k.current == .stopped || k.current == .finished || (k.getTask? t).any (·.finished)

/-- The `.op` case of `runSegment` without the recursive call: what each request reads and writes.  Every result is
written in one of four forms: a literal `.next`/`.stop`, a `taskOp`, `wake`'s choice between these two, `rand`'s
`match` on the scheduler's answer.  A proof about `stepOp` groups the requests by form and has one step per group. -/
def stepOp (S : Scheduler σ) (me : Nat) (st : ExecState P σ) :
    {β : Type} → KOp P.U β → (β → Prog P.U Unit) → OpRes P σ β
  | _, .switch, kont => .stop (.atSwitch { st with conts := st.conts.set me (kont ()) })
  | _, .me, _ => .next st me
  | _, .getU, _ => .next st st.u
  | _, .setU u, _ => .next { st with u := u } ()
  | _, .emit s, _ => .next { st with log := st.log.push (.obs s) } ()
  | _, .block sp, _ => modOp st me (·.block sp)
  | _, .blockTask t, _ => modOp st t (·.block false)
  | _, .sleepUnlessWoken, _ => modOp st me (·.sleepUnlessWoken)
  | _, .unblock t, _ => modOp st t (·.unblock)
  | _, .wake t, _ =>
    if wakeSkips st.k t then .next st ()
    else modOp st t (·.wake) "called `Option::unwrap()` on a `None` value (wake: unknown task id)"
  | _, .isFinished t, _ => .next st (match st.k.getTask? t with | some tk => tk.finished | none => false)
  | _, .requestYield, _ => .next { st with k := { st.k with hasYielded := true } } ()
  | _, .rand, _ =>
    match S.nextU64 st.sch with
    | (.ok v, s') => .next { st with k := pushRandom st.k, sch := s', log := st.log.push (.draw v) } v
    | (.error e, s') => .stop (.schedPanic e { st with k := pushRandom st.k, sch := s' })
  | _, .spawn _ body, _ =>
    .next { st with k := (st.k.spawnTask (some me)).2, conts := st.conts ++ [P.bodies body] }
      (st.k.spawnTask (some me)).1
  | _, .park, _ => taskOp st me "no current task" Task.park
  | _, .unpark t, _ => modOp st t (·.unpark)
  | _, .setWaiter target, _ =>
    taskOp st target "called `Option::unwrap()` on a `None` value (set_waiter)" (·.setWaiter me)
  | _, .takeWaiter, _ => taskOp st me "no current task" (fun tk => .ok (tk.waiter, { tk with waiter := none }))
  | _, .detach t, _ => modOp st t (fun tk => .ok { tk with detached := true })
  | _, .clock, _ => .next st (match st.k.getTask? me with | some tk => tk.clock | none => Clock.new)
  | _, .clockOf t, _ => .next st (match st.k.getTask? t with | some tk => tk.clock | none => Clock.new)
  | _, .updateClock c, _ => modOp st me (fun tk => .ok { tk with clock := (tk.clock.increment me).update c })
  | _, .incClock, _ =>
    taskOp st me "no current task" (fun tk => .ok (tk.clock.increment me, { tk with clock := tk.clock.increment me }))
  | _, .joinClockOf t c, _ => modOp st t (fun tk => .ok { tk with clock := tk.clock.update c })
  | _, .exitTruncates, _ => .next st (st.k.exitTruncates me)
  | _, .resetSteps, _ => .next { st with k := { st.k with stepsResetAt := st.k.schedLen } } ()
  | _, .ctxSwitches, _ => .next st st.k.ctxSwitches
  | _, .isPanicking, _ => .next st st.k.panicking.isSome

theorem run_modOp (st : ExecState P σ) (t : Nat) (f : Task → Except String Task)
    (c : ExecState P σ → Unit → SegEnd P σ) :
    (modOp st t f).run c =
      match st.k.modTask t f with
      | .ok k' => c { st with k := k' } ()
      | .error e => .panicked e st := by
  unfold modOp taskOp Kernel.modTask Kernel.getTask?
  cases st.k.tasks[t]? with
  | none => rfl
  | some tk => simp only; cases f tk <;> rfl

theorem runSegment_zero (S : Scheduler σ) (me : Nat) (st : ExecState P σ) (p : Prog P.U Unit) :
    runSegment S me 0 st p = .outOfFuel { st with conts := st.conts.set me p } := by
  -- by `rw`, so that Lean generates the equation lemmas of `runSegment` in this module, once for all that import it
  rw [runSegment]

theorem runSegment_pure (S : Scheduler σ) (me fuel : Nat) (st : ExecState P σ) :
    runSegment S me (fuel + 1) st (.pure ()) =
      match st.k.panicking with
      | some (t, msg) =>
        if t == me then .panicked msg st
        else match st.k.alsoPanicking.find? (·.1 == me) with
          | some (_, msg') => .panicked msg' st
          | none => .returned { st with conts := st.conts.set me (.pure ()) }
      | none => .returned { st with conts := st.conts.set me (.pure ()) } := rfl

theorem runSegment_panic (S : Scheduler σ) (me fuel : Nat) (st : ExecState P σ) (msg : String) :
    runSegment S me (fuel + 1) st (.panic msg) =
      match st.k.panicking with
      | some (t, _) =>
        if t == me || st.k.alsoPanicking.any (·.1 == me) then .aborted msg st
        else runSegment S me fuel
          { st with k := { st.k with alsoPanicking := st.k.alsoPanicking ++ [(me, msg)] } } (P.unwind me)
      | none => runSegment S me fuel { st with k := { st.k with panicking := some (me, msg) } } (P.unwind me) :=
  rfl

/-- The only place where the cases of `runSegment` are matched against those of `stepOp`: all but the requests
with a `match` inside hold by unfolding. -/
theorem runSegment_op_eq (S : Scheduler σ) (me fuel : Nat) (st : ExecState P σ) {β : Type} (o : KOp P.U β)
    (kont : β → Prog P.U Unit) :
    runSegment S me (fuel + 1) st (.op o kont) =
      (stepOp S me st o kont).run (fun st' b => runSegment S me fuel st' (kont b)) := by
  symm
  cases o with
  | switch | me | getU | setU | emit | isFinished | requestYield | spawn | clock | clockOf | exitTruncates
  | resetSteps | ctxSwitches | isPanicking => rfl
  | block | blockTask | sleepUnlessWoken | unblock | unpark | detach | updateClock | joinClockOf =>
    exact run_modOp st _ _ _
  | wake t =>
    show OpRes.run (if wakeSkips st.k t then _ else _) _ =
      if st.k.current == Cur.stopped || st.k.current == Cur.finished then _ else
        match st.k.tasks[t]? with | none => _ | some tk => _
    unfold wakeSkips modOp taskOp Kernel.getTask?
    cases st.k.current == Cur.stopped || st.k.current == Cur.finished with
    | true => rfl
    | false =>
      cases hk : st.k.tasks[t]? with
      | none => rfl
      | some tk =>
        show OpRes.run (if tk.finished = true then _ else _) _ = if tk.finished = true then _ else _
        split
        · rfl
        · simp only [Kernel.modTask, Kernel.getTask?, hk]
          cases tk.wake <;> rfl
  | rand =>
    show OpRes.run (match S.nextU64 st.sch with | (.ok v, s') => _ | (.error e, s') => _) _ =
      match S.nextU64 st.sch with | (.ok v, s') => _ | (.error e, s') => _
    rcases S.nextU64 st.sch with ⟨r, s'⟩
    cases r <;> rfl
  | park =>
    show OpRes.run (taskOp ..) _ =
      match st.k.tasks[me]? with
      | none => _
      | some tk => match tk.park with | .ok (b, tk') => _ | .error e => _
    unfold taskOp
    cases st.k.tasks[me]? with
    | none => rfl
    | some tk => simp only; cases tk.park <;> rfl
  | setWaiter t =>
    show OpRes.run (taskOp ..) _ =
      match st.k.tasks[t]? with
      | none => _
      | some tk => match tk.setWaiter me with | .ok (b, tk') => _ | .error e => _
    unfold taskOp
    cases st.k.tasks[t]? with
    | none => rfl
    | some tk => simp only; cases tk.setWaiter me <;> rfl
  | takeWaiter | incClock =>
    show _ = match st.k.getTask? me with | none => _ | some tk => runSegment S me fuel _ (kont _)
    unfold stepOp taskOp Kernel.getTask?
    cases st.k.tasks[me]? <;> rfl

-- From here on `taskOp` is used through `unfold` and its lemmas only.  Sealed, `stepOp … =?= taskOp st ?t ?m ?f` is
-- solved argument by argument; unfolding both sides loses `?f` wherever `f tk` reduces to a constructor.
attribute [irreducible] taskOp

/-- what `SegStep`/`SegHalt` say of the result of one request -/
def OpRes.Sound (S : Scheduler σ) (me : Nat) (st : ExecState P σ) {β : Type} (o : KOp P.U β)
    (kont : β → Prog P.U Unit) : OpRes P σ β → Prop
  | .next st' _ => SegStep S me o st st'
  | .stop e => SegHalt S me o kont st e

theorem taskOp_sound (S : Scheduler σ) (me : Nat) (st : ExecState P σ) {β : Type} (o : KOp P.U β) (hq : Quiet o)
    (kont : β → Prog P.U Unit) (t : Nat) (missing : String) (f : Task → Except String (β × Task)) :
    (taskOp st t missing f).Sound S me st o kont := by
  unfold taskOp
  cases st.k.tasks[t]? with
  | none => exact SegHalt.panicked o kont st _
  | some tk =>
    simp only
    cases f tk with
    | error e => exact SegHalt.panicked o kont st e
    | ok x => exact SegStep.tasks o st (st.k.tasks.set t x.2) hq (List.length_set ..)

theorem stepOp_sound (S : Scheduler σ) (me : Nat) (st : ExecState P σ) {β : Type} (o : KOp P.U β)
    (kont : β → Prog P.U Unit) : (stepOp S me st o kont).Sound S me st o kont := by
  cases o with
  | switch => exact SegHalt.switch kont st
  | me | getU | isFinished | clock | clockOf | exitTruncates | ctxSwitches | isPanicking =>
    exact SegStep.nop _ st (by exact ⟨rfl, rfl, rfl⟩)
  | setU u => exact SegStep.setU _ st u ⟨rfl, rfl, rfl⟩
  | emit s => exact SegStep.obs _ st s ⟨rfl, rfl, rfl⟩
  | block | blockTask | sleepUnlessWoken | unblock | park | unpark | setWaiter | takeWaiter | detach
  | updateClock | incClock | joinClockOf =>
    refine taskOp_sound S me st _ ?_ kont _ _ _
    exact ⟨rfl, rfl, rfl⟩
  | wake t =>
    show OpRes.Sound S me st _ kont (if _ then _ else _)
    split
    · exact SegStep.nop _ st ⟨rfl, rfl, rfl⟩
    · exact taskOp_sound S me st _ ⟨rfl, rfl, rfl⟩ kont _ _ _
  | requestYield => exact SegStep.yield st
  | rand =>
    show OpRes.Sound S me st _ kont (match S.nextU64 st.sch with | (.ok v, s') => _ | (.error e, s') => _)
    rcases h : S.nextU64 st.sch with ⟨r, s'⟩
    cases r with
    | ok v => exact SegStep.rand st v s' h
    | error e => exact SegHalt.randFail kont st e s' h
  | spawn fut body => exact SegStep.spawn st fut body
  | resetSteps => exact SegStep.reset st

theorem runSegment_trace (S : Scheduler σ) (me : Nat) :
    ∀ (fuel : Nat) (st : ExecState P σ) (p : Prog P.U Unit), SegTrace S me st p (runSegment S me fuel st p)
  | 0, st, p => by rw [runSegment_zero]; exact SegTrace.fuel st p
  | fuel + 1, st, .pure () => by
    rw [runSegment_pure]
    split
    · split
      · exact SegTrace.retPanicking st _
      · split
        · exact SegTrace.retPanicking st _
        · exact SegTrace.ret st
    · exact SegTrace.ret st
  | fuel + 1, st, .panic msg => by
    rw [runSegment_panic]
    split
    · split
      · exact SegTrace.abort st msg
      · exact SegTrace.unwind st msg st.k.panicking _ _ (runSegment_trace S me fuel _ (P.unwind me))
    · exact SegTrace.unwind st msg _ st.k.alsoPanicking _ (runSegment_trace S me fuel _ (P.unwind me))
  | fuel + 1, st, .op o kont => by
    have hs := stepOp_sound S me st o kont
    rw [runSegment_op_eq]
    cases hr : stepOp S me st o kont with
    | next st' b => rw [hr] at hs; exact SegTrace.step o kont st st' b _ hs (runSegment_trace S me fuel st' (kont b))
    | stop e => rw [hr] at hs; exact SegTrace.halt o kont st e hs

/-! ## `SegFrame` -/

/-- `conts` and `reset` are invariants a segment keeps, hence implications; `conts` needs `me < tasks.length` because
a `spawn` by an unknown parent appends a continuation but no task (`Kernel.spawnTask`). -/
structure SegFrame (me : Nat) (st st' : ExecState P σ) : Prop where
  current : st'.k.current = st.k.current
  next : st'.k.next = st.k.next
  maxSteps : st'.k.maxSteps = st.k.maxSteps
  seed : st'.k.seed = st.k.seed
  ctxSwitches : st'.k.ctxSwitches = st.k.ctxSwitches
  tasksLen : st.k.tasks.length ≤ st'.k.tasks.length
  conts : me < st.k.tasks.length → st.conts.length = st.k.tasks.length →
    st'.conts.length = st'.k.tasks.length
  schedLen : st.k.schedLen ≤ st'.k.schedLen
  reset : st.k.stepsResetAt ≤ st.k.schedLen → st'.k.stepsResetAt ≤ st'.k.schedLen
  yieldMono : st.k.hasYielded = true → st'.k.hasYielded = true

theorem SegFrame.refl (me : Nat) (st : ExecState P σ) : SegFrame me st st :=
  ⟨rfl, rfl, rfl, rfl, rfl, Nat.le_refl _, fun _ h => h, Nat.le_refl _, fun h => h, fun h => h⟩

theorem SegFrame.trans {me : Nat} {a b c : ExecState P σ} (h1 : SegFrame me a b) (h2 : SegFrame me b c) :
    SegFrame me a c where
  current := h2.current.trans h1.current
  next := h2.next.trans h1.next
  maxSteps := h2.maxSteps.trans h1.maxSteps
  seed := h2.seed.trans h1.seed
  ctxSwitches := h2.ctxSwitches.trans h1.ctxSwitches
  tasksLen := Nat.le_trans h1.tasksLen h2.tasksLen
  conts := fun hme hc => h2.conts (Nat.lt_of_lt_of_le hme h1.tasksLen) (h1.conts hme hc)
  schedLen := Nat.le_trans h1.schedLen h2.schedLen
  reset := fun h => h2.reset (h1.reset h)
  yieldMono := fun h => h2.yieldMono (h1.yieldMono h)

theorem SegFrame.setConts (me : Nat) (st : ExecState P σ) (i : Nat) (p : Prog P.U Unit) :
    SegFrame me st { st with conts := st.conts.set i p } :=
  ⟨rfl, rfl, rfl, rfl, rfl, Nat.le_refl _, fun _ h => by simpa using h, Nat.le_refl _, fun h => h, fun h => h⟩

theorem SegFrame.setTasks (me : Nat) (st : ExecState P σ) (ts : List Task) (hl : ts.length = st.k.tasks.length) :
    SegFrame me st { st with k := { st.k with tasks := ts } } :=
  ⟨rfl, rfl, rfl, rfl, rfl, Nat.le_of_eq hl.symm, fun _ h => by simpa [hl] using h, Nat.le_refl _,
    fun h => h, fun h => h⟩

theorem SegFrame.pushRandom (me : Nat) (st : ExecState P σ) (s' : σ) (log : Array Ev) :
    SegFrame me st { st with k := pushRandom st.k, sch := s', log := log } := by
  refine ⟨rfl, rfl, rfl, rfl, rfl, Nat.le_refl _, fun _ h => h, ?_, ?_, fun h => h⟩
  · simp [Kernel.pushRandom, Kernel.schedLen]
  · intro h
    simp only [Kernel.pushRandom, Kernel.schedLen, List.length_cons] at h ⊢
    omega

theorem SegStep.frame {S : Scheduler σ} {me : Nat} {β : Type} {o : KOp P.U β} {st st' : ExecState P σ}
    (h : SegStep S me o st st') : SegFrame me st st' := by
  cases h with
  | nop _ _ _ | setU _ _ _ _ | obs _ _ _ _ =>
    exact ⟨rfl, rfl, rfl, rfl, rfl, Nat.le_refl _, fun _ h => h, Nat.le_refl _, fun h => h, fun h => h⟩
  | tasks _ _ ts _ hl => exact SegFrame.setTasks me st ts hl
  | yield _ =>
    exact ⟨rfl, rfl, rfl, rfl, rfl, Nat.le_refl _, fun _ h => h, Nat.le_refl _, fun h => h, fun _ => rfl⟩
  | reset _ =>
    exact ⟨rfl, rfl, rfl, rfl, rfl, Nat.le_refl _, fun _ h => h, Nat.le_refl _,
      fun _ => Nat.le_refl _, fun h => h⟩
  | rand _ v s' _ => exact SegFrame.pushRandom me st s' _
  | spawn _ fut body =>
    obtain ⟨ts, heq, hle, hlt⟩ := spawnTask_some_spec st.k me
    rw [heq]
    exact ⟨rfl, rfl, rfl, rfl, rfl, hle, fun hme hc => by simp [hc, hlt hme], Nat.le_refl _, fun h => h, fun h => h⟩

theorem SegHalt.frame {S : Scheduler σ} {me : Nat} {β : Type} {o : KOp P.U β} {kont : β → Prog P.U Unit}
    {st : ExecState P σ} {e : SegEnd P σ} (h : SegHalt S me o kont st e) : SegFrame me st e.st := by
  cases h with
  | switch _ _ => exact SegFrame.setConts me st me _
  | panicked _ _ _ msg => exact SegFrame.refl me st
  | randFail _ _ err s' _ => exact SegFrame.pushRandom me st s' st.log

theorem SegTrace.frame {S : Scheduler σ} {me : Nat} {st : ExecState P σ} {p : Prog P.U Unit}
    {e : SegEnd P σ} (h : SegTrace S me st p e) : SegFrame me st e.st := by
  induction h with
  | fuel st p => exact SegFrame.setConts me st me p
  | ret st => exact SegFrame.setConts me st me _
  | retPanicking st msg => exact SegFrame.refl me st
  | abort st msg => exact SegFrame.refl me st
  | unwind st msg pk apk e _ ih =>
    have h0 : SegFrame me st { st with k := { st.k with panicking := pk, alsoPanicking := apk } } :=
      ⟨rfl, rfl, rfl, rfl, rfl, Nat.le_refl _, fun _ h => h, Nat.le_refl _, fun h => h, fun h => h⟩
    exact h0.trans ih
  | halt o kont st e hh => exact hh.frame
  | step o kont st st' b e hs _ ih => exact hs.frame.trans ih

/-! ## `SegLog` -/

def isDec : Ev → Bool
  | .dec _ _ _ _ => true
  | _ => false

/-- the schedule steps an event stands for -/
def evSteps : Ev → List SStep
  | .dec _ _ _ (some t) => [.task t]
  | .draw _ => [.random]
  | _ => []

/-- projection of a log onto schedule steps -/
def logSteps (l : List Ev) : List SStep := l.flatMap evSteps

theorem logSteps_append (l l' : List Ev) : logSteps (l ++ l') = logSteps l ++ logSteps l' := by
  unfold logSteps; exact List.flatMap_append

theorem logSteps_nil : logSteps [] = [] := rfl

def SegLog (extra : List SStep) (st st' : ExecState P σ) : Prop :=
  ∃ evs : List Ev, st'.log.toList = st.log.toList ++ evs ∧ (∀ ev ∈ evs, isDec ev = false) ∧
    st'.k.schedRev = extra ++ (logSteps evs).reverse ++ st.k.schedRev

theorem SegLog.of_eq {st st' : ExecState P σ} (h1 : st'.log = st.log) (h2 : st'.k.schedRev = st.k.schedRev) :
    SegLog [] st st' :=
  ⟨[], by simp [h1], by simp, by simp [logSteps, h2]⟩

theorem SegLog.trans {x : List SStep} {a b c : ExecState P σ} (h1 : SegLog [] a b) (h2 : SegLog x b c) :
    SegLog x a c := by
  obtain ⟨e1, hl1, hd1, hs1⟩ := h1
  obtain ⟨e2, hl2, hd2, hs2⟩ := h2
  refine ⟨e1 ++ e2, ?_, ?_, ?_⟩
  · rw [hl2, hl1, List.append_assoc]
  · intro ev hev
    rcases List.mem_append.mp hev with h | h
    · exact hd1 ev h
    · exact hd2 ev h
  · rw [hs2, hs1, logSteps_append, List.reverse_append]
    simp only [List.nil_append, List.append_assoc]

/-- "the recorded schedule is the projection of the log" is kept, up to the unmatched steps `x` -/
theorem SegLog.record {x : List SStep} {st st' : ExecState P σ} (h : SegLog x st st')
    (hrec : st.k.schedRev.reverse = logSteps st.log.toList) :
    st'.k.schedRev.reverse = logSteps st'.log.toList ++ x.reverse := by
  obtain ⟨evs, hl, _, hs⟩ := h
  rw [hs, hl, logSteps_append, ← hrec]
  simp

theorem SegLog.push {st st' : ExecState P σ} (ev : Ev) (hd : isDec ev = false) (h1 : st'.log = st.log.push ev)
    (h2 : st'.k.schedRev = (evSteps ev).reverse ++ st.k.schedRev) : SegLog [] st st' :=
  ⟨[ev], by simp [h1], fun _ he => List.mem_singleton.mp he ▸ hd, by simp [logSteps, h2]⟩

theorem SegStep.segLog {S : Scheduler σ} {me : Nat} {β : Type} {o : KOp P.U β} {st st' : ExecState P σ}
    (h : SegStep S me o st st') : SegLog [] st st' := by
  cases h with
  | obs _ _ s _ => exact SegLog.push (.obs s) rfl rfl rfl
  | rand _ v s' _ => exact SegLog.push (.draw v) rfl rfl rfl
  | spawn _ fut body =>
    obtain ⟨ts, heq, _, _⟩ := spawnTask_some_spec st.k me
    exact SegLog.of_eq rfl (by simp only [heq])
  | _ => exact SegLog.of_eq rfl rfl

/-- `next_u64` pushes its `.random` step (`push_random()`) before it calls the scheduler: a segment that ends because
`Scheduler::next_u64` panicked has recorded one step that no `draw` event stands for -/
def _root_.ShuttleModel.SegEnd.extra : SegEnd P σ → List SStep
  | .schedPanic _ _ => [.random]
  | _ => []

theorem SegTrace.segLog {S : Scheduler σ} {me : Nat} {st : ExecState P σ} {p : Prog P.U Unit}
    {e : SegEnd P σ} (h : SegTrace S me st p e) : SegLog e.extra st e.st := by
  induction h with
  | unwind st msg pk apk e _ ih => exact (SegLog.of_eq rfl rfl : SegLog [] st _).trans ih
  | halt o kont st e hh =>
    cases hh with
    | randFail _ _ err s' _ =>
      exact ⟨[], by simp [SegEnd.st], by simp, by simp [SegEnd.st, SegEnd.extra, logSteps, pushRandom]⟩
    | _ => exact SegLog.of_eq rfl rfl
  | step o kont st st' b e hs _ ih => exact hs.segLog.trans ih
  | _ => exact SegLog.of_eq rfl rfl

/-- `segLog` with `e.extra` spelled out -/
theorem SegTrace.log {S : Scheduler σ} {me : Nat} {st : ExecState P σ} {p : Prog P.U Unit}
    {e : SegEnd P σ} (h : SegTrace S me st p e) :
    SegLog [] st e.st ∨ (∃ msg st', e = .schedPanic msg st' ∧ SegLog [.random] st st') := by
  have := h.segLog
  cases e with
  | schedPanic msg st' => exact Or.inr ⟨msg, st', rfl, this⟩
  | _ => exact Or.inl this

/-! ## `Never` / `UntilSwitch` -/

/-- `p` never issues a request satisfying `bad` (on any path, in any continuation) -/
inductive Never (bad : {β : Type} → KOp P.U β → Bool) : Prog P.U Unit → Prop
  | pure : Never bad (.pure ())
  | panic (msg : String) : Never bad (.panic msg)
  | op {β : Type} (o : KOp P.U β) (kont : β → Prog P.U Unit) :
      bad o = false → (∀ b, Never bad (kont b)) → Never bad (.op o kont)

/-- `p` issues no request satisfying `bad` before its next `switch` -/
inductive UntilSwitch (bad : {β : Type} → KOp P.U β → Bool) : Prog P.U Unit → Prop
  | pure : UntilSwitch bad (.pure ())
  | panic (msg : String) : UntilSwitch bad (.panic msg)
  | switch (kont : Unit → Prog P.U Unit) : UntilSwitch bad (.op .switch kont)
  | op {β : Type} (o : KOp P.U β) (kont : β → Prog P.U Unit) :
      bad o = false → (∀ b, UntilSwitch bad (kont b)) → UntilSwitch bad (.op o kont)

theorem Never.untilSwitch {bad : {β : Type} → KOp P.U β → Bool} {p : Prog P.U Unit} (h : Never bad p) :
    UntilSwitch bad p := by
  induction h with
  | pure => exact .pure
  | panic msg => exact .panic msg
  | op o kont hb _ ih => exact .op o kont hb ih

/-- **Only the requests marked `bad` move the kernel field `f`**: if every other request, the panic bookkeeping and
`push_random` leave `f` alone, a segment that issues no `bad` request before its next `switch` (nor while unwinding)
ends with `f` as it found it. -/
theorem SegTrace.field_eq {S : Scheduler σ} {me : Nat} {α : Type} (f : Kernel → α)
    (bad : {β : Type} → KOp P.U β → Bool)
    (hstep : ∀ {β : Type} {o : KOp P.U β} {st st' : ExecState P σ}, SegStep S me o st st' → bad o = false →
      f st'.k = f st.k)
    (hpanic : ∀ (k : Kernel) pk apk, f { k with panicking := pk, alsoPanicking := apk } = f k)
    (hrand : ∀ k : Kernel, f (pushRandom k) = f k)
    {st : ExecState P σ} {p : Prog P.U Unit} {e : SegEnd P σ} (h : SegTrace S me st p e)
    (hp : UntilSwitch (P := P) bad p) (hu : ∀ i, UntilSwitch (P := P) bad (P.unwind i)) :
    f e.st.k = f st.k := by
  induction h with
  | unwind st msg pk apk e _ ih => exact (ih (hu me)).trans (hpanic st.k pk apk)
  | halt o kont st e hh =>
    cases hh with
    | randFail _ _ _ _ _ => exact hrand st.k
    | _ => rfl
  | step o kont st st' b e hs _ ih =>
    cases hp with
    | switch _ => exact absurd hs.not_switch nofun
    | op _ _ hb hk => exact (ih (hk b)).trans (hstep hs hb)
  | _ => rfl

theorem SegStep.hasYielded_eq {S : Scheduler σ} {me : Nat} {β : Type} {o : KOp P.U β}
    {st st' : ExecState P σ} (h : SegStep S me o st st') (hy : isYield o = false) :
    st'.k.hasYielded = st.k.hasYielded := by
  cases h with
  | yield _ => cases hy
  | spawn _ fut body =>
    obtain ⟨ts, heq, _, _⟩ := spawnTask_some_spec st.k me
    simp only [heq]
  | _ => rfl

theorem SegStep.stepsResetAt_eq {S : Scheduler σ} {me : Nat} {β : Type} {o : KOp P.U β}
    {st st' : ExecState P σ} (h : SegStep S me o st st') (hy : isReset o = false) :
    st'.k.stepsResetAt = st.k.stepsResetAt := by
  cases h with
  | reset _ => cases hy
  | spawn _ fut body =>
    obtain ⟨ts, heq, _, _⟩ := spawnTask_some_spec st.k me
    simp only [heq]
  | _ => rfl

/-- **Only `request_yield` sets `has_yielded`.** -/
theorem SegTrace.hasYielded_eq {S : Scheduler σ} {me : Nat} {st : ExecState P σ} {p : Prog P.U Unit}
    {e : SegEnd P σ} (h : SegTrace S me st p e) (hp : UntilSwitch (P := P) isYield p)
    (hu : ∀ i, UntilSwitch (P := P) isYield (P.unwind i)) :
    e.st.k.hasYielded = st.k.hasYielded :=
  h.field_eq (·.hasYielded) isYield SegStep.hasYielded_eq (fun _ _ _ => rfl) (fun _ => rfl) hp hu

/-- **Only `reset_step_count` moves `steps_reset_at`.** -/
theorem SegTrace.stepsResetAt_eq {S : Scheduler σ} {me : Nat} {st : ExecState P σ} {p : Prog P.U Unit}
    {e : SegEnd P σ} (h : SegTrace S me st p e) (hp : UntilSwitch (P := P) isReset p)
    (hu : ∀ i, UntilSwitch (P := P) isReset (P.unwind i)) :
    e.st.k.stepsResetAt = st.k.stepsResetAt :=
  h.field_eq (·.stepsResetAt) isReset SegStep.stepsResetAt_eq (fun _ _ _ => rfl) (fun _ => rfl) hp hu

theorem SegStep.conts_eq {S : Scheduler σ} {me : Nat} {β : Type} {o : KOp P.U β}
    {st st' : ExecState P σ} (h : SegStep S me o st st') :
    st'.conts = st.conts ∨ ∃ body, st'.conts = st.conts ++ [P.bodies body] := by
  cases h with
  | spawn _ fut body => exact Or.inr ⟨body, rfl⟩
  | _ => exact Or.inl rfl

theorem SegTrace.never_conts {S : Scheduler σ} {me : Nat} {st : ExecState P σ} {p : Prog P.U Unit}
    {e : SegEnd P σ} (bad : {β : Type} → KOp P.U β → Bool) (h : SegTrace S me st p e)
    (hp : Never (P := P) bad p) (hb : ∀ i, Never (P := P) bad (P.bodies i))
    (hu : ∀ i, Never (P := P) bad (P.unwind i))
    (hc : ∀ q ∈ st.conts, Never (P := P) bad q) : ∀ q ∈ e.st.conts, Never (P := P) bad q := by
  induction h with
  | fuel st p => exact forall_mem_set hc hp me
  | ret st => exact forall_mem_set hc Never.pure me
  | unwind st msg pk apk e _ ih => exact ih (hu me) hc
  | halt o kont st e hh =>
    cases hh with
    | switch _ _ =>
      cases hp with
      | op _ _ _ hk => exact forall_mem_set hc (hk ()) me
    | _ => exact hc
  | step o kont st st' b e hs _ ih =>
    cases hp with
    | op _ _ _ hk =>
      apply ih (hk b)
      rcases hs.conts_eq with h | ⟨body, h⟩
      · rw [h]; exact hc
      · rw [h]
        intro q hq
        rcases List.mem_append.mp hq with h' | h'
        · exact hc q h'
        · rw [List.mem_singleton.mp h']; exact hb body
  | _ => exact hc

end ShuttleProofs.Kernel

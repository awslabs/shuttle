import ShuttleProofs.Lemmas.ReplaySeed
import ShuttleModel.Sched.NondetCheck
/-!
# Replay lemmas: the uncontrolled-nondeterminism checker

* recording mode: the wrapped scheduler follows the inner scheduler state for state, and its `previous_schedule`
  is the projection `recsOf` of the event log written so far (`recording_follows`);
* checking mode: the wrapped scheduler follows any log whose projection is its `previous_schedule`
  (`checking_follows`): none of its "possible nondeterminism" panics fires.
-/

namespace ShuttleProofs.Replay
open ShuttleModel ShuttleModel.NondetCheck ShuttleProofs.Kernel

variable {σ : Type}

/-- the `ScheduleRecord` the checker stores for an event -/
def recOf : Ev → List Record
  | .dec off _ y ch => [.task ch off y]
  | .draw v => [.random v]
  | .obs _ => []

def recsOf (l : List Ev) : List Record := l.flatMap recOf

theorem recsOf_append (l l' : List Ev) : recsOf (l ++ l') = recsOf l ++ recsOf l' := by
  unfold recsOf; exact List.flatMap_append

theorem nextTask_recording (F : FullScheduler σ) {ns : NondetState σ} (h : ns.recording = true)
    (views : List TaskView) (cur : Option Nat) (y : Bool) :
    nextTask F ns views cur y =
      match F.sched.nextTask ns.scheduler views cur y with
      | (.choose ch, inner) =>
        (.choose ch, { ns with scheduler := inner,
                               previousSchedule := ns.previousSchedule ++ [.task ch (views.map (·.id)) y] })
      | (.panic msg, inner) => (.panic msg, { ns with scheduler := inner }) := by
  unfold nextTask
  rw [h]
  rfl

theorem nextU64_recording (F : FullScheduler σ) {ns : NondetState σ} (h : ns.recording = true) :
    nextU64 F ns =
      match F.sched.nextU64 ns.scheduler with
      | (.ok v, inner) =>
        (.ok v, { ns with scheduler := inner, previousSchedule := ns.previousSchedule ++ [.random v] })
      | (.error msg, inner) => (.error msg, { ns with scheduler := inner }) := by
  unfold nextU64
  rw [h]
  rfl

/-- the recording relation proper: the checker wraps the inner state and records -/
structure RecR (s : σ) (_evs : List Ev) (ns : NondetState σ) : Prop where
  inner : ns.scheduler = s
  recording : ns.recording = true

/-- the invariant carried along: `previous_schedule` is the projection of the part `l` of the log already written -/
structure RecJ (ns : NondetState σ) (l : List Ev) : Prop where
  recording : ns.recording = true
  prev : ns.previousSchedule = recsOf l
  step : ns.currentStep = 0

theorem recording_follows (F : FullScheduler σ) (full : List Ev) :
    Follows F.sched (check F).sched (fun s evs ns => RecR s evs ns ∧ ∃ l, l ++ evs = full ∧ RecJ ns l) where
  dec := by
    rintro s ns views off cur y ch evs s1 ⟨hR, l, hl, hJ⟩ hv _ hn
    refine ⟨{ ns with scheduler := s1,
                      previousSchedule := ns.previousSchedule ++ [.task ch (views.map (·.id)) y] }, ?_,
      ⟨rfl, hR.recording⟩, l ++ [.dec off cur y ch], by simpa using hl,
      { recording := hJ.recording, prev := ?_, step := hJ.step }⟩
    · show nextTask F ns views cur y = _
      rw [nextTask_recording F hR.recording, hR.inner, hn]
    · rw [recsOf_append, ← hJ.prev, hv]; rfl
  draw := by
    rintro s ns v evs s1 ⟨hR, l, hl, hJ⟩ hn
    refine ⟨{ ns with scheduler := s1, previousSchedule := ns.previousSchedule ++ [.random v] }, ?_,
      ⟨rfl, hR.recording⟩, l ++ [.draw v], by simpa using hl,
      { recording := hJ.recording, prev := ?_, step := hJ.step }⟩
    · show nextU64 F ns = _
      rw [nextU64_recording F hR.recording, hR.inner, hn]
    · rw [recsOf_append, ← hJ.prev]; rfl
  obs := by
    rintro s ns x evs ⟨hR, l, hl, hJ⟩
    exact ⟨⟨hR.inner, hR.recording⟩, l ++ [.obs x], by simpa using hl,
      { hJ with prev := by rw [recsOf_append, ← hJ.prev]; exact (List.append_nil _).symm }⟩

/-- in recording mode the checker only panics when the inner scheduler does, with the same message -/
theorem recording_panic_from_inner (F : FullScheduler σ) (ns : NondetState σ) (h : ns.recording = true) :
    (∀ views cur y msg ns', (check F).sched.nextTask ns views cur y = (.panic msg, ns') →
      ∃ s', F.sched.nextTask ns.scheduler views cur y = (.panic msg, s')) ∧
    (∀ msg ns', (check F).sched.nextU64 ns = (.error msg, ns') →
      ∃ s', F.sched.nextU64 ns.scheduler = (.error msg, s')) := by
  constructor
  · intro views cur y msg ns' hn
    have hn' : nextTask F ns views cur y = (.panic msg, ns') := hn
    rw [nextTask_recording F h] at hn'
    rcases hr : F.sched.nextTask ns.scheduler views cur y with ⟨_ | _, inner⟩ <;> rw [hr] at hn' <;> cases hn'
    exact ⟨inner, rfl⟩
  · intro msg ns' hn
    have hn' : nextU64 F ns = (.error msg, ns') := hn
    rw [nextU64_recording F h] at hn'
    rcases hr : F.sched.nextU64 ns.scheduler with ⟨_ | _, inner⟩ <;> rw [hr] at hn' <;> cases hn'
    exact ⟨inner, rfl⟩

/-- while checking, a consultation that meets the matching recorded step is answered from the recording (the
branches of `msgShouldHaveEnded`, `msgRunnable`, `msgYielding`, `msgSwitchButRandom` are not taken) -/
theorem nextTask_checking (F : FullScheduler σ) {ns : NondetState σ} (h : ns.recording = false)
    {views : List TaskView} {y : Bool} {ch : Option Nat}
    (hget : ns.previousSchedule[ns.currentStep]? = some (.task ch (views.map (·.id)) y)) (cur : Option Nat) :
    nextTask F ns views cur y = (.choose ch, { ns with currentStep := ns.currentStep + 1 }) := by
  unfold nextTask
  rw [h, hget]
  simp

/-- likewise a draw that meets a recorded draw returns its value (not `msgShouldHaveEnded`, `msgRandomButSwitch`) -/
theorem nextU64_checking (F : FullScheduler σ) {ns : NondetState σ} (h : ns.recording = false) {v : Nat}
    (hget : ns.previousSchedule[ns.currentStep]? = some (.random v)) :
    nextU64 F ns = (.ok v, { ns with currentStep := ns.currentStep + 1 }) := by
  unfold nextU64
  rw [h, hget]
  rfl

/-- the relation of `checking_follows`: from `currentStep` on, the recording `recs` is the projection of the events
to come -/
structure ChkR {τ : Type} (recs : List Record) (sc : σ) (_s : τ) (evs : List Ev) (ns : NondetState σ) : Prop where
  inner : ns.scheduler = sc
  recording : ns.recording = false
  prev : ns.previousSchedule = recs
  le : ns.currentStep ≤ recs.length
  rest : recs.drop ns.currentStep = recsOf evs

theorem checking_follows {τ : Type} (S : Scheduler τ) (F : FullScheduler σ) (recs : List Record) (sc : σ) :
    Follows S (check F).sched (ChkR (τ := τ) recs sc) where
  dec := by
    intro s ns views off cur y ch evs s1 hR hv _ _
    obtain ⟨hget, hdrop, hle⟩ := getElem?_of_drop_eq_cons (x := Record.task ch off y) hR.rest
    rw [← hR.prev, ← hv] at hget
    exact ⟨_, nextTask_checking F hR.recording hget cur, { hR with le := hle, rest := hdrop }⟩
  draw := by
    intro s ns v evs s1 hR _
    obtain ⟨hget, hdrop, hle⟩ := getElem?_of_drop_eq_cons (x := Record.random v) hR.rest
    rw [← hR.prev] at hget
    exact ⟨_, nextU64_checking F hR.recording hget, { hR with le := hle, rest := hdrop }⟩
  obs := fun _ _ _ _ hR => { hR with rest := hR.rest }

theorem ChkR.finished {τ : Type} {recs : List Record} {sc : σ} {s : τ} {ns : NondetState σ}
    (h : ChkR recs sc s [] ns) : ns.currentStep = ns.previousSchedule.length :=
  h.prev ▸ Nat.le_antisymm h.le (List.drop_eq_nil_iff.mp h.rest)

/-- the checker is ready to start a new recording: not recording, and the previous recording has been checked
to its end -/
def Idle (ns : NondetState σ) : Prop :=
  ns.recording = false ∧ ns.currentStep = ns.previousSchedule.length

/-- state at the start of a recording execution (inner scheduler state `inner`) -/
def recStart (inner : σ) : NondetState σ :=
  { scheduler := inner, recording := true, previousSchedule := [], currentStep := 0 }

/-- state at the end of a recording execution that logged `l` -/
def recEnd (s : σ) (l : List Ev) : NondetState σ :=
  { scheduler := s, recording := true, previousSchedule := recsOf l, currentStep := 0 }

/-- state at the start of the checking execution -/
def chkStart (s : σ) (l : List Ev) : NondetState σ :=
  { scheduler := s, recording := false, previousSchedule := recsOf l, currentStep := 0 }

theorem idle_new (s : σ) : Idle (NondetCheck.new s) := ⟨rfl, rfl⟩

/-- `new_execution` in an idle state: the "ended earlier than expected" panic does not fire, and the inner
scheduler's `new_execution` is consulted -/
theorem newExec_idle (F : FullScheduler σ) (ns : NondetState σ) (h : Idle ns) :
    (check F).newExec ns =
      match F.newExec ns.scheduler with
      | .none => .none
      | .panic m => .panic m
      | .some seed inner => .some seed (recStart inner) := by
  show NondetCheck.newExec F ns = _
  unfold NondetCheck.newExec
  rw [h.1, h.2]
  simp only [Bool.not_false, if_true, bne_self_eq_false, Bool.false_eq_true, if_false]
  cases F.newExec ns.scheduler <;> rfl

/-- `new_execution` after a recording: the checking execution is started with the dummy seed 0 and the inner
scheduler's `new_execution` is NOT consulted -/
theorem newExec_recEnd (F : FullScheduler σ) (s : σ) (l : List Ev) :
    (check F).newExec (recEnd s l) = .some 0 (chkStart s l) := rfl

/-- **The recording execution is the inner scheduler's execution**, and it ends with `previous_schedule` = the
projection of its log. -/
theorem recording_exec (F : FullScheduler σ) (P : Program) (ms : MaxSteps) (seed : Nat) (inner : σ)
    (fuel segFuel : Nat)
    (hne : ∀ msg, (execute P F.sched ms seed inner fuel segFuel).outcome ≠ .schedPanic msg) :
    execute P (check F).sched ms seed (recStart inner) fuel segFuel =
      reRes (execute P F.sched ms seed inner fuel segFuel)
        (recEnd (execute P F.sched ms seed inner fuel segFuel).st.sch
          (execute P F.sched ms seed inner fuel segFuel).st.log.toList) := by
  obtain ⟨ns1, h1, hR, l, hl, hJ⟩ := execute_follows
    (recording_follows F (execute P F.sched ms seed inner fuel segFuel).st.log.toList) P ms seed inner
    (recStart inner) fuel segFuel hne
    ⟨{ inner := rfl, recording := rfl }, [], rfl, { recording := rfl, prev := rfl, step := rfl }⟩
  rw [h1]
  obtain ⟨a, b, c, d⟩ := ns1
  obtain rfl : a = _ := hR.inner
  obtain rfl : b = _ := hJ.recording
  obtain rfl : c = _ := hJ.prev
  obtain rfl : d = _ := hJ.step
  rw [← hl, List.append_nil]
  rfl

/-- **The checking execution never rejects**: it is the same execution again (up to the dummy seed 0 stored in
the kernel) and it leaves the checker idle (`current_step = previous_schedule.len()`), with the inner scheduler
untouched. -/
theorem checking_exec (F : FullScheduler σ) (P : Program) (ms : MaxSteps) (seed : Nat) (inner : σ)
    (fuel segFuel : Nat)
    (hne : ∀ msg, (execute P F.sched ms seed inner fuel segFuel).outcome ≠ .schedPanic msg) :
    ∃ nsF, execute P (check F).sched ms 0
        (chkStart (execute P F.sched ms seed inner fuel segFuel).st.sch
          (execute P F.sched ms seed inner fuel segFuel).st.log.toList) fuel segFuel =
        reRes (resSeed 0 (execute P F.sched ms seed inner fuel segFuel)) nsF ∧
      Idle nsF ∧ nsF.scheduler = (execute P F.sched ms seed inner fuel segFuel).st.sch := by
  have hs := execute_seed P F.sched ms seed 0 inner fuel segFuel
  have hne0 : ∀ msg, (execute P F.sched ms 0 inner fuel segFuel).outcome ≠ .schedPanic msg := by
    rw [hs]; exact hne
  obtain ⟨nsF, h1, h2⟩ := execute_follows
    (checking_follows F.sched F (recsOf (execute P F.sched ms seed inner fuel segFuel).st.log.toList)
      (execute P F.sched ms seed inner fuel segFuel).st.sch) P ms 0 inner
    (chkStart (execute P F.sched ms seed inner fuel segFuel).st.sch
      (execute P F.sched ms seed inner fuel segFuel).st.log.toList) fuel segFuel hne0
    { inner := rfl, recording := rfl, prev := rfl, le := Nat.zero_le _, rest := by rw [hs]; rfl }
  rw [hs] at h1
  exact ⟨nsF, h1, ⟨h2.recording, h2.finished⟩, h2.inner⟩

/-- what is assumed of the inner scheduler on program `P`: its own executions never end with a scheduler panic
(it never panics itself and never answers with a task that was not offered), and a panic of its
`new_execution` does not carry one of the checker's messages -/
structure InnerOK (F : FullScheduler σ) (P : Program) (ms : MaxSteps) (fuel segFuel : Nat) : Prop where
  noSchedPanic : ∀ seed s msg, (execute P F.sched ms seed s fuel segFuel).outcome ≠ .schedPanic msg
  newExecMsg : ∀ s msg, F.newExec s = .panic msg → isNondetMsg msg = false

/-- the checker has just finished a recording execution -/
def AfterRecording (F : FullScheduler σ) (P : Program) (ms : MaxSteps) (fuel segFuel : Nat) (ns : NondetState σ) :
    Prop :=
  ∃ seed inner, ns = recEnd (execute P F.sched ms seed inner fuel segFuel).st.sch
    (execute P F.sched ms seed inner fuel segFuel).st.log.toList

/-- no execution of the run ended with a scheduler panic (in particular none of the checker's), and if
`new_execution` panicked it was not with one of the checker's messages -/
def RunOK {P : Program} (res : RunnerResult P (NondetState σ)) : Prop :=
  (∀ x ∈ res.execs, ∀ msg, x.2.outcome ≠ .schedPanic msg) ∧
  (∀ msg, res.newExecPanic = some msg → isNondetMsg msg = false)

theorem runner_check_ok {F : FullScheduler σ} {P : Program} {ms : MaxSteps} {fuel segFuel : Nat}
    (hF : InnerOK F P ms fuel segFuel) (iters : Nat) (ns : NondetState σ)
    (acc : List (Nat × Result P (NondetState σ))) (hns : Idle ns ∨ AfterRecording F P ms fuel segFuel ns)
    (hacc : ∀ x ∈ acc, ∀ msg, x.2.outcome ≠ .schedPanic msg) :
    RunOK (runner P (check F) ms fuel segFuel iters ns acc) := by
  refine runner_inv (I := fun ns => Idle ns ∨ AfterRecording F P ms fuel segFuel ns) ?_ ?_ (by decide +kernel) iters
    ns acc hns hacc
  · -- idle: a recording execution, which is the inner scheduler's; after a recording: its checking execution
    rintro ns seed ns' (hidle | ⟨seed', inner, rfl⟩) hn
    · rw [newExec_idle F ns hidle] at hn
      cases hi : F.newExec ns.scheduler with
      | none => rw [hi] at hn; cases hn
      | panic m => rw [hi] at hn; cases hn
      | some sd inner =>
        rw [hi] at hn
        cases hn
        rw [recording_exec F P ms seed inner fuel segFuel (hF.noSchedPanic seed inner)]
        exact ⟨hF.noSchedPanic seed inner, Or.inr ⟨seed, inner, rfl⟩⟩
    · rw [newExec_recEnd] at hn
      cases hn
      obtain ⟨nsF, h1, h2, _⟩ := checking_exec F P ms seed' inner fuel segFuel (hF.noSchedPanic seed' inner)
      rw [h1]
      exact ⟨hF.noSchedPanic seed' inner, Or.inl h2⟩
  · rintro ns msg (hidle | ⟨seed', inner, rfl⟩) hn
    · rw [newExec_idle F ns hidle] at hn
      cases hi : F.newExec ns.scheduler with
      | none => rw [hi] at hn; cases hn
      | panic m => rw [hi] at hn; cases hn; exact hF.newExecMsg _ _ hi
      | some sd inner => rw [hi] at hn; cases hn
    · rw [newExec_recEnd] at hn
      cases hn

end ShuttleProofs.Replay

import ShuttleProofs.Lemmas.ChanReach
/-
  C06 — no reachable, enabled transition panics: the `assert!`s / `expect`s / index panics of
  mpsc.rs are unreachable for a well-formed client (one receiver, endpoints used while alive).
-/
namespace ShuttleModel.C06
open ShuttleModel

theorem nextSender_total {s : ChanState} (h1 : s.bound = none → s.waitingSenders = []) :
    ∃ next, s.nextSenderAfterPush = .ok next := by
  unfold ChanState.nextSenderAfterPush
  rcases hw : s.waitingSenders with _ | ⟨w, ws⟩
  · exact ⟨_, rfl⟩
  · rcases hb : s.bound with _ | b
    · exact absurd (h1 hb) (hw ▸ List.cons_ne_nil _ _)
    · exact ⟨_, rfl⟩

theorem sendPush_total {s : ChanState} (v : Nat) (c : Clock)
    (h1 : s.bound = none → s.waitingSenders = [])
    (h2 : s.bound ≠ some 0 → s.receiverClock ≠ some []) : ∃ x, s.sendPush v c = .ok x := by
  unfold ChanState.sendPush
  obtain ⟨next, hn⟩ := nextSender_total (s := { s with messages := s.messages ++ [(v, c)] }) h1
  simp only [hn, ChanState.isRdv]
  by_cases hz : s.bound = some 0
  · simp [hz]
  · rcases hc : s.receiverClock with _ | _ | ⟨x, l⟩
    · simp [hz]
    · exact absurd hc (h2 hz)
    · simp [hz]

theorem recvAck_total {s : ChanState} (mine : Clock)
    (h1 : s.bound = none → s.receiverClock = none)
    (h2 : ∀ l k, s.receiverClock = some l → s.bound = some (k + 1) → l.length < k + 1) :
    ∃ x, s.recvAck mine = .ok x := by
  unfold ChanState.recvAck
  rcases hc : s.receiverClock with _ | l
  · exact ⟨_, rfl⟩
  · rcases hb : s.bound with _ | _ | k
    · rw [h1 hb] at hc; cases hc
    · exact ⟨_, rfl⟩
    · simp [h2 l k hc hb]

theorem recvPop_total {s : ChanState} (h0 : s.messages ≠ [])
    (h1 : s.bound = none → s.waitingSenders = []) : ∃ x, s.recvPop = .ok x := by
  unfold ChanState.recvPop
  rcases hm : s.messages with _ | ⟨it, m⟩
  · exact absurd hm h0
  · rcases hw : s.waitingSenders with _ | ⟨w, ws⟩
    · exact ⟨_, rfl⟩
    · rcases hb : s.bound with _ | b
      · exact absurd (h1 hb) (hw ▸ List.cons_ne_nil _ _)
      · exact ⟨_, rfl⟩

/-- the push stage of a sender that found room (directly, or reserved when it was unblocked)
succeeds, whatever remains of the sender queue -/
theorem Inv.push_total {c : Cfg} (hi : Inv c)
    (hroom : ∀ k, c.ch.bound = some k → 0 < k → c.ch.messages.length < k) (ws' : List Nat)
    (hws : c.ch.bound = none → ws' = []) (v : Nat) (clk : Clock) :
    ∃ x, sendSeg (.ok ({ c.ch with waitingSenders := ws' }, .push, [])) v clk = .ok x := by
  obtain ⟨⟨s2, o, e2⟩, hy⟩ := sendPush_total (s := { c.ch with waitingSenders := ws' }) v clk hws
    (hi.rc_ne_nil hroom)
  simp [sendSeg, bindStep, hy]

/-- the pop stage (take the first message, acknowledge it) succeeds whenever the buffer is non-empty -/
theorem Inv.pop_total {c : Cfg} (hi : Inv c) (hm : c.ch.messages ≠ []) (wr' : List Nat)
    (mine : Clock) :
    ∃ x, recvSeg (.ok ({ c.ch with waitingReceivers := wr' }, .pop, [])) mine = .ok x := by
  obtain ⟨⟨s2, item, e2⟩, hp⟩ := recvPop_total (s := { c.ch with waitingReceivers := wr' }) hm
    fun hb => (hi.unb hb).1
  obtain ⟨rest, hmm, rfl, -⟩ := recvPop_ok hp
  obtain ⟨⟨s3, u, e3⟩, ha⟩ := recvAck_total
      (s := { c.ch with waitingReceivers := wr', messages := rest }) mine
      (fun hb => (hi.unb hb).2) fun l k hl hb => by
    obtain ⟨l', hl', hlen⟩ := hi.rc (k + 1) hb
    have hl : c.ch.receiverClock = some l := hl
    have hmm : c.ch.messages = item :: rest := hmm
    rw [hl'] at hl; cases hl
    have := hlen (Nat.succ_pos k)
    rw [hmm, List.length_cons] at this
    omega
  simp [recvSeg, bindStep, hp, ha]

/-- the second segment of an unblocked sender completes the `send`: no receiver is left, or it is
the head of the queue with a slot reserved; either way it leaves the queue -/
theorem Inv.sendWake_completes {c : Cfg} (hi : Inv c) {t : Nat} (hw : t ∈ c.ch.waitingSenders)
    (hu : t ∈ c.ub) (v : Nat) (clk : Clock) :
    ∃ s' r e, sendSeg2 c.ch t v clk = .ok (s', some r, e) ∧ t ∉ s'.waitingSenders := by
  cases sendSeg2_cases c.ch t v clk with
  | disconnected _ heq => exact ⟨_, _, _, heq, by simp⟩
  | push h0 rest hws heq =>
    obtain ⟨⟨s', r, e⟩, hx⟩ := hi.push_total (fun k hb => (hi.sub_room h0 t hu hw k hb).1) rest
      (fun hb => nomatch (hi.unb hb).1 ▸ hws) v clk
    obtain ⟨rfl, rfl, -⟩ := sendSeg_push_ok hx
    exact ⟨_, _, e, heq.trans hx, (List.nodup_cons.mp (hws ▸ hi.ws_nodup)).1⟩
  | panic h0 hne _ _ => exact absurd (hi.sub_head h0 t hu hw) hne

/-- the second segment of an unblocked receiver completes the `recv`: it is the only one waiting,
and it was unblocked for a message or for disconnection -/
theorem Inv.recvWake_completes {c : Cfg} (hi : Inv c) {t : Nat} (hw : t ∈ c.ch.waitingReceivers)
    (hu : t ∈ c.ub) (mine : Clock) :
    ∃ s' r e, recvSeg2 c.ch t mine = .ok (s', some r, e) ∧ t ∉ s'.waitingReceivers := by
  have hl := hi.wr_le
  obtain ⟨w, rest, hwr⟩ := List.exists_cons_of_ne_nil (List.ne_nil_of_mem hw)
  rw [hwr, List.length_cons] at hl
  obtain rfl : rest = [] := List.eq_nil_of_length_eq_zero (by omega)
  obtain rfl : t = w := List.mem_singleton.mp (hwr ▸ hw)
  cases recvSeg2_cases c.ch t mine with
  | disconnected _ _ heq => exact ⟨_, _, _, heq, by simp⟩
  | pop h0 rest hwr' heq =>
    have hm : c.ch.messages ≠ [] := fun hm =>
      (hi.rub t hu hw).elim (absurd hm) fun hk => h0 ⟨hm, hk⟩
    obtain ⟨⟨s', r, e⟩, hx⟩ := hi.pop_total hm rest mine
    obtain ⟨item, mrest, -, rfl, -, rfl⟩ := recvSeg_pop_ok hx
    obtain rfl : [] = rest := (List.cons.inj (hwr.symm.trans hwr')).2
    exact ⟨_, _, e, heq.trans hx, List.not_mem_nil⟩
  | panic _ hne _ _ => exact absurd (by rw [hwr]; rfl) hne

theorem fire_total {b : Option Nat} {c : Cfg} {l : Label} (h : Reachable b c) (he : enabled c l) :
    ∃ c', fire c l = .ok c' := by
  have hi := reachable_inv h
  cases l with
  | sendStart t v cb clk =>
    obtain ⟨x, hx⟩ : ∃ x, sendSeg1 c.ch t v cb clk = .ok x := by
      cases sendSeg1_cases c.ch t v cb clk with
      | disconnected _ heq => exact ⟨_, heq⟩
      | full _ _ _ heq => exact ⟨_, heq⟩
      | queued _ _ _ heq => exact ⟨_, heq⟩
      | push _ hm heq =>
        have ⟨hws, hroom⟩ := not_mustBlock hm
        rw [heq]
        exact hi.push_total (fun k hb => (hroom k hb).1) c.ch.waitingSenders (fun _ => hws) v clk
    exact ⟨_, by rw [fire, hx]⟩
  | sendWake t clk =>
    obtain ⟨s', r, e, hx, -⟩ := hi.sendWake_completes he.1 he.2 (c.pv t) clk
    exact ⟨_, by rw [fire, hx]⟩
  | recvStart t cb mine =>
    obtain ⟨x, hx⟩ : ∃ x, recvSeg1 c.ch t cb mine = .ok x := by
      cases recvSeg1_cases c.ch t cb mine he.2.1 with
      | disconnected _ _ heq => exact ⟨_, heq⟩
      | empty _ _ _ _ heq => exact ⟨_, heq⟩
      | queued _ _ _ e1 heq _ => exact ⟨_, heq⟩
      | pop hm heq =>
        rw [heq]
        exact hi.pop_total hm c.ch.waitingReceivers mine
    exact ⟨_, by rw [fire, hx]⟩
  | recvWake t mine =>
    obtain ⟨s', r, e, hx, -⟩ := hi.recvWake_completes he.1 he.2 mine
    exact ⟨_, by rw [fire, hx]⟩
  | cloneS => exact ⟨_, fire_cloneS c⟩
  | dropS stop =>
    cases stop
    · exact ⟨_, fire_dropS_ok (c := c) (by have := hi.ks_ge; have : 1 ≤ c.liveS := he.1; omega)⟩
    · exact ⟨_, fire_dropS_skip c⟩
  | dropR stop =>
    cases stop
    · exact ⟨_, fire_dropR_ok (c := c) (by have := hi.kr_ge he.1; omega)⟩
    · exact ⟨_, fire_dropR_skip c⟩

end ShuttleModel.C06

import ShuttleProofs.Lemmas.LocksLts
/-
  C04 (lock part), Mutex: the successful steps of the most-general-client LTS `MReach` of
  `LocksLts.lean` as a relation (`MStep`), the invariant they keep (`MInv`: mutual exclusion and the
  permit balance), what they do to the poison flag, and a concrete run. The statements of the property
  are in `C04.lean`.
-/
namespace ShuttleModel
namespace LocksLts
open SemLts

theorem result_ne_wouldBlock (m : MutexState) : m.result ≠ .wouldBlock := by
  unfold MutexState.result; split <;> simp

/-- The successful steps of `mstep`: one constructor per way in which a wrapper reaches its next
scheduling point without panicking, with what it did to the semaphore and to the guard. Statements about
all successful steps are case analyses on this relation (`mstep_ok`). -/
inductive MStep (fin : Nat → Bool) (p : Bool) (m : MutexState) : MOp → MutexState → MOut → Prop
  | lockStart (t : Nat) (clk : Clock) : m.holder ≠ some t →
      MStep fin p m (.lockStart t clk) { m with sem := (m.sem.newAcquire t 1 clk).2 }
        (.started (m.sem.newAcquire t 1 clk).1)
  | pending {t wid : Nat} {clk : Clock} {s' : SemState} :
      pollDrop fin m.sem t wid clk = .ok (s', .pending) →
      MStep fin p m (.lockPoll t wid clk) { m with sem := s' } .pending
  | locked {t wid : Nat} {clk : Clock} {s' : SemState} :
      pollDrop fin m.sem t wid clk = .ok (s', .ready true) → m.holder = none →
      MStep fin p m (.lockPoll t wid clk) (({ m with sem := s' } : MutexState).takeGuard t p)
        (.locked m.result)
  | lockPoisoned (t : Nat) : m.holder = none →
      MStep fin p m (.lockPoisoned t) (m.takeGuard t p) (.locked m.result)
  | tryOk {t : Nat} {clk pc : Clock} {s' : SemState} :
      m.sem.acquirePermits 1 clk = .ok (.ok (s', pc)) →
      MStep fin p m (.tryLock t clk) (({ m with sem := s' } : MutexState).takeGuard t p)
        (.tried m.result)
  | tryFail {t : Nat} {clk : Clock} {e : TryErr} :
      m.sem.acquirePermits 1 clk = .ok (.error e) →
      MStep fin p m (.tryLock t clk) m (.tried .wouldBlock)
  | unlock {t : Nat} {clk : Clock} {o : StepOut} : step fin m.sem (relOp p t 1 clk) = .ok o →
      MStep fin p m (.unlock t clk) (({ m with sem := o.s } : MutexState).dropGuard p) .unlocked
  | write (t v : Nat) : MStep fin p m (.write t v) { m with value := v } .wrote

theorem mstep_ok {fin : Nat → Bool} {p : Bool} {m m' : MutexState} {op : MOp} {out : MOut}
    (h : mstep fin p m op = .ok (m', out)) : MStep fin p m op m' out := by
  -- the branches of `mstep` that do not panic, in the order of its definition
  revert h
  fun_cases mstep fin p m op <;> intro h <;> cases h
  next t clk hh => exact .lockStart t clk (by simpa using hh)
  next hpd => exact .pending hpd
  next hpd hh => exact .locked hpd (by simpa using hh)
  next t hh => exact .lockPoisoned t (by simpa using hh)
  next h1 hout =>
    cases step_ok_iff.mp h1 with
    | tryOk hacq => exact .tryOk hacq
    | tryErr => cases hout
  next h1 hout =>
    cases step_ok_iff.mp h1 with
    | tryOk => exact absurd rfl hout
    | tryErr hacq => exact .tryFail hacq
  next h1 => exact .unlock h1
  next t v => exact .write t v

/-- the Mutex invariant: semaphore invariant, the ghost guard list is the `holder` field, and (while
the semaphore is open) the single permit is either available, granted to a waiter, or held -/
structure MInv (g : MG) : Prop where
  sem : Inv g.m.sem
  fair : g.m.sem.fair = false
  guards : g.guards = g.m.holder.toList
  bal : g.m.sem.closed = false →
    g.m.sem.avail + pend g.m.sem.table + (if g.m.holder.isSome then 1 else 0) = 1

theorem MInv.init : MInv {} := by
  refine ⟨Inv.constNew 1 false, rfl, rfl, fun _ => ?_⟩
  simp [SemState.constNew]

theorem MInv.bal_free {g : MG} (hI : MInv g) (hc : g.m.sem.closed = false) (hh : g.m.holder = none) :
    g.m.sem.avail + pend g.m.sem.table = 1 := by
  simpa [hh] using hI.bal hc

theorem MInv.bal_held {g : MG} (hI : MInv g) (hc : g.m.sem.closed = false) {t : Nat}
    (hh : g.m.holder = some t) : g.m.sem.avail = 0 ∧ pend g.m.sem.table = 0 := by
  have := hI.bal hc
  simp only [hh, Option.isSome_some, if_true] at this
  omega

theorem MInv.free_of_acquire {g : MG} (hI : MInv g) {clk pc : Clock} {s' : SemState}
    (hacq : g.m.sem.acquirePermits 1 clk = .ok (.ok (s', pc))) : g.m.holder = none := by
  cases hh : g.m.holder with
  | none => rfl
  | some x =>
    have := (acquirePermits_inv hI.sem hacq).2.1
    have := (hI.bal_held (acquirePermits_ok hacq).2.1 hh).1
    omega

theorem MInv.semBal {g : MG} (hI : MInv g) :
    SemBal g.m.sem 1 (if g.m.holder.isSome then 1 else 0) :=
  ⟨hI.sem, hI.fair, hI.bal⟩

theorem MInv.of_semBal {g : MG} (h : SemBal g.m.sem 1 (if g.m.holder.isSome then 1 else 0))
    (hg : g.guards = g.m.holder.toList) : MInv g :=
  ⟨h.sem, h.fair, hg, h.bal⟩

theorem mstep_inv {fin : Nat → Bool} {p : Bool} {g : MG} {op : MOp} {m' : MutexState} {out : MOut}
    (hI : MInv g) (hen : MEnabled g op) (h : mstep fin p g.m op = .ok (m', out)) :
    MInv { m := m', guards := mghost g.guards op out } := by
  have sb := hI.semBal
  have hg := hI.guards
  -- the semaphore share follows the semaphore move; `guards` moves where a guard is taken or dropped
  cases mstep_ok h with
  | lockStart t clk _ => exact .of_semBal (sb.newAcquire t 1 clk) hg
  | pending hpd =>
    obtain ⟨w0, hw, _⟩ := hen
    exact .of_semBal (sb.pollDrop hw hpd) hg
  | locked hpd hnone =>
    obtain ⟨w0, hw, hn⟩ := hen
    exact .of_semBal ((sb.pollDrop hw hpd).held_eq (by simp [hnone, hn, MutexState.takeGuard]))
      (by rw [hg, hnone]; rfl)
  | lockPoisoned t hnone => exact .of_semBal (.of_closed hI.sem hI.fair hen) (by rw [hg, hnone]; rfl)
  | tryOk hacq =>
    have hnone := hI.free_of_acquire hacq
    refine .of_semBal ((sb.acquire hacq).held_eq (by simp [hnone, MutexState.takeGuard])) ?_
    simp only [mghost, result_ne_wouldBlock, if_false, hg, hnone]; rfl
  | tryFail hacq => exact hI
  | unlock h1 =>
    have hmem : _ ∈ g.guards := hen
    rw [hg] at hmem
    have hh := Option.mem_toList.mp hmem
    refine .of_semBal ((sb.held_eq ?_).release (Nat.succ_pos 0) h1) ?_
    · simp [hh, MutexState.dropGuard]
    · rw [hg, hh]; simp [mghost, MutexState.dropGuard]
  | write t v => exact .of_semBal sb hg

theorem mreach_inv {g : MG} (h : MReach g) : MInv g := by
  induction h with
  | init => exact MInv.init
  | step fin p op _ hen hs ih => exact mstep_inv ih hen hs

/-- C04/Mutex: in every reachable state the live guards are exactly the `holder` field (hence at most
one), and while the lock is not poisoned its single permit is available, or granted to a waiter, or
held -/
theorem mutex_exclusive {g : MG} (h : MReach g) :
    g.guards = g.m.holder.toList ∧
    (g.m.sem.closed = false →
      g.m.sem.avail + pend g.m.sem.table + (if g.m.holder.isSome then 1 else 0) = 1) ∧
    Inv g.m.sem :=
  ⟨(mreach_inv h).guards, (mreach_inv h).bal, (mreach_inv h).sem⟩

/-- F11: the poisoning release performs no kernel effect (queued waiters stay blocked) -/
theorem mutex_poison_release_no_effects {fin : Nat → Bool} {s : SemState} {t : Nat} {clk : Clock}
    {o : StepOut} (h : step fin s (relOp true t 1 clk) = .ok o) : o.effs = [] :=
  by cases step_ok_iff.mp (show step fin s (.poisonRelease t 1) = .ok o from h) with | poison => rfl

theorem mstep_poison_mono {fin : Nat → Bool} {p : Bool} {g : MG} {op : MOp} {m' : MutexState}
    {out : MOut} (hI : MInv g) (hen : MEnabled g op) (h : mstep fin p g.m op = .ok (m', out)) :
    (g.m.poisoned = true → m'.poisoned = true) ∧ (g.m.sem.closed = true → m'.sem.closed = true) := by
  cases mstep_ok h with
  | lockStart | lockPoisoned | tryFail | write => exact ⟨id, id⟩
  | pending hpd | locked hpd =>
    obtain ⟨w0, hw, _⟩ := hen
    exact ⟨id, pollDrop_closed_mono hI.sem hw hpd⟩
  | tryOk hacq =>
    refine ⟨id, fun hc => ?_⟩
    rw [(acquirePermits_ok hacq).2.1] at hc; cases hc
  | unlock h1 =>
    exact ⟨fun hp => by simp [MutexState.dropGuard, hp], step_closed_mono fin h1⟩

inductive MSteps : MG → MG → Prop
  | refl (g : MG) : MSteps g g
  | step {g g1 : MG} {m' : MutexState} {out : MOut} (fin : Nat → Bool) (p : Bool) (op : MOp) :
      MSteps g g1 → MEnabled g1 op → mstep fin p g1.m op = .ok (m', out) →
      MSteps g { m := m', guards := mghost g1.guards op out }

theorem msteps_reach {g g' : MG} (hr : MReach g) (h : MSteps g g') : MReach g' := by
  induction h with
  | refl => exact hr
  | step fin p op _ hen hs ih => exact MReach.step fin p op ih hen hs

theorem mutex_all_waiters_one {g : MG} (hr : MReach g) : AllN (· = 1) g.m.sem.table := by
  induction hr with
  | init => intro w hw; simp [SemState.constNew] at hw
  | step fin p op hr _ hs ih =>
    have hi := (mreach_inv hr).sem
    cases mstep_ok hs with
    | lockStart t clk => exact newAcquire_allN _ ih t 1 clk rfl
    | pending hpd | locked hpd => exact pollDrop_allN _ hi ih hpd
    | lockPoisoned | tryFail | write => exact ih
    | tryOk hacq => exact (acquirePermits_inv hi hacq).2.2.1 ▸ ih
    | unlock h1 => exact relOp_allN _ hi ih h1

namespace MutexExample

def nf : Nat → Bool := fun _ => false
def c0 : Clock := Clock.new
def w2a : Waiter := { wid := 1, taskId := 2, n := 1, clock := c0 }
def w2b : Waiter :=
  { wid := 1, taskId := 2, n := 1, clock := c0, isQueued := true, waker := some 2, neverPolled := false }
def w2c : Waiter :=
  { wid := 1, taskId := 2, n := 1, clock := c0, isQueued := false, waker := some 2, neverPolled := false }
/-- t1 has created its `Acquire` -/
def s1 : MutexState :=
  { sem := { fair := false, avail := 1, batches := none,
             table := [{ wid := 0, taskId := 1, n := 1, clock := c0 }], nextWid := 1 } }
/-- t1 holds the lock -/
def s2 : MutexState :=
  { sem := { fair := false, avail := 0, batches := some [], nextWid := 1 }, holder := some 1 }
/-- t2 has created its `Acquire` -/
def s3 : MutexState :=
  { s2 with sem := { s2.sem with table := [w2a], nextWid := 2 } }
/-- t2 has polled: `Pending`, queued -/
def s4 : MutexState :=
  { s2 with sem := { s2.sem with queue := [1], nextWid := 2, table := [w2b] } }
/-- t1 has dropped its guard: the permit is back, t2 still queued (unfair semaphore) -/
def s5 : MutexState :=
  { s4 with holder := none, sem := { s4.sem with avail := 1, batches := some [(1, c0)] } }
/-- t2 has polled again and holds the lock -/
def s6 : MutexState :=
  { sem := { fair := false, avail := 0, batches := some [], nextWid := 2 }, holder := some 2 }
/-- alternative: t1 dropped its guard while panicking -/
def s5p : MutexState :=
  { s5 with poisoned := true, sem := { s5.sem with closed := true, queue := [], table := [w2c] } }

theorem r1 : MReach ⟨s1, []⟩ := MReach.step nf false (.lockStart 1 c0) MReach.init rfl rfl
theorem r2 : MReach ⟨s2, [1]⟩ := MReach.step nf false (.lockPoll 1 0 c0) r1 ⟨_, rfl, rfl⟩ rfl
theorem r3 : MReach ⟨s3, [1]⟩ := MReach.step nf false (.lockStart 2 c0) r2 rfl rfl
theorem r4 : MReach ⟨s4, [1]⟩ := MReach.step nf false (.lockPoll 2 1 c0) r3 ⟨_, rfl, rfl⟩ rfl
theorem r5 : MReach ⟨s5, []⟩ :=
  MReach.step nf false (.unlock 1 c0) r4 (List.mem_singleton.mpr rfl) rfl
theorem r6 : MReach ⟨s6, [2]⟩ := MReach.step nf false (.lockPoll 2 1 c0) r5 ⟨_, rfl, rfl⟩ rfl
theorem r5p : MReach ⟨s5p, []⟩ :=
  MReach.step nf true (.unlock 1 c0) r4 (List.mem_singleton.mpr rfl) rfl

/-- non-vacuity of `mutex_exclusive` & co: t1 locks, t2 starts to lock and is queued, t1 unlocks,
t2 polls again and holds the lock -/
example : ∃ g, MReach g ∧ g.m.holder = some 2 ∧ g.guards = [2] ∧ g.m.sem.avail = 0 ∧
    g.m.sem.closed = false := ⟨_, r6, rfl, rfl, rfl, rfl⟩

/-- a reachable state with a held lock and a queued waiter -/
example : ∃ g, MReach g ∧ g.m.holder = some 1 ∧ g.m.sem.queue = [1] ∧ g.m.sem.closed = false :=
  ⟨_, r4, rfl, rfl, rfl⟩

/-- `try_lock` barges: in `s5` (free, t2 queued) a third task's `try_lock` succeeds -/
example : ∃ m', mstep nf false s5 (.tryLock 3 c0) = .ok (m', .tried (.ok 0)) ∧ m'.holder = some 3 :=
  ⟨_, rfl, rfl⟩

/-- `try_lock` while t1 holds the lock fails and changes nothing -/
example : mstep nf false s4 (.tryLock 3 c0) = .ok (s4, .tried .wouldBlock) := rfl

/-- re-entrant `lock` in the reachable state `s2` -/
example : mstep nf false s2 (.lockStart 1 c0) =
    .error s!"deadlock! task TaskId({1}) tried to acquire a Mutex it already holds" :=
  rfl

/-- poisoning: t1 drops its guard while panicking in `s4` -/
example : MReach ⟨s5p, []⟩ ∧ s5p.poisoned = true ∧ s5p.sem.closed = true ∧ s5p.sem.queue = [] ∧
    s5p.holder = none :=
  ⟨r5p, rfl, rfl, rfl, rfl⟩

/-- … a later `lock` gets `Err(Poisoned)` -/
example : ∃ m', mstep nf false s5p (.lockPoisoned 3) = .ok (m', .locked (.poisoned 0)) ∧
    m'.holder = some 3 := ⟨_, rfl, rfl⟩
/-- … a later `try_lock` gets `WouldBlock` -/
example : mstep nf false s5p (.tryLock 3 c0) = .ok (s5p, .tried .wouldBlock) := rfl
/-- F11: t2, queued when the lock was poisoned, has been taken out of the queue without being
unblocked; if it ever polls again its `lock` panics in `unwrap()` -/
example : mstep nf false s5p (.lockPoll 2 1 c0) = .error unwrapErrMsg := rfl
/-- F12: a second `lock` on the poisoned Mutex while the first poisoned guard is alive -/
example : ∃ m', mstep nf false s5p (.lockPoisoned 3) = .ok (m', .locked (.poisoned 0)) ∧
    mstep nf false m' (.lockPoisoned 4) = .error "assertion failed: state.holder.is_none()" :=
  ⟨_, rfl, rfl⟩

end MutexExample

end LocksLts
end ShuttleModel

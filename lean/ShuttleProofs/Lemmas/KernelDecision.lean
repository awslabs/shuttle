import ShuttleProofs.Lemmas.KernelSim
/-!
# The log only grows; every `Decision` taken within the fuel is in the final log;
the chosen task is `Runnable` when its segment starts; `.task` steps vs consultations
-/

namespace ShuttleProofs.Kernel
open ShuttleModel

variable {P : Program} {σ : Type}

theorem runLoop_log_prefix (S : Scheduler σ) (segFuel fuel : Nat) {ms : MaxSteps} {st : ExecState P σ}
    (hi : LoopInv ms st) : ∃ l, (runLoop S segFuel fuel st).st.log.toList = st.log.toList ++ l :=
  runLoop_log_induction S segFuel fuel hi (fun l => ∃ l', l = st.log.toList ++ l')
    (fun _ ev _ ⟨l', h⟩ => ⟨l' ++ [ev], by rw [h, List.append_assoc]⟩)
    (fun _ evs _ ⟨l', h⟩ => ⟨l' ++ evs, by rw [h, List.append_assoc]⟩) ⟨[], (List.append_nil _).symm⟩

theorem decision_logged {S : Scheduler σ} {segFuel m : Nat} {ms : MaxSteps} {st0 st : ExecState P σ} {ev : Ev}
    (h0 : LoopInv ms st0) (hr : ReachN S segFuel m st0 st) (hd : Decision S segFuel st0 st ev)
    (fuel : Nat) (hfuel : m < fuel) : ev ∈ (runLoop S segFuel fuel st0).st.log.toList := by
  have hi : LoopInv ms st := h0.reach ⟨m, hr⟩
  obtain ⟨f, rfl⟩ : ∃ f, fuel = m + (f + 1) := ⟨fuel - m - 1, by omega⟩
  rw [runLoop_add_of_reachN hr, runLoop_succ]
  obtain ⟨ch, s', hask, hmem, rfl⟩ := hd.answer
  cases ch with
  | none =>
    rw [loopStep_choseNone S segFuel hi.next hi.conts hd.consults hask]
    simp
  | some t =>
    obtain ⟨p, _, hl⟩ := loopStep_chose S segFuel hi.next hi.conts hd.consults hask (hmem t rfl)
    have hin : decEv st.k (some t) ∈ (runSegment S t segFuel (segStart st t s') p).st.log.toList := by
      obtain ⟨evs, hlog, _, _⟩ := (runSegment_trace S t segFuel (segStart st t s') p).segLog
      rw [hlog]; simp [segStart]
    cases hls : loopStep S segFuel st with
    | inl r =>
      simp only
      rw [hl] at hls
      rw [(finishSeg_inl hls).1]
      exact hin
    | inr b =>
      simp only
      have hb : LoopInv ms b := hi.step hls
      obtain ⟨l, hl'⟩ := runLoop_log_prefix S segFuel f hb
      rw [hl']
      apply List.mem_append_left
      rw [hl] at hls
      obtain ⟨_, ts, _, rfl⟩ := finishSeg_inr hls
      exact hin

/-- when the chosen task's segment starts, that task is `Runnable` (a spuriously woken one has been
unblocked, which also clears `blocked_in_park`); every other task is untouched -/
theorem segStart_tasks (st : ExecState P σ) (t : Nat) (s' : σ) (hmem : t ∈ st.k.offered) :
    (∃ tk, (segStart st t s').k.tasks[t]? = some tk ∧ tk.state = .runnable) ∧
    (∀ i, i ≠ t → (segStart st t s').k.tasks[i]? = st.k.tasks[i]?) ∧
    (∀ tk, st.k.tasks[t]? = some tk → tk.state = .runnable → (segStart st t s').k.tasks = st.k.tasks) := by
  obtain ⟨tk, h1, h2⟩ := mem_offered.mp hmem
  have hlt : t < st.k.tasks.length := (List.getElem?_eq_some_iff.mp h1).1
  show (∃ tk, (wokenTasks st.k t)[t]? = some tk ∧ tk.state = .runnable) ∧
    (∀ i, i ≠ t → (wokenTasks st.k t)[i]? = st.k.tasks[i]?) ∧
    (∀ tk, st.k.tasks[t]? = some tk → tk.state = .runnable → wokenTasks st.k t = st.k.tasks)
  unfold wokenTasks
  rw [h1]
  simp only
  cases hr : tk.runnable with
  | true =>
    simp only [if_true]
    exact ⟨⟨tk, h1, (Task.runnable_iff tk).mp hr⟩, fun _ _ => trivial, fun _ _ _ => trivial⟩
  | false =>
    simp only [Bool.false_eq_true, if_false]
    refine ⟨⟨_, by rw [List.getElem?_set_self hlt], rfl⟩, ?_, ?_⟩
    · intro i hne
      rw [List.getElem?_set_ne (Ne.symm hne)]
    · intro tk' h3 h4
      cases h3
      rw [(Task.runnable_iff tk).mpr h4] at hr; cases hr

def isTaskStep : SStep → Bool
  | .task _ => true
  | .random => false

/-- number of `.task` steps of a schedule -/
def taskCount (l : List SStep) : Nat := (l.filter isTaskStep).length

theorem taskCount_append (l l' : List SStep) : taskCount (l ++ l') = taskCount l + taskCount l' := by
  simp [taskCount]

theorem taskCount_logSteps_le (l : List Ev) : taskCount (logSteps l) ≤ decCount l := by
  induction l with
  | nil => exact Nat.le_refl _
  | cons ev l ih =>
    have h1 : logSteps (ev :: l) = evSteps ev ++ logSteps l := by simp [logSteps]
    have h2 : decCount (ev :: l) = decCount [ev] + decCount l := decCount_append [ev] l
    rw [h1, taskCount_append, h2]
    have : taskCount (evSteps ev) ≤ decCount [ev] := by
      cases ev with
      | dec o c y ch => cases ch <;> exact Nat.le_of_ble_eq_true rfl
      | draw v => exact Nat.le_of_ble_eq_true rfl
      | obs s => exact Nat.le_of_ble_eq_true rfl
    omega

end ShuttleProofs.Kernel

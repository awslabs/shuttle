import ShuttleProofs.Lemmas.DfsTree

/-! Facts about `paths`: membership, no duplicates, depth truncation. -/

namespace ShuttleProofs.Dfs

/-- Induction on trees and forests together (`Tree.rec` with the motive for a kid read off its tree). -/
theorem Tree.induct {P : Tree → Prop} {Q : Forest → Prop} (leaf : P .leaf) (node : ∀ ks, Q ks → P (.node ks))
    (nil : Q []) (cons : ∀ c t ks, P t → Q ks → Q ((c, t) :: ks)) : (∀ t, P t) ∧ (∀ ks, Q ks) :=
  ⟨fun t => Tree.rec (motive_1 := P) (motive_2 := Q) (motive_3 := fun k => P k.2) leaf node nil
      (fun k ks hk hks => cons k.1 k.2 ks hk hks) (fun _ _ ht => ht) t,
   fun ks => Tree.rec_1 (motive_1 := P) (motive_2 := Q) (motive_3 := fun k => P k.2) leaf node nil
      (fun k ks hk hks => cons k.1 k.2 ks hk hks) (fun _ _ ht => ht) ks⟩

/-- `p` is a maximal root-to-leaf choice sequence of `t`. -/
inductive IsPath : Tree → List Nat → Prop
  | leaf : IsPath .leaf []
  | node {kids : Forest} {c : Nat} {t : Tree} {q : List Nat} :
      (c, t) ∈ kids → IsPath t q → IsPath (.node kids) (c :: q)

theorem mem_pathsF {p : List Nat} {ks : Forest} :
    p ∈ pathsF ks ↔ ∃ c t q, (c, t) ∈ ks ∧ q ∈ paths t ∧ p = c :: q := by
  induction ks with
  | nil => simp [pathsF]
  | cons k rest ih =>
    rw [pathsF, List.mem_append, ih, List.mem_map]
    constructor
    · rintro (⟨q, hq, rfl⟩ | ⟨c', t', q, hm, hq⟩)
      · exact ⟨_, _, q, List.mem_cons_self, hq, rfl⟩
      · exact ⟨c', t', q, List.mem_cons_of_mem _ hm, hq⟩
    · rintro ⟨c', t', q, hm, hq, rfl⟩
      rcases List.mem_cons.1 hm with rfl | hm
      · exact Or.inl ⟨q, hq, rfl⟩
      · exact Or.inr ⟨c', t', q, hm, hq, rfl⟩

/-- every path through a forest begins with the id of one of its kids -/
theorem cons_notin_pathsF {c : Nat} {ks : Forest} (hc : c ∉ ks.map (·.1)) (q : List Nat) : c :: q ∉ pathsF ks :=
  fun h => by
    obtain ⟨_, t, _, hm, _, he⟩ := mem_pathsF.1 h
    cases he
    exact hc (List.mem_map.2 ⟨(c, t), hm, rfl⟩)

theorem isPath_iff (t : Tree) (p : List Nat) : IsPath t p ↔ p ∈ paths t := by
  refine ⟨fun h => ?_, ?_⟩
  · induction h with
    | leaf => exact List.mem_singleton.2 rfl
    | node hm _ ih => exact mem_pathsF.2 ⟨_, _, _, hm, ih, rfl⟩
  · induction p generalizing t with
    | nil =>
      intro h
      cases t with
      | leaf => exact .leaf
      | node kids => obtain ⟨_, _, _, _, _, he⟩ := mem_pathsF.1 h; cases he
    | cons c q ih =>
      intro h
      cases t with
      | leaf => cases List.mem_singleton.1 h
      | node kids => obtain ⟨_, t', _, hm, hq, he⟩ := mem_pathsF.1 h; cases he; exact .node hm (ih t' hq)

theorem isPath_of_mem_pathsF : (ks : Forest) → ∀ p, p ∈ pathsF ks →
    ∃ c t q, (c, t) ∈ ks ∧ IsPath t q ∧ p = c :: q := fun ks p h => by
  obtain ⟨c, t, q, hm, hq, rfl⟩ := mem_pathsF.1 h
  exact ⟨c, t, q, hm, (isPath_iff t q).2 hq, rfl⟩

theorem paths_ne_nil : (t : Tree) → t.WF → paths t ≠ []
  | .leaf, _ => List.cons_ne_nil _ _
  | .node [], h => absurd rfl h.1
  | .node ((c, t) :: rest), h => by
    obtain ⟨p, l, hp⟩ := List.exists_cons_of_ne_nil (paths_ne_nil t h.2.2.1)
    rw [paths, pathsF, hp]
    exact List.cons_ne_nil _ _

theorem nodup_paths : (∀ t : Tree, t.WF → (paths t).Nodup) ∧
    (∀ ks : Forest, (ks.map (·.1)).Nodup → WFF ks → (pathsF ks).Nodup) := by
  refine Tree.induct (fun _ => List.pairwise_singleton _ _) (fun kids ih h => ih h.2.1 h.2.2)
    (fun _ _ => List.nodup_nil) (fun c t rest iht ihr hnd hwf => ?_)
  rw [List.map_cons, List.nodup_cons] at hnd
  refine List.nodup_append.2 ⟨?_, ihr hnd.2 hwf.2, ?_⟩
  · exact List.Pairwise.map _ (fun a b hab h => hab (List.cons.inj h).2) (iht hwf.1)
  · intro a ha b hb hab
    obtain ⟨q, _, rfl⟩ := List.mem_map.1 ha
    exact cons_notin_pathsF hnd.1 q (hab ▸ hb)

/-! ### Depth truncation (`MaxSteps::ContinueAfter(n)`: the execution is cut after `n` decisions) -/

mutual
/-- depth-`n` cut: nodes at depth `n` become leaves -/
def truncate : Nat → Tree → Tree
  | _, .leaf => .leaf
  | 0, .node _ => .leaf
  | n + 1, .node kids => .node (truncateF n kids)
def truncateF : Nat → Forest → Forest
  | _, [] => []
  | n, (c, t) :: rest => (c, truncate n t) :: truncateF n rest
end

theorem truncateF_ids (n : Nat) : ∀ ks : Forest, (truncateF n ks).map (·.1) = ks.map (·.1)
  | [] => by simp [truncateF]
  | (c, t) :: rest => by simp [truncateF, truncateF_ids n rest]

theorem truncate_wf : (∀ t : Tree, ∀ n, t.WF → (truncate n t).WF) ∧
    (∀ ks : Forest, ∀ n, WFF ks → WFF (truncateF n ks)) := by
  refine Tree.induct (fun n _ => by cases n <;> trivial) (fun kids ih n h => ?_) (fun _ _ => trivial)
    (fun c t ks iht ihks n h => ⟨iht n h.1, ihks n h.2⟩)
  cases n with
  | zero => trivial
  | succ n =>
    rw [truncate, Tree.WF, truncateF_ids]
    refine ⟨?_, h.2.1, ih n h.2.2⟩
    cases kids with
    | nil => exact absurd rfl h.1
    | cons k ks => exact List.cons_ne_nil _ _

theorem truncateF_wf : (ks : Forest) → ∀ n, WFF ks → WFF (truncateF n ks) := truncate_wf.2

/-- keep the first occurrence of every element, preserving order -/
def dedup {α : Type} [DecidableEq α] : List α → List α
  | [] => []
  | x :: xs => x :: (dedup xs).filter (fun y => decide (y ≠ x))

section dedup
variable {α β : Type} [DecidableEq α] [DecidableEq β]

theorem mem_dedup {a : α} : ∀ {l : List α}, a ∈ dedup l ↔ a ∈ l
  | [] => by simp [dedup]
  | x :: xs => by
    simp only [dedup, List.mem_cons, List.mem_filter, mem_dedup (l := xs), decide_eq_true_eq]
    by_cases h : a = x <;> simp [h]

theorem nodup_dedup : ∀ l : List α, (dedup l).Nodup
  | [] => by simp [dedup]
  | x :: xs => by
    simp only [dedup, List.nodup_cons, List.mem_filter, decide_eq_true_eq]
    exact ⟨fun h => h.2 rfl, (nodup_dedup xs).sublist List.filter_sublist⟩

theorem dedup_append_disjoint : ∀ (l1 l2 : List α), (∀ a, a ∈ l1 → a ∉ l2) →
    dedup (l1 ++ l2) = dedup l1 ++ dedup l2
  | [], l2, _ => by simp [dedup]
  | x :: l1, l2, h => by
    have ih := dedup_append_disjoint l1 l2 (fun a ha => h a (by simp [ha]))
    have hx : x ∉ dedup l2 := fun hm => h x (by simp) (mem_dedup.1 hm)
    have hf : (dedup l2).filter (fun y => decide (y ≠ x)) = dedup l2 := by
      apply List.filter_eq_self.2
      intro a ha; simp only [decide_eq_true_eq]; intro e; exact hx (e ▸ ha)
    simp only [List.cons_append, dedup, ih, List.filter_append, hf]

theorem dedup_map_inj (f : α → β) (hf : ∀ a b, f a = f b → a = b) : ∀ l : List α,
    dedup (l.map f) = (dedup l).map f
  | [] => by simp [dedup]
  | x :: xs => by
    simp only [List.map_cons, dedup, dedup_map_inj f hf xs, List.filter_map]
    congr 2
    apply List.filter_congr
    intro a _
    simp only [Function.comp, decide_eq_decide]
    exact ⟨fun h e => h (congrArg f e), fun h e => h (hf _ _ e)⟩

theorem dedup_const (x : α) : ∀ l : List α, l ≠ [] → (∀ a ∈ l, a = x) → dedup l = [x]
  | a :: l, _, h => by
    rw [dedup, h a List.mem_cons_self, List.filter_eq_nil_iff.2]
    intro b hb
    simp [h b (List.mem_cons_of_mem _ (mem_dedup.1 hb))]
end dedup

theorem paths_truncate : (∀ t : Tree, ∀ n, t.WF → paths (truncate n t) = dedup ((paths t).map (List.take n))) ∧
    (∀ ks : Forest, ∀ n, (ks.map (·.1)).Nodup → WFF ks →
      pathsF (truncateF n ks) = dedup ((pathsF ks).map (List.take (n + 1)))) := by
  refine Tree.induct (fun n _ => by simp [truncate, paths, dedup]) (fun kids ih n h => ?_) (fun _ _ _ => rfl)
    (fun c t rest iht ihr n hnd hwf => ?_)
  · cases n with
    | zero =>
      -- every path is cut down to `[]`, and there is at least one
      rw [dedup_const [] _ (by simpa using paths_ne_nil _ h) (by simp)]
      rfl
    | succ n => exact ih n h.2.1 h.2.2
  · rw [List.map_cons, List.nodup_cons] at hnd
    have hcomp : (List.take (n + 1) ∘ fun x => c :: x) = ((fun x => c :: x) ∘ List.take n) := rfl
    rw [truncateF, pathsF, pathsF, List.map_append, List.map_map, hcomp, ← List.map_map, dedup_append_disjoint,
      dedup_map_inj _ (fun a b h => (List.cons.inj h).2), iht n hwf.1, ihr n hnd.2 hwf.2]
    -- the two parts are disjoint: their paths begin with different ids
    intro a ha hb
    obtain ⟨q, _, rfl⟩ := List.mem_map.1 ha
    obtain ⟨_ | ⟨c', q'⟩, hp, hpe⟩ := List.mem_map.1 hb <;> cases hpe
    exact cons_notin_pathsF hnd.1 q' hp

theorem pathsF_truncateF : (ks : Forest) → ∀ n, (ks.map (·.1)).Nodup → WFF ks →
    pathsF (truncateF n ks) = dedup ((pathsF ks).map (List.take (n + 1))) := paths_truncate.2

end ShuttleProofs.Dfs

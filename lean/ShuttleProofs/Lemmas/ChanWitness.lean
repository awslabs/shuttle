import ShuttleProofs.Lemmas.ChanReach
import ShuttleProofs.Lemmas.ChanProgress
/-
  C06 — concrete histories, and what the first segments return on the configurations they reach, in
  a form `decide` can evaluate.
-/
namespace ShuttleModel.C06
open ShuttleModel

/-- `P` holds of the configuration reached by the labels `ls` from a fresh channel -/
def After (b : Option Nat) (ls : List Label) (P : Cfg → Prop) : Prop :=
  match runLabels (Cfg.init b) ls with
  | some c => P c
  | none => False

instance (b : Option Nat) (ls : List Label) (P : Cfg → Prop) [DecidablePred P] :
    Decidable (After b ls P) := by
  unfold After
  cases runLabels (Cfg.init b) ls <;> infer_instance

theorem After.reachable {b : Option Nat} {ls : List Label} {P : Cfg → Prop} (h : After b ls P) :
    ∃ c, Reachable b c ∧ P c := by
  unfold After at h
  split at h
  · rename_i c hc
    exact ⟨c, runLabels_reachable ls Reachable.init hc, h⟩
  · exact h.elim

/-- result of the first segment of `send` / `try_send` (`none` = it panics; `some none` = blocked) -/
def sendRes (s : ChanState) (me v : Nat) (cb : Bool) : Option (Option SendRes) :=
  match sendSeg1 s me v cb [] with
  | .ok (_, r, _) => some r
  | .error _ => none

theorem sendRes_eq {s : ChanState} {me v : Nat} {cb : Bool} {r : Option SendRes}
    (h : sendRes s me v cb = some r) : ∃ s' e, sendSeg1 s me v cb [] = .ok (s', r, e) := by
  unfold sendRes at h
  split at h
  · rename_i s' r' e heq
    simp at h; subst h; exact ⟨s', e, heq⟩
  · cases h

def recvRes (s : ChanState) (me : Nat) (cb : Bool) : Option (Option RecvRes) :=
  match recvSeg1 s me cb [] with
  | .ok (_, r, _) => some r
  | .error _ => none

theorem recvRes_eq {s : ChanState} {me : Nat} {cb : Bool} {r : Option RecvRes}
    (h : recvRes s me cb = some r) : ∃ s' e, recvSeg1 s me cb [] = .ok (s', r, e) := by
  unfold recvRes at h
  split at h
  · rename_i s' r' e heq
    simp at h; subst h; exact ⟨s', e, heq⟩
  · cases h

/-- bounded(1): T0 `send 7` fills the buffer, T1 `send 8` blocks, T0 `recv` takes 7 and unblocks
T1 — T1 has not run yet: the buffer is EMPTY, yet `waiting_senders = [1]` -/
def hReserved : List Label :=
  [.sendStart 0 7 true [], .sendStart 1 8 true [], .recvStart 0 true []]

/-- rendezvous: T1 `send 8` finds no receiver and queues -/
def hRdvQueued : List Label := [.sendStart 1 8 true []]

/-- unbounded: T0 blocks in `recv`, then the only `Sender` is dropped while `should_stop()` -/
def hSkipped : List Label := [.recvStart 0 true [], .dropS true]

end ShuttleModel.C06

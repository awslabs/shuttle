import ShuttleProofs.Lemmas.DfsPaths

/-!
How the DFS scheduler walks a choice tree.  `levels` always holds one root-to-leaf path annotated with the
"was that the last sibling" flags (`apaths`); one execution moves it to the next such path (`Step`, `enumT`), and the
driver loop therefore performs `paths t` in order (`runAllEnd_new`).
-/

namespace ShuttleProofs.Dfs
open ShuttleModel.Dfs

abbrev APath := List (Nat × Bool)

/-- some level still has an unexplored sibling -/
def hasFalse (p : APath) : Bool := p.any (fun l => !l.2)

@[simp] theorem hasFalse_nil : hasFalse [] = false := rfl
@[simp] theorem hasFalse_cons (c : Nat) (f : Bool) (p : APath) :
    hasFalse ((c, f) :: p) = (!f || hasFalse p) := rfl

theorem hasMoreChoices_succ (mi : Option Nat) (it : Nat) (pre p : APath) (l : Nat × Bool) (st : Nat) :
    hasMoreChoices ⟨mi, it, pre ++ l :: p, st⟩ (pre.length + 1) = hasFalse p := by
  simp [hasMoreChoices, hasFalse]

/-- First visit of a level: take the first offered id. -/
theorem nextTask_first (mi : Option Nat) (it : Nat) (pre : APath) (c : Nat) (r : List Nat) :
    nextTask ⟨mi, it, pre, pre.length⟩ (c :: r)
      = .ok c ⟨mi, it, pre ++ [(c, r.isEmpty)], pre.length + 1⟩ := by
  cases r <;> simp [nextTask]

/-- Revisit with more work below: keep the choice. -/
theorem nextTask_keep (mi : Option Nat) (it : Nat) (pre p : APath) (c : Nat) (f : Bool)
    (runnable : List Nat) (h : hasFalse p = true) :
    nextTask ⟨mi, it, pre ++ (c, f) :: p, pre.length⟩ runnable
      = .ok c ⟨mi, it, pre ++ (c, f) :: p, pre.length + 1⟩ := by
  simp [nextTask, hasMoreChoices_succ, h]

/-- Revisit with nothing left below: move to the next sibling. -/
theorem nextTask_change (mi : Option Nat) (it : Nat) (pre p : APath) (c c2 : Nat)
    (r1 r2 : List Nat) (h : hasFalse p = false) (hc : c ∉ r1) :
    nextTask ⟨mi, it, pre ++ (c, false) :: p, pre.length⟩ (r1 ++ c :: c2 :: r2)
      = .ok c2 ⟨mi, it, pre ++ [(c2, r2.isEmpty)], pre.length + 1⟩ := by
  have hpos : (r1 ++ c :: c2 :: r2).findIdx? (fun id => id == c) = some r1.length := by
    induction r1 with
    | nil => simp [List.findIdx?_cons]
    | cons a r1 ih =>
      rw [List.mem_cons, not_or] at hc
      simp [List.findIdx?_cons, ih hc.2, Ne.symm hc.1]
  have hflag : (r1.length + 1 == r1.length + (r2.length + 1)) = r2.isEmpty := by
    cases r2 <;> simp
  have h1 : ¬ (List.length pre + (List.length p + 1) ≤ List.length pre) :=
    Nat.not_le.2 (Nat.lt_add_of_pos_right (Nat.succ_pos _))
  simp only [nextTask]
  simp [hasMoreChoices_succ, h, hpos, hflag, h1]

mutual
/-- `paths` annotated with the scheduler's "was that the last sibling" flag. -/
def apaths : Tree → List APath
  | .leaf => [[]]
  | .node kids => apathsF kids
def apathsF : Forest → List APath
  | [] => []
  | (c, t) :: rest => (apaths t).map ((c, rest.isEmpty) :: ·) ++ apathsF rest
end

def strip (p : APath) : List Nat := p.map (·.1)

theorem descend_find (s : DfsState) (c : Nat) (t : Tree) (ks1 ks2 : Forest) (hc : c ∉ ks1.map (·.1)) :
    descend s c (ks1 ++ (c, t) :: ks2) = ((runFrom s t).1.map (c :: ·), (runFrom s t).2) := by
  induction ks1 with
  | nil => simp only [List.nil_append, descend, if_true]
  | cons k ks1 ih =>
    rw [List.map_cons, List.mem_cons, not_or] at hc
    rw [List.cons_append, descend, if_neg (Ne.symm hc.1), ih hc.2]

/-- With `p` recorded below depth `|pre|`, an execution of `t` from that depth follows `p'` and records it. -/
def Moves (t : Tree) (p p' : APath) : Prop :=
  ∀ mi it pre, runFrom ⟨mi, it, pre ++ p, pre.length⟩ t
    = (some (strip p'), ⟨mi, it, pre ++ p', pre.length + p'.length⟩)

/-- `hasFalse p = true ∧ Moves t p p'`: the recorded path `p` has an unexplored sibling somewhere, and re-entering `t`
with it follows `p'`. -/
def Step (t : Tree) (p p' : APath) : Prop :=
  hasFalse p = true ∧
  ∀ mi it pre, runFrom ⟨mi, it, pre ++ p, pre.length⟩ t
    = (some (strip p'), ⟨mi, it, pre ++ p', pre.length + p'.length⟩)

/-- no level of `p` has a sibling left, so `new_execution` stops (dfs.rs:57) -/
def Last (p : APath) : Prop := hasFalse p = false

/-- At a node, once `nextTask` has answered `c` and left `(c, f) :: a` recorded from this depth on, the execution
continues in the kid `c` one level deeper. -/
theorem runFrom_node {t : Tree} {a b : APath} {c : Nat} {f : Bool} {ks1 rest : Forest} {s : DfsState}
    {mi : Option Nat} {it : Nat} {pre : APath}
    (hn : nextTask s ((ks1 ++ (c, t) :: rest).map (·.1)) = .ok c ⟨mi, it, pre ++ (c, f) :: a, pre.length + 1⟩)
    (hc : c ∉ ks1.map (·.1)) (h : Moves t a b) :
    runFrom s (.node (ks1 ++ (c, t) :: rest))
      = (some (strip ((c, f) :: b)), ⟨mi, it, pre ++ (c, f) :: b, pre.length + ((c, f) :: b).length⟩) := by
  have hr := h mi it (pre ++ [(c, f)])
  simp only [List.append_assoc, List.singleton_append, List.length_append, List.length_singleton] at hr
  rw [runFrom, hn]
  simp only
  rw [descend_find _ _ _ _ _ hc, hr]
  simp only [Option.map_some, strip, List.map_cons, List.length_cons, Nat.add_assoc, Nat.add_comm 1]

theorem strip_apaths : (∀ t, (apaths t).map strip = paths t) ∧ (∀ ks, (apathsF ks).map strip = pathsF ks) := by
  refine Tree.induct rfl (fun _ ih => ih) rfl (fun c t rest iht ihr => ?_)
  rw [apathsF, pathsF, List.map_append, List.map_map, ihr, ← iht, List.map_map]
  rfl

theorem strip_apathsF : (ks : Forest) → (apathsF ks).map strip = pathsF ks := strip_apaths.2

/-- A non-empty list in which consecutive elements are `R`-related and the final element satisfies `L`. -/
inductive Enum {α : Type} (R : α → α → Prop) (L : α → Prop) : List α → Prop
  | last {a : α} : L a → Enum R L [a]
  | cons {a b : α} {l : List α} : R a b → Enum R L (b :: l) → Enum R L (a :: b :: l)

theorem Enum.map {α β : Type} {R : α → α → Prop} {L : α → Prop} {R' : β → β → Prop} {L' : β → Prop}
    (f : α → β) (hR : ∀ a b, R a b → R' (f a) (f b)) (hL : ∀ a, L a → L' (f a)) :
    ∀ {l : List α}, Enum R L l → Enum R' L' (l.map f) := by
  intro l h
  induction h with
  | last h => exact .last (hL _ h)
  | cons h _ ih => exact .cons (hR _ _ h) ih

theorem Enum.append {α : Type} {R : α → α → Prop} {L1 L : α → Prop} {b : α} {l2 : List α}
    (h2 : Enum R L (b :: l2)) (hB : ∀ a, L1 a → R a b) :
    ∀ {l1 : List α}, Enum R L1 l1 → Enum R L (l1 ++ b :: l2) := by
  intro l1 h
  induction h with
  | last h => exact .cons (hB _ h) h2
  | cons h _ ih => exact .cons h ih

theorem Enum.ne_nil {α : Type} {R : α → α → Prop} {L : α → Prop} {l : List α} (h : Enum R L l) : l ≠ [] := by
  cases h <;> exact List.cons_ne_nil _ _

theorem apathsF_cons {t : Tree} {p0 : APath} {l : List APath} (c : Nat) (rest : Forest) (h : apaths t = p0 :: l) :
    apathsF ((c, t) :: rest)
      = ((c, rest.isEmpty) :: p0) :: (l.map ((c, rest.isEmpty) :: ·) ++ apathsF rest) := by
  rw [apathsF, h]; rfl

theorem moves_first : (t : Tree) → t.WF → ∃ p0 l, apaths t = p0 :: l ∧ Moves t [] p0
  | .leaf, _ => ⟨[], [], rfl, fun _ _ _ => by rw [List.append_nil]; rfl⟩
  | .node [], h => absurd rfl h.1
  | .node ((c, t) :: rest), h => by
    obtain ⟨p0, l, hp, hf⟩ := moves_first t h.2.2.1
    refine ⟨_, _, apathsF_cons c rest hp, fun mi it pre => ?_⟩
    have hn := nextTask_first mi it pre c (rest.map (·.1))
    rw [List.isEmpty_map] at hn
    rw [List.append_nil]
    exact runFrom_node (ks1 := []) hn List.not_mem_nil hf

theorem step_keep {t : Tree} {a b : APath} (c : Nat) (f : Bool) (ks1 rest : Forest)
    (h : Step t a b) (hc : c ∉ ks1.map (·.1)) :
    Step (.node (ks1 ++ (c, t) :: rest)) ((c, f) :: a) ((c, f) :: b) :=
  ⟨by simp [h.1], fun mi it pre => runFrom_node (nextTask_keep mi it pre a c f _ h.1) hc h.2⟩

theorem step_change {t t2 : Tree} {q p0 : APath} (c c2 : Nat) (ks1 rest : Forest)
    (hq : hasFalse q = false) (h0 : Moves t2 [] p0) (hc : c ∉ ks1.map (·.1))
    (hc2 : c2 ∉ (ks1 ++ [(c, t)]).map (·.1)) :
    Step (.node (ks1 ++ (c, t) :: (c2, t2) :: rest)) ((c, false) :: q) ((c2, rest.isEmpty) :: p0) := by
  refine ⟨rfl, fun mi it pre => ?_⟩
  have hn := nextTask_change mi it pre q c c2 (ks1.map (·.1)) (rest.map (·.1)) hq hc
  rw [List.isEmpty_map] at hn
  have := runFrom_node (ks1 := ks1 ++ [(c, t)]) (rest := rest) (s := ⟨mi, it, pre ++ (c, false) :: q, pre.length⟩)
    (by simpa using hn) hc2 h0
  simpa using this

theorem not_mem_of_nodup_ids {ks1 rest : Forest} {c : Nat} {t : Tree}
    (h : ((ks1 ++ (c, t) :: rest).map (·.1)).Nodup) : c ∉ ks1.map (·.1) := by
  rw [List.map_append, List.map_cons] at h
  exact fun hm => (List.nodup_append.1 h).2.2 c hm c List.mem_cons_self rfl

/-- The annotated paths are consecutive steps of the scheduler.  For the kids `ks2` of a node, given that the kids
`ks1` to their left are done with: inside a kid the scheduler keeps the choice made at the node (`step_keep`), and
from the last path of a kid it moves to the first path of the next (`step_change`). -/
theorem enumT : (∀ t : Tree, t.WF → Enum (Step t) Last (apaths t)) ∧
    (∀ ks2 ks1 : Forest, ks2 ≠ [] → ((ks1 ++ ks2).map (·.1)).Nodup → WFF ks2 →
      Enum (Step (.node (ks1 ++ ks2))) Last (apathsF ks2)) := by
  refine Tree.induct (fun _ => .last rfl) (fun kids ih h => ih [] h.1 h.2.1 h.2.2) (fun _ h => absurd rfl h)
    (fun c t rest iht ihr ks1 _ hnd hwf => ?_)
  have hc := not_mem_of_nodup_ids hnd
  have inside : ∀ L : APath → Prop, (∀ q, hasFalse q = false → L ((c, rest.isEmpty) :: q)) →
      Enum (Step (.node (ks1 ++ (c, t) :: rest))) L ((apaths t).map ((c, rest.isEmpty) :: ·)) :=
    fun L hL => Enum.map _ (fun a b hab => step_keep c _ ks1 rest hab hc) hL (iht hwf.1)
  rw [apathsF]
  cases rest with
  | nil =>
    rw [apathsF, List.append_nil]
    exact inside Last (fun q hq => by simpa [Last] using hq)
  | cons k rest =>
    obtain ⟨c2, t2⟩ := k
    have hnd' : (((ks1 ++ [(c, t)]) ++ (c2, t2) :: rest).map (·.1)).Nodup := by rwa [List.append_assoc]
    have ih := ihr (ks1 ++ [(c, t)]) (List.cons_ne_nil _ _) hnd' hwf.2
    obtain ⟨p0, l0, hp0, hf0⟩ := moves_first t2 hwf.2.1
    rw [List.append_assoc, apathsF_cons c2 rest hp0] at ih
    rw [apathsF_cons c2 rest hp0]
    exact Enum.append ih (fun a ha => by
      obtain ⟨q, rfl, hq⟩ := ha
      exact step_change c c2 ks1 rest hq hf0 hc (not_mem_of_nodup_ids hnd'))
      (inside (fun a => ∃ q, a = (c, false) :: q ∧ hasFalse q = false) (fun q hq => ⟨q, rfl, hq⟩))

theorem enumF : (ks2 : Forest) → (ks1 : Forest) → ks2 ≠ [] → ((ks1 ++ ks2).map (·.1)).Nodup → WFF ks2 →
    Enum (Step (.node (ks1 ++ ks2))) Last (apathsF ks2) := enumT.2

/-- `newExecution` refuses because of the iteration bound. -/
def capped (mi : Option Nat) (it : Nat) : Bool := (mi.map (fun k => decide (it ≥ k))).getD false

theorem newExecution_eq (mi : Option Nat) (it : Nat) (p : APath) (st : Nat) :
    newExecution ⟨mi, it, p, st⟩
      = if capped mi it || (decide (it > 0) && !hasFalse p) then none else some ⟨mi, it + 1, p, 0⟩ := by
  unfold newExecution capped
  cases (Option.map (fun k => decide (it ≥ k)) mi).getD false <;> rfl

/-- what the iteration bound leaves of the remaining executions -/
def budget {α : Type} (mi : Option Nat) (it : Nat) (l : List α) : List α :=
  match mi with
  | none => l
  | some k => l.take (k - it)

theorem budget_of_capped {α : Type} {mi : Option Nat} {it : Nat} (h : capped mi it = true) (l : List α) :
    budget mi it l = [] := by
  cases mi with
  | none => cases h
  | some k => simp [capped] at h; simp [budget, Nat.sub_eq_zero_of_le h]

theorem budget_cons {α : Type} {mi : Option Nat} {it : Nat} (h : capped mi it = false) (a : α) (l : List α) :
    budget mi it (a :: l) = a :: budget mi (it + 1) l := by
  cases mi with
  | none => rfl
  | some k =>
    simp [capped] at h
    have hk : k - it = (k - (it + 1)) + 1 := (Nat.succ_pred_eq_of_pos (Nat.sub_pos_of_lt h)).symm
    simp only [budget]; rw [hk, List.take_succ_cons]

/-- result of the driver loop when exactly the executions `l` remain -/
def outcome (fuel : Nat) (l : List (List Nat)) : List (List Nat) × RunEnd :=
  if fuel ≤ l.length then (l.take fuel, .outOfFuel) else (l, .done)

theorem outcome_succ (fuel : Nat) (a : List Nat) (l : List (List Nat)) :
    outcome (fuel + 1) (a :: l) = (a :: (outcome fuel l).1, (outcome fuel l).2) := by
  unfold outcome
  by_cases h : fuel ≤ l.length <;> simp [h]

theorem runAllEnd_stop {s : DfsState} (h : newExecution s = none) (t : Tree) (fuel : Nat) :
    runAllEnd fuel s t = outcome fuel [] := by
  cases fuel with
  | zero => rfl
  | succ fuel => rw [runAllEnd, h]; rfl

/-- The loop from a state whose next execution moves the scheduler from `q` to `p`, the first of the annotated
paths `p :: l` still to come (`q = []` on a fresh scheduler, where `it = 0` lets `newExecution` through). -/
theorem runAllEnd_walk (t : Tree) (mi : Option Nat) : ∀ (fuel : Nat) (l : List APath) (q p : APath) (it st : Nat),
    Moves t q p → it = 0 ∨ hasFalse q = true → Enum (Step t) Last (p :: l) →
    runAllEnd fuel ⟨mi, it, q, st⟩ t = outcome fuel (budget mi it ((p :: l).map strip)) := by
  intro fuel
  induction fuel with
  | zero => intros; rfl
  | succ fuel ih =>
    intro l q p it st hm hq he
    cases hcap : capped mi it with
    | true =>
      rw [budget_of_capped hcap]
      exact runAllEnd_stop (by rw [newExecution_eq, hcap]; rfl) t _
    | false =>
      have hne : newExecution ⟨mi, it, q, st⟩ = some ⟨mi, it + 1, q, 0⟩ := by
        rw [newExecution_eq, hcap]
        rcases hq with rfl | hq
        · rfl
        · rw [hq]; simp
      have hrun := hm mi (it + 1) []
      rw [List.nil_append, List.nil_append, List.length_nil, Nat.zero_add] at hrun
      rw [List.map_cons, budget_cons hcap, outcome_succ]
      simp only [runAllEnd, hne, runOne, hrun]
      cases he with
      | last hl =>
        rw [runAllEnd_stop (by rw [newExecution_eq, hl]; simp) t fuel,
          show budget mi (it + 1) ([].map strip) = [] by cases mi <;> simp [budget]]
      | cons hs hrest => rw [ih _ p _ (it + 1) _ hs.2 (Or.inr hs.1) hrest]

theorem runAllEnd_new (t : Tree) (h : t.WF) (mi : Option Nat) (fuel : Nat) :
    runAllEnd fuel (DfsState.new mi) t = outcome fuel (budget mi 0 (paths t)) := by
  obtain ⟨p0, l, hp, hf⟩ := moves_first t h
  rw [← strip_apaths.1, hp]
  exact runAllEnd_walk t mi fuel l [] p0 0 0 hf (Or.inl rfl) (hp ▸ enumT.1 t h)

theorem iterExec_of_done (t : Tree) : ∀ (fuel : Nat) (s : DfsState) (ps : List (List Nat)),
    runAllEnd fuel s t = (ps, .done) → ∃ s', iterExec ps.length s t = some s' ∧ newExecution s' = none := by
  intro fuel s
  fun_induction runAllEnd fuel s t <;> intro ps h
  case case2 hnone => cases h; exact ⟨_, rfl, hnone⟩
  case case4 hrest ih =>
    cases h
    obtain ⟨s', hs', hn'⟩ := ih _ hrest
    exact ⟨s', by simp only [List.length_cons, iterExec, *], hn'⟩
  all_goals cases h

theorem runAllEnd_of_outcome {s : DfsState} {t : Tree} {l : List (List Nat)} (hrun : ∀ fuel, runAllEnd fuel s t = outcome fuel l) :
    (∀ fuel, fuel ≥ l.length + 1 → runAllEnd fuel s t = (l, .done)) ∧
    (∀ fuel, fuel ≤ l.length → runAllEnd fuel s t = (l.take fuel, .outOfFuel)) ∧
    (∃ s', iterExec l.length s t = some s' ∧ newExecution s' = none) :=
  have hdone : ∀ fuel, fuel ≥ l.length + 1 → runAllEnd fuel s t = (l, .done) :=
    fun fuel hf => (hrun fuel).trans (if_neg (Nat.not_le.2 hf))
  ⟨hdone, fun fuel hf => (hrun fuel).trans (if_pos hf), iterExec_of_done t _ _ _ (hdone _ (Nat.le_refl _))⟩

end ShuttleProofs.Dfs

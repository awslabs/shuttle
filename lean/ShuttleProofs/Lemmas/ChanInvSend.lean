import ShuttleProofs.Lemmas.ChanInv
/-
  C06 — the invariant is preserved by the two `send` segments.
-/
namespace ShuttleModel.C06
open ShuttleModel

/-- a push takes one clock off `receiver_clock` (none on a rendezvous channel) and adds one message -/
theorem rc_push {s : ChanState} {x : Nat × Clock}
    (h : ∀ k, s.bound = some k →
      ∃ l, s.receiverClock = some l ∧ (0 < k → l.length + s.messages.length = k))
    (hne : s.bound ≠ some 0 → s.receiverClock ≠ some []) (k : Nat) (hb : s.bound = some k) :
    ∃ l, pushRc s = some l ∧ (0 < k → l.length + (s.messages ++ [x]).length = k) := by
  obtain ⟨l, hl, hlen⟩ := h k hb
  unfold pushRc
  rcases k with _ | k
  · exact ⟨l, by rw [if_pos hb, hl], fun h => absurd h (Nat.lt_irrefl 0)⟩
  · have hz : s.bound ≠ some 0 := by rw [hb]; exact fun h => nomatch h
    rcases l with _ | ⟨y, l⟩
    · exact absurd hl (hne hz)
    · refine ⟨l, by rw [if_neg hz, hl]; rfl, fun hk => ?_⟩
      have := hlen hk
      simp only [List.length_cons, List.length_append, List.length_nil] at this ⊢
      omega

/-- rendezvous hand-off: the buffer was empty and the one waiting receiver is unblocked by the push -/
theorem rdv_push {wr ub' : List Nat} {msgs : List (Nat × Clock)} (x : Nat × Clock)
    (hle : wr.length ≤ 1) (hm : msgs = []) (hr : wr ≠ []) (hmem : ∀ r, wr.head? = some r → r ∈ ub') :
    (msgs ++ [x]).length ≤ 1 ∧ (msgs ++ [x] ≠ [] → ∃ r, wr = [r] ∧ r ∈ ub') := by
  obtain ⟨r, rs, rfl⟩ := List.exists_cons_of_ne_nil hr
  obtain rfl : rs = [] := List.eq_nil_of_length_eq_zero (by simpa using hle)
  exact ⟨by simp [hm], fun _ => ⟨r, rfl, hmem r rfl⟩⟩

/-- Task `t` pushes its message: it found room and nobody queued, or it was woken at the head of
`waiting_senders` for the slot reserved for it.  `ws'` is the queue it leaves behind, `ub0` is `ub`
without `t`. -/
theorem Inv.push {c c' : Cfg} (hi : Inv c) {t : Nat} (v : Nat) (clk : Clock) {ws' ub0 : List Nat}
    (h0 : c.ch.knownReceivers ≠ 0) (hws : ws'.Sublist c.ch.waitingSenders)
    (hhead : ∀ h, c.ch.waitingSenders.head? = some h → h = t)
    (hub0 : ∀ x, x ∈ ub0 ↔ x ∈ c.ub ∧ x ≠ t) (htr : t ∉ c.ch.waitingReceivers)
    (hroom : Room c.ch)
    (hc' : c' = { c with
      ch := { c.ch with messages := c.ch.messages ++ [(v, clk)], receiverClock := pushRc c.ch,
                        waitingSenders := ws' }
      ub := ub0 ++ (c.ch.waitingReceivers.head?.toList ++ pushNext { c.ch with waitingSenders := ws' })
      sent := c.sent ++ [(t, v)] }) :
    GoodStep c c' := by
  subst hc'
  have hsub := hws.subset
  -- with a receiver alive only the head of the queue is ever unblocked, and that is `t`
  have hold : ∀ x ∈ ub0, x ∉ c.ch.waitingSenders := fun x hx hw =>
    have ⟨hxu, hne⟩ := (hub0 x).mp hx
    hne (hhead x (hi.sub_head h0 x hxu hw))
  have hmem : ∀ r, c.ch.waitingReceivers.head? = some r → r ∈ ub0 ++
      (c.ch.waitingReceivers.head?.toList ++ pushNext { c.ch with waitingSenders := ws' }) :=
    fun r hr => List.mem_append_right _ (List.mem_append_left _ (Option.mem_toList.mpr hr))
  -- so among the remaining senders only the new head can be unblocked, and only by this push,
  -- which leaves it a slot
  have hub : ∀ x ∈ ub0 ++
      (c.ch.waitingReceivers.head?.toList ++ pushNext { c.ch with waitingSenders := ws' }),
      x ∈ ws' → ws'.head? = some x ∧ ∃ b, c.ch.bound = some b ∧ c.ch.messages.length + 1 < b := by
    intro x hx hr
    rcases List.mem_append.mp hx with hx | hx
    · exact absurd (hsub hr) (hold x hx)
    · rcases List.mem_append.mp hx with hx | hx
      · exact absurd (mem_of_mem_head?_toList hx) (hi.disj x (hsub hr))
      · exact mem_pushNext.mp hx
  exact ⟨{ hi with
    ws_nodup := hi.ws_nodup.sublist hws
    disj := fun x hx => hi.disj x (hsub hx)
    ub_sub := fun x hx => by
      rcases List.mem_append.mp hx with hx | hx
      · exact (hi.ub_sub x ((hub0 x).mp hx).1).imp_left fun h => absurd h (hold x hx)
      · rcases List.mem_append.mp hx with hx | hx
        · exact .inr (mem_of_mem_head?_toList hx)
        · exact .inl (List.mem_of_mem_head? (mem_pushNext.mp hx).1)
    unb := fun hb => ⟨List.eq_nil_of_sublist_nil ((hi.unb hb).1 ▸ hws), by
      show pushRc c.ch = none
      rw [pushRc, if_neg (by rw [hb]; exact fun h => nomatch h), (hi.unb hb).2]; rfl⟩
    rc := rc_push hi.rc (hi.rc_ne_nil fun k hb => (hroom k hb).1)
    -- rendezvous: the buffer was empty and the receiver waits; it is the one unblocked now
    rdv := fun hb =>
      have ⟨hm, hr⟩ := (hroom 0 hb).2 rfl
      rdv_push _ hi.wr_le hm hr hmem
    sub_head := fun _ x hx hr => (hub x hx hr).1
    sub_room := fun _ x hx hr k hb => by
      obtain ⟨-, b, hb', hlt⟩ := hub x hx hr
      obtain rfl : b = k := Option.some.inj (hb'.symm.trans hb)
      exact ⟨fun _ => by simpa using hlt, fun hk => by omega⟩
    rub := fun r _ _ => .inl (by simp)
    ws_live := fun h => hi.ws_live fun hw => h (List.eq_nil_of_sublist_nil (hw ▸ hws))
    ns_space := fun _ k hb _ hl h hh => List.mem_append_right _ (List.mem_append_right _
      (mem_pushNext.mpr ⟨hh, k, hb, by simpa using hl⟩))
    ns_rdv := fun _ _ hm => by simp at hm
    ns_msg := fun _ => hmem
    ns_noR := fun h => absurd h h0
    ns_noS := fun h r hr =>
      List.mem_append_left _ ((hub0 r).mpr ⟨hi.ns_noS h r hr, fun e => htr (e ▸ hr)⟩)
    fifo := by simp [hi.fifo] }, rfl, astep_push h0 (hasRoom_of_room hroom)⟩

theorem inv_sendStart {c c' : Cfg} {t v : Nat} {cb : Bool} {clk : Clock} (hi : Inv c)
    (he : enabled c (.sendStart t v cb clk)) (hf : fire c (.sendStart t v cb clk) = .ok c') :
    GoodStep c c' := by
  obtain ⟨⟨s', r, e⟩, hx, rfl⟩ := map_eq_ok (fire_sendStart.symm.trans hf)
  cases sendSeg1_cases c.ch t v cb clk with
  | disconnected _ heq =>
    rw [heq] at hx
    cases hx
    exact ⟨by simpa [Cfg.afterSend] using hi, rfl, AStep.stutter _⟩
  | full _ _ _ heq =>
    rw [heq] at hx
    cases hx
    exact ⟨by simpa [Cfg.afterSend] using hi, rfl, AStep.stutter _⟩
  | queued h0 hm _ heq =>
    rw [heq] at hx
    cases hx
    rw [afterSend_blocked]
    obtain ⟨he1, he2, he3⟩ := he
    -- `t` joins the back of the queue: whoever was unblocked is still where it was
    have hub : ∀ x ∈ c.ub, x ∈ c.ch.waitingSenders ++ [t] → x ∈ c.ch.waitingSenders := fun x hx hw =>
      (List.mem_append.mp hw).elim id fun h => by
        obtain rfl := List.mem_singleton.mp h
        exact ((hi.ub_sub x hx).elim he2 he3).elim
    -- and if the queue was empty, `t` blocked because there was no room
    have hfull : c.ch.waitingSenders = [] →
        (∃ b, c.ch.bound = some b ∧ max b 1 ≤ c.ch.messages.length) ∨
        (c.ch.bound = some 0 ∧ c.ch.waitingReceivers = []) := fun hw =>
      ((senderMustBlock_iff _).mp hm).imp_right fun h => h.resolve_left (absurd hw)
    exact ⟨{ hi with
      ws_nodup := List.nodup_append.mpr ⟨hi.ws_nodup, List.pairwise_singleton _ t, fun a ha b hb =>
        by rw [List.mem_singleton.mp hb]; exact fun h => he2 (h ▸ ha)⟩
      disj := fun x hx => (List.mem_append.mp hx).elim (hi.disj x) fun h =>
        List.mem_singleton.mp h ▸ he3
      ub_sub := fun x hx => (hi.ub_sub x hx).imp_left (List.mem_append_left _)
      unb := fun hb => by
        rcases hfull (hi.unb hb).1 with ⟨b, hb', -⟩ | ⟨hb', -⟩ <;> rw [hb] at hb' <;> cases hb'
      sub_head := fun _ x hx hw => by
        dsimp only
        rw [List.head?_append, hi.sub_head h0 x hx (hub x hx hw)]; rfl
      sub_room := fun _ x hx hw => hi.sub_room h0 x hx (hub x hx hw)
      ws_live := fun _ => he1
      ns_space := fun _ k hb hk hl h hh => (head?_concat hh).elim (hi.ns_space h0 k hb hk hl h)
        fun ⟨hw, _⟩ => by
          have hl : c.ch.messages.length < k := hl
          rcases hfull hw with ⟨b, hb', hf⟩ | ⟨hb', -⟩ <;> rw [hb] at hb' <;> cases hb' <;> omega
      ns_rdv := fun _ hb hm hr h hh => (head?_concat hh).elim (hi.ns_rdv h0 hb hm hr h)
        fun ⟨hw, _⟩ => by
          rcases hfull hw with ⟨b, hb', hf⟩ | ⟨-, hr'⟩
          · rw [hm] at hf; simp at hf
          · exact absurd hr' hr
      ns_noR := fun h => absurd h h0 }, rfl, AStep.stutter _⟩
  | push h0 hm heq =>
    -- there is room and nobody is queued
    rw [heq] at hx
    obtain ⟨rfl, rfl, hu⟩ := sendSeg_push_ok hx
    obtain ⟨hws, hroom⟩ := not_mustBlock hm
    rw [afterSend_ok, hu, if_neg Bool.false_ne_true]
    exact hi.push v clk h0 (hws := List.Sublist.refl _) (hhead := fun h hh => nomatch hws ▸ hh)
      -- `t` is in no queue, so it was not unblocked
      (hub0 := fun x =>
        ⟨fun h => ⟨h, fun e => (hi.ub_sub x h).elim (e ▸ he.2.1) (e ▸ he.2.2)⟩, And.left⟩)
      (htr := he.2.2) (hroom := hroom) (hc' := rfl)

theorem inv_sendWake {c c' : Cfg} {t : Nat} {clk : Clock} (hi : Inv c)
    (he : enabled c (.sendWake t clk)) (hf : fire c (.sendWake t clk) = .ok c') :
    GoodStep c c' := by
  obtain ⟨⟨s', r, e⟩, hx, rfl⟩ := map_eq_ok (fire_sendWake.symm.trans hf)
  cases sendSeg2_cases c.ch t (c.pv t) clk with
  | disconnected h0 heq =>
    rw [heq] at hx
    cases hx
    rw [afterSend_disc_wake]
    -- `t` leaves `waiting_senders` and `ub` together; it is no receiver, so receivers stay unblocked
    have hne : ∀ r ∈ c.ch.waitingReceivers, r ≠ t := fun r hr h => hi.disj t he.1 (h ▸ hr)
    exact ⟨{ hi with
      ws_nodup := List.Pairwise.filter _ hi.ws_nodup
      disj := fun x hx => hi.disj x (mem_filter_ne.mp hx).1
      ub_sub := fun x hx =>
        have ⟨hx, hn⟩ := mem_filter_ne.mp hx
        (hi.ub_sub x hx).imp_left fun h => mem_filter_ne.mpr ⟨h, hn⟩
      unb := fun hb => ⟨by show List.filter _ _ = []; rw [(hi.unb hb).1]; rfl, (hi.unb hb).2⟩
      rdv := hi.rdv_mono fun r hr hu => mem_filter_ne.mpr ⟨hu, hne r hr⟩
      sub_head := fun h => absurd h0 h
      sub_room := fun h => absurd h0 h
      rub := fun r hr => hi.rub r (mem_filter_ne.mp hr).1
      ws_live := fun h => hi.ws_live fun hw => h (by show List.filter _ _ = []; rw [hw]; rfl)
      ns_space := fun h => absurd h0 h
      ns_rdv := fun h => absurd h0 h
      ns_msg := fun hm r hr =>
        mem_filter_ne.mpr ⟨hi.ns_msg hm r hr, hne r (List.mem_of_mem_head? hr)⟩
      ns_noR := fun h x hx =>
        have ⟨hx, hn⟩ := mem_filter_ne.mp hx
        mem_filter_ne.mpr ⟨hi.ns_noR h x hx, hn⟩
      ns_noS := fun h r hr => mem_filter_ne.mpr ⟨hi.ns_noS h r hr, hne r hr⟩ }, rfl, AStep.stutter _⟩
  | push h0 rest hw heq =>
    rw [heq] at hx
    obtain ⟨rfl, rfl, hu⟩ := sendSeg_push_ok hx
    rw [afterSend_ok, hu, if_pos rfl]
    exact hi.push (c.pv t) clk h0 (hws := hw ▸ List.sublist_cons_self t rest)
      (hhead := fun h hh => (Option.some.inj (hw ▸ hh : (t :: rest).head? = some h)).symm)
      (hub0 := fun x => mem_filter_ne) (htr := hi.disj t he.1)
      (hroom := hi.sub_room h0 t he.2 he.1) (hc' := rfl)
  | panic _ _ p heq =>
    rw [heq] at hx
    cases hx

end ShuttleModel.C06

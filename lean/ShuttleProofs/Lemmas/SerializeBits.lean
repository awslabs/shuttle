/-
  The bit level: `store`/`load` of one integer (`natToBits`/`bitsToNat`), the bit stream as byte
  storage (`packBytes`/`bytesToBits`), the width `taskIdBits` as the least one that fits all ids, and
  the packed steps (`stepsBits`/`decodeSteps`): round trip with arbitrary trailing bits, failure on
  every strict prefix.
-/
import ShuttleModel.Serialize

namespace ShuttleModel

theorem take_add_append {α} {l₁ : List α} {n : Nat} (h : l₁.length = n) (i : Nat) (l₂ : List α) :
    (l₁ ++ l₂).take (n + i) = l₁ ++ l₂.take i :=
  h ▸ List.take_length_add_append ..

@[simp] theorem natToBits_length (w n : Nat) : (natToBits w n).length = w := by
  induction w generalizing n with
  | zero => rfl
  | succ w ih => rw [natToBits, List.length_cons, ih]

theorem natToBits_zero (w : Nat) : natToBits w 0 = List.replicate w false := by
  induction w with
  | zero => rfl
  | succ w ih => rw [natToBits, ih]; rfl

theorem bitsToNat_natToBits (w n : Nat) : bitsToNat (natToBits w n) = n % 2 ^ w := by
  induction w generalizing n with
  | zero => rw [Nat.pow_zero, Nat.mod_one]; rfl
  | succ w ih =>
    have hbit : (if (n % 2 == 1) = true then 1 else 0) = n % 2 := by
      rcases Nat.mod_two_eq_zero_or_one n with h | h <;> rw [h] <;> rfl
    rw [natToBits, bitsToNat, ih, hbit, Nat.pow_succ', Nat.mod_mul]

theorem bitsToNat_natToBits_of_lt {w n : Nat} (h : n < 2 ^ w) : bitsToNat (natToBits w n) = n := by
  rw [bitsToNat_natToBits, Nat.mod_eq_of_lt h]

theorem bitsToNat_lt (l : List Bool) : bitsToNat l < 2 ^ l.length := by
  induction l with
  | nil => exact Nat.one_pos
  | cons b bs ih =>
    rw [bitsToNat, List.length_cons, Nat.pow_succ']
    cases b <;> simp <;> omega

theorem natToBits_bitsToNat (l : List Bool) (w : Nat) (h : l.length ≤ w) :
    natToBits w (bitsToNat l) = l ++ List.replicate (w - l.length) false := by
  induction l generalizing w with
  | nil => exact natToBits_zero w
  | cons b bs ih =>
    cases w with
    | zero => cases h
    | succ w =>
      have hb : (((if b = true then 1 else 0) + 2 * bitsToNat bs) % 2 == 1) = b ∧
          ((if b = true then 1 else 0) + 2 * bitsToNat bs) / 2 = bitsToNat bs := by
        cases b <;> simp <;> omega
      rw [natToBits, bitsToNat, hb.1, hb.2, ih w (Nat.le_of_succ_le_succ h), List.length_cons,
        Nat.add_sub_add_right, List.cons_append]

@[simp] theorem bytesToBits_length (bs : List Nat) : (bytesToBits bs).length = 8 * bs.length := by
  induction bs with
  | nil => rfl
  | cons b bs ih =>
    rw [bytesToBits, List.length_append, natToBits_length, ih, List.length_cons, Nat.mul_add_one,
      Nat.add_comm]

theorem bytesToBits_take (j : Nat) (bs : List Nat) :
    bytesToBits (bs.take j) = (bytesToBits bs).take (8 * j) := by
  induction j generalizing bs with
  | zero => rfl
  | succ j ih =>
    cases bs with
    | nil => rfl
    | cons b bs =>
      rw [List.take_succ_cons, bytesToBits, bytesToBits, ih, Nat.mul_add_one, Nat.add_comm,
        take_add_append (natToBits_length 8 b)]

@[simp] theorem packBytes_length (k : Nat) (bits : List Bool) : (packBytes k bits).length = k := by
  induction k generalizing bits with
  | zero => rfl
  | succ k ih => rw [packBytes, List.length_cons, ih]

theorem packBytes_lt (k : Nat) (bits : List Bool) : ∀ b ∈ packBytes k bits, b < 256 := by
  induction k generalizing bits with
  | zero => intro b hb; cases hb
  | succ k ih =>
    rw [packBytes, List.forall_mem_cons]
    exact ⟨Nat.lt_of_lt_of_le (bitsToNat_lt _)
      (Nat.pow_le_pow_right (by decide) (List.length_take_le 8 bits)), ih _⟩

theorem bytesToBits_packBytes (k : Nat) (bits : List Bool) (h : bits.length ≤ 8 * k) :
    bytesToBits (packBytes k bits) = bits ++ List.replicate (8 * k - bits.length) false := by
  induction k generalizing bits with
  | zero =>
    obtain rfl : bits = [] := List.eq_nil_of_length_eq_zero (Nat.le_zero.1 h)
    rfl
  | succ k ih =>
    rw [packBytes, bytesToBits, ih _ (by rw [List.length_drop]; omega),
      natToBits_bitsToNat _ 8 (List.length_take_le ..), List.length_take, List.length_drop]
    by_cases h8 : 8 ≤ bits.length
    · rw [Nat.min_eq_left h8, Nat.sub_self, List.replicate_zero, List.append_nil,
        ← List.append_assoc, List.take_append_drop]
      congr 2; omega
    · have h8 := Nat.le_of_not_le h8
      rw [List.take_of_length_le h8, List.drop_eq_nil_of_le h8, Nat.min_eq_right h8,
        List.nil_append, List.append_assoc,
        List.replicate_append_replicate]
      congr 2; omega

theorem bitLen_le_iff {n w : Nat} : bitLen n ≤ w ↔ n < 2 ^ w := by
  unfold bitLen
  split
  · subst_vars; simp [Nat.two_pow_pos]
  · next hn => rw [Nat.add_one_le_iff, Nat.log2_lt hn]

theorem maxTaskId_lt_iff {steps : List ScheduleStep} {b : Nat} (hb : 0 < b) :
    maxTaskId steps < b ↔ ∀ id, ScheduleStep.task id ∈ steps → id < b := by
  fun_induction maxTaskId steps <;> simp [*, Nat.max_lt]

theorem one_le_taskIdBits (steps : List ScheduleStep) : 1 ≤ taskIdBits steps :=
  Nat.le_max_right ..

theorem taskIdBits_le_iff {steps : List ScheduleStep} {w : Nat} (hw : 1 ≤ w) :
    taskIdBits steps ≤ w ↔ ∀ id, ScheduleStep.task id ∈ steps → id < 2 ^ w := by
  rw [taskIdBits, Nat.max_le, bitLen_le_iff, maxTaskId_lt_iff (Nat.two_pow_pos w), and_iff_left hw]

theorem lt_two_pow_taskIdBits {steps : List ScheduleStep} {id : Nat}
    (h : ScheduleStep.task id ∈ steps) : id < 2 ^ taskIdBits steps :=
  (taskIdBits_le_iff (one_le_taskIdBits steps)).1 (Nat.le_refl _) id h

theorem taskIdBits_le_64 {s : Schedule} (h : s.wf) : taskIdBits s.steps ≤ 64 :=
  (taskIdBits_le_iff (by omega)).2 h.2.1

/-- Every step is allotted `1 + w` bits; a `Random` step uses one of them. -/
theorem stepsBits_length (w : Nat) (steps : List ScheduleStep) :
    (stepsBits w steps).length + w * steps.count .random = steps.length * (1 + w) := by
  fun_induction stepsBits w steps <;> simp [Nat.succ_mul, Nat.mul_succ] <;> omega

theorem stepsBits_length_le (w : Nat) (steps : List ScheduleStep) :
    (stepsBits w steps).length ≤ steps.length * (1 + w) :=
  Nat.le.intro (stepsBits_length w steps)

theorem decodeSteps_stepsBits (w : Nat) (steps : List ScheduleStep) (tail : List Bool)
    (h : ∀ id, ScheduleStep.task id ∈ steps → id < 2 ^ w) :
    decodeSteps w steps.length (stepsBits w steps ++ tail) = some steps := by
  /- the cases of `stepsBits`: `[]`, `.task i :: rest`, `.random :: rest` -/
  fun_induction stepsBits w steps with
  | case1 => rfl
  | case2 i rest ih =>
    rw [List.length_cons, List.cons_append, List.append_assoc, decodeSteps,
      if_neg (by rw [List.length_append, natToBits_length]; omega),
      List.drop_left' (natToBits_length w i), List.take_left' (natToBits_length w i),
      ih fun id hm => h id (List.mem_cons_of_mem _ hm),
      bitsToNat_natToBits_of_lt (h i (List.mem_cons_self ..))]
  | case3 rest ih =>
    rw [List.length_cons, List.cons_append, decodeSteps, ih fun id hm => h id (List.mem_cons_of_mem _ hm)]

theorem decodeSteps_take (w : Nat) (steps : List ScheduleStep) (q : Nat)
    (hq : q < (stepsBits w steps).length) :
    decodeSteps w steps.length ((stepsBits w steps).take q) = none := by
  fun_induction stepsBits w steps generalizing q with
  | case1 => cases hq
  | case2 i rest ih =>
    cases q with
    | zero => rfl
    | succ q =>
      rw [List.length_cons, List.length_append, natToBits_length] at hq
      rw [List.take_succ_cons, List.length_cons, decodeSteps]
      by_cases hlt : q < w
      · rw [if_pos (by rw [List.length_take, List.length_append, natToBits_length]; omega)]
      · obtain ⟨r, rfl⟩ := Nat.exists_eq_add_of_le (Nat.le_of_not_lt hlt)
        rw [take_add_append (natToBits_length w i), if_neg (by simp),
          List.drop_left' (natToBits_length w i), ih r (by omega)]
  | case3 rest ih =>
    cases q with
    | zero => rfl
    | succ q =>
      rw [List.take_succ_cons, List.length_cons, decodeSteps, ih q (Nat.lt_of_succ_lt_succ hq)]

end ShuttleModel

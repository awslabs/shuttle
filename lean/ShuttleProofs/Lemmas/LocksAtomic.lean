import ShuttleModel.Prim.Locks
/-!
# Atomics (C04, atomic part): every atomic operation is one scheduling point followed by one
indivisible, switch-free segment that performs std's `fetch_update` on the value.
-/
namespace ShuttleModel

/-- is the request the scheduling point `thread::switch()` -/
def KOp.isSwitch {U : Type} : {β : Type} → KOp U β → Bool
  | _, .switch => true
  | _, _ => false

namespace Prog
variable {U : Type}

/-- no `thread::switch()` request anywhere in the program -/
inductive SwitchFree : {α : Type} → Prog U α → Prop
  | pure {α : Type} (a : α) : SwitchFree (Prog.pure a)
  | panic {α : Type} (m : String) : SwitchFree (Prog.panic m : Prog U α)
  | op {α β : Type} (o : KOp U β) (k : β → Prog U α) :
      o.isSwitch = false → (∀ b, SwitchFree (k b)) → SwitchFree (Prog.op o k)

@[simp] theorem pure_bind' {α β : Type} (a : α) (f : α → Prog U β) : (Prog.pure a) >>= f = f a := rfl
@[simp] theorem pure_bind'' {α β : Type} (a : α) (f : α → Prog U β) :
    (Pure.pure a : Prog U α) >>= f = f a := rfl
@[simp] theorem op_bind {α β γ : Type} (o : KOp U γ) (k : γ → Prog U α) (f : α → Prog U β) :
    (Prog.op o k) >>= f = Prog.op o (fun b => k b >>= f) := rfl
@[simp] theorem panic_bind {α β : Type} (m : String) (f : α → Prog U β) :
    (Prog.panic m : Prog U α) >>= f = Prog.panic m := rfl
@[simp] theorem lift_bind {α β : Type} (o : KOp U α) (f : α → Prog U β) :
    (Prog.lift o) >>= f = Prog.op o f := rfl

theorem bind_assoc' {α β γ : Type} (p : Prog U α) (f : α → Prog U β) (g : β → Prog U γ) :
    (p >>= f) >>= g = p >>= fun a => f a >>= g := by
  induction p with
  | pure a => rfl
  | panic m => rfl
  | op o k ih => simp only [op_bind]; congr 1; funext b; exact ih b

theorem bind_pure' {α : Type} (p : Prog U α) : p >>= Prog.pure = p := by
  induction p with
  | pure a => rfl
  | panic m => rfl
  | op o k ih => simp only [op_bind]; congr 1; funext b; exact ih b

theorem SwitchFree.bind {α β : Type} {p : Prog U α} {f : α → Prog U β}
    (hp : p.SwitchFree) (hf : ∀ a, (f a).SwitchFree) : (p >>= f).SwitchFree := by
  induction hp with
  | pure a => exact hf a
  | panic m => exact SwitchFree.panic m
  | op o k ho _ ih => exact SwitchFree.op o _ ho (fun b => ih b)

theorem SwitchFree.lift {β : Type} (o : KOp U β) (ho : o.isSwitch = false) : (Prog.lift o).SwitchFree :=
  SwitchFree.op o _ ho (fun b => SwitchFree.pure b)

theorem SwitchFree.pure' {α : Type} (a : α) : (Pure.pure a : Prog U α).SwitchFree := SwitchFree.pure a

end Prog

namespace K
variable {U : Type}

theorem getU_switchFree : (K.getU : Prog U U).SwitchFree := Prog.SwitchFree.lift _ rfl
theorem setU_switchFree (u : U) : (K.setU u).SwitchFree := Prog.SwitchFree.lift _ rfl
theorem getL_switchFree {S : Type} (L : Lens U S) : (K.getL L).SwitchFree :=
  getU_switchFree.bind (fun _ => Prog.SwitchFree.pure _)
theorem setL_switchFree {S : Type} (L : Lens U S) (s : S) : (K.setL L s).SwitchFree :=
  getU_switchFree.bind (fun _ => setU_switchFree _)
theorem updateClock_switchFree (c : Clock) : (K.updateClock c : Prog U Unit).SwitchFree :=
  Prog.SwitchFree.lift _ rfl
theorem incClock_switchFree : (K.incClock : Prog U Clock).SwitchFree := Prog.SwitchFree.lift _ rfl
/-- the scheduling point itself is (of course) not switch-free: the predicate is not vacuous -/
theorem switch_not_switchFree : ¬ (K.switch : Prog U Unit).SwitchFree := by
  intro h; cases h with | op _ _ ho _ => cases ho

end K

namespace Atomic
variable {U : Type}

theorem exhale_switchFree (L : Lens U AtomicState) : (exhale L).SwitchFree :=
  (K.getL_switchFree L).bind fun _ => (K.setL_switchFree L _).bind fun _ => K.updateClock_switchFree _

theorem inhale_switchFree (L : Lens U AtomicState) : (inhale L).SwitchFree :=
  (K.getL_switchFree L).bind fun _ => K.incClock_switchFree.bind fun _ => K.setL_switchFree L _

/-- what `load` does after its scheduling point -/
def loadBody (L : Lens U AtomicState) : Prog U Nat := do
  exhale L
  let a ← K.getL L
  pure a.value

def storeBody (L : Lens U AtomicState) (v : Nat) : Prog U Unit := do
  inhale L
  let a ← K.getL L
  K.setL L { a with value := v % 2 ^ a.bits }

def swapBody (L : Lens U AtomicState) (v : Nat) : Prog U Nat := do
  exhale L
  inhale L
  let a ← K.getL L
  K.setL L { a with value := v % 2 ^ a.bits }
  pure a.value

def fetchUpdateBody (L : Lens U AtomicState) (f : Nat → Option Nat) : Prog U (Bool × Nat) := do
  exhale L
  let a ← K.getL L
  match f a.value with
  | some v =>
    K.setL L { a with value := v % 2 ^ a.bits }
    inhale L
    pure (true, a.value)
  | none => pure (false, a.value)

theorem load_eq (L : Lens U AtomicState) : load L = K.switch >>= fun _ => loadBody L := rfl
theorem store_eq (L : Lens U AtomicState) (v : Nat) : store L v = K.switch >>= fun _ => storeBody L v := rfl
theorem swap_eq (L : Lens U AtomicState) (v : Nat) : swap L v = K.switch >>= fun _ => swapBody L v := rfl
theorem fetchUpdate_eq (L : Lens U AtomicState) (f : Nat → Option Nat) :
    fetchUpdate L f = K.switch >>= fun _ => fetchUpdateBody L f := rfl

theorem loadBody_switchFree (L : Lens U AtomicState) : (loadBody L).SwitchFree :=
  (exhale_switchFree L).bind fun _ => (K.getL_switchFree L).bind fun _ => Prog.SwitchFree.pure _

theorem storeBody_switchFree (L : Lens U AtomicState) (v : Nat) : (storeBody L v).SwitchFree :=
  (inhale_switchFree L).bind fun _ => (K.getL_switchFree L).bind fun _ => K.setL_switchFree L _

theorem swapBody_switchFree (L : Lens U AtomicState) (v : Nat) : (swapBody L v).SwitchFree :=
  (exhale_switchFree L).bind fun _ => (inhale_switchFree L).bind fun _ =>
    (K.getL_switchFree L).bind fun _ => (K.setL_switchFree L _).bind fun _ => Prog.SwitchFree.pure _

theorem fetchUpdateBody_switchFree (L : Lens U AtomicState) (f : Nat → Option Nat) :
    (fetchUpdateBody L f).SwitchFree :=
  (exhale_switchFree L).bind fun _ => (K.getL_switchFree L).bind fun a => by
    split
    · exact (K.setL_switchFree L _).bind fun _ => (inhale_switchFree L).bind fun _ => Prog.SwitchFree.pure _
    · exact Prog.SwitchFree.pure _

end Atomic

/-- the lens laws (very well-behaved lens) -/
structure Lens.Lawful {U S : Type} (L : Lens U S) : Prop where
  get_set : ∀ (s : S) (u : U), L.get (L.set s u) = s
  set_get : ∀ (u : U), L.set (L.get u) u = u
  set_set : ∀ (s s' : S) (u : U), L.set s (L.set s' u) = L.set s u

/-- std's `fetch_update(f)` on an integer atomic of `bits` bits: new state, `Ok`/`Err`, previous value -/
def AtomicState.rmw (a : AtomicState) (f : Nat → Option Nat) : AtomicState × Bool × Nat :=
  match f a.value with
  | some v => ({ a with value := v % 2 ^ a.bits }, true, a.value)
  | none => (a, false, a.value)

theorem AtomicState.rmw_of_some {a : AtomicState} {f : Nat → Option Nat} {v : Nat} (h : f a.value = some v) :
    a.rmw f = ({ a with value := v % 2 ^ a.bits }, true, a.value) := by
  simp only [AtomicState.rmw, h]

theorem AtomicState.rmw_of_none {a : AtomicState} {f : Nat → Option Nat} (h : f a.value = none) :
    a.rmw f = (a, false, a.value) := by
  simp only [AtomicState.rmw, h]

theorem Atomic.rmw_none (a : AtomicState) : a.rmw (fun _ => none) = (a, false, a.value) := rfl
theorem Atomic.rmw_some (a : AtomicState) (v : Nat) :
    a.rmw (fun _ => some v) = ({ a with value := v % 2 ^ a.bits }, true, a.value) := rfl

section Run
variable {P : Program} {σ : Type} (S : Scheduler σ) (me : Nat)

theorem runSegment_getU (fuel : Nat) (st : ExecState P σ) (kont : P.U → Prog P.U Unit) :
    runSegment S me (fuel + 1) st (.op .getU kont) = runSegment S me fuel st (kont st.u) := rfl

theorem runSegment_setU (fuel : Nat) (st : ExecState P σ) (u : P.U) (kont : Unit → Prog P.U Unit) :
    runSegment S me (fuel + 1) st (.op (.setU u) kont) = runSegment S me fuel { st with u := u } (kont ()) :=
  rfl

theorem runSegment_switch (fuel : Nat) (st : ExecState P σ) (kont : Unit → Prog P.U Unit) :
    runSegment S me (fuel + 1) st (.op .switch kont) =
      .atSwitch { st with conts := st.conts.set me (kont ()) } := rfl

end Run

namespace Atomic
variable {P : Program} {σ : Type} (S : Scheduler σ) (me : Nat)

/-- `st` with the atomic behind `L` replaced by `a` and the clock of task `me` (whose record is `tk`) by `c` -/
def frame (L : Lens P.U AtomicState) (me : Nat) (tk : Task) (st : ExecState P σ) (a : AtomicState)
    (c : Clock) : ExecState P σ :=
  { st with u := L.set a st.u, k := st.k.setTask me { tk with clock := c } }

variable {L : Lens P.U AtomicState}

theorem frame_self (hL : L.Lawful) {st : ExecState P σ} {tk : Task} (h : st.k.tasks[me]? = some tk) :
    frame L me tk st (L.get st.u) tk.clock = st := by
  obtain ⟨hlt, hget⟩ := List.getElem?_eq_some_iff.mp h
  have : st.k.tasks.set me tk = st.k.tasks := by
    rw [← hget]; exact List.set_getElem_self hlt
  simp only [frame, hL.set_get, Kernel.setTask, this]

theorem frame_tasks {st : ExecState P σ} (tk : Task) (a : AtomicState) (c : Clock)
    (hlt : me < st.k.tasks.length) :
    (frame L me tk st a c).k.tasks[me]? = some { tk with clock := c } :=
  List.getElem?_set_self hlt

theorem run_getL (hL : L.Lawful) {fuel : Nat} {st : ExecState P σ} {tk : Task} {a : AtomicState} {c : Clock}
    (k : AtomicState → Prog P.U Unit) :
    runSegment S me (fuel + 1) (frame L me tk st a c) (K.getL L >>= k) =
      runSegment S me fuel (frame L me tk st a c) (k a) := by
  show runSegment S me fuel (frame L me tk st a c) (k (L.get (L.set a st.u))) = _
  rw [hL.get_set]

theorem run_setL (hL : L.Lawful) {fuel : Nat} {st : ExecState P σ} {tk : Task} {a a' : AtomicState} {c : Clock}
    (k : Unit → Prog P.U Unit) :
    runSegment S me (fuel + 2) (frame L me tk st a c) (K.setL L a' >>= k) =
      runSegment S me fuel (frame L me tk st a' c) (k ()) := by
  show runSegment S me fuel { frame L me tk st a c with u := L.set a' (L.set a st.u) } (k ()) = _
  rw [hL.set_set]
  rfl

theorem run_updateClock {fuel : Nat} {st : ExecState P σ} {tk : Task} {a : AtomicState} {c c0 : Clock}
    (hlt : me < st.k.tasks.length) (k : Unit → Prog P.U Unit) :
    runSegment S me (fuel + 1) (frame L me tk st a c) (K.updateClock c0 >>= k) =
      runSegment S me fuel (frame L me tk st a ((c.increment me).update c0)) (k ()) := by
  show runSegment S me (fuel + 1) _ (.op (.updateClock c0) k) = _
  conv => lhs; whnf
  simp only [Kernel.modTask, Kernel.getTask?, frame_tasks me tk a c hlt]
  simp only [frame, Kernel.setTask, List.set_set]

theorem run_incClock {fuel : Nat} {st : ExecState P σ} {tk : Task} {a : AtomicState} {c : Clock}
    (hlt : me < st.k.tasks.length) (k : Clock → Prog P.U Unit) :
    runSegment S me (fuel + 1) (frame L me tk st a c) (K.incClock >>= k) =
      runSegment S me fuel (frame L me tk st a (c.increment me)) (k (c.increment me)) := by
  show runSegment S me (fuel + 1) _ (.op .incClock k) = _
  conv => lhs; whnf
  simp only [Kernel.getTask?, frame_tasks me tk a c hlt]
  simp only [frame, Kernel.setTask, List.set_set]

/-- effect of `exhale_clock` on (atomic, own clock) -/
def exhaleSpec (me : Nat) (a : AtomicState) (c : Clock) : AtomicState × Clock :=
  ({ a with clock := some (a.clock.getD Clock.new) }, (c.increment me).update (a.clock.getD Clock.new))

/-- effect of `inhale_clock` on (atomic, own clock) -/
def inhaleSpec (me : Nat) (a : AtomicState) (c : Clock) : AtomicState × Clock :=
  ({ a with clock := some ((a.clock.getD Clock.new).update (c.increment me)) }, c.increment me)

theorem run_exhale (hL : L.Lawful) {fuel : Nat} {st : ExecState P σ} {tk : Task} {a : AtomicState} {c : Clock}
    (hlt : me < st.k.tasks.length) (k : Unit → Prog P.U Unit) :
    runSegment S me (fuel + 4) (frame L me tk st a c) (exhale L >>= k) =
      runSegment S me fuel (frame L me tk st (exhaleSpec me a c).1 (exhaleSpec me a c).2) (k ()) := by
  simp only [exhale, Prog.bind_assoc']
  rw [run_getL S me hL, run_setL S me hL, run_updateClock S me hlt]
  rfl

theorem run_inhale (hL : L.Lawful) {fuel : Nat} {st : ExecState P σ} {tk : Task} {a : AtomicState} {c : Clock}
    (hlt : me < st.k.tasks.length) (k : Unit → Prog P.U Unit) :
    runSegment S me (fuel + 4) (frame L me tk st a c) (inhale L >>= k) =
      runSegment S me fuel (frame L me tk st (inhaleSpec me a c).1 (inhaleSpec me a c).2) (k ()) := by
  simp only [inhale, Prog.bind_assoc']
  rw [run_getL S me hL, run_incClock S me hlt, run_setL S me hL]
  rfl

def loadSpec (me : Nat) (a : AtomicState) (c : Clock) : AtomicState × Clock := exhaleSpec me a c

def storeSpec (me : Nat) (v : Nat) (a : AtomicState) (c : Clock) : AtomicState × Clock :=
  ({ (inhaleSpec me a c).1 with value := v % 2 ^ a.bits }, (inhaleSpec me a c).2)

def swapSpec (me : Nat) (v : Nat) (a : AtomicState) (c : Clock) : AtomicState × Clock :=
  storeSpec me v (exhaleSpec me a c).1 (exhaleSpec me a c).2

def fetchUpdateSpec (me : Nat) (f : Nat → Option Nat) (a : AtomicState) (c : Clock) : AtomicState × Clock :=
  match f a.value with
  | some v => inhaleSpec me { (exhaleSpec me a c).1 with value := v % 2 ^ a.bits } (exhaleSpec me a c).2
  | none => exhaleSpec me a c

/-- number of kernel requests `fetch_update` issues after its scheduling point -/
def fetchUpdateCost (f : Nat → Option Nat) (a : AtomicState) : Nat :=
  match f a.value with
  | some _ => 11
  | none => 5

/-- `st'` is `st` after task `me` performed std's `fetch_update(f)` on the atomic behind `L`, and nothing
else happened: value and result as std, the integer type (`bits`, …) unchanged, the rest of the shared
state unchanged, continuations / scheduler state / log unchanged, and the kernel differs only in task
`me`'s vector clock. -/
structure RmwEffect (L : Lens P.U AtomicState) (me : Nat) (f : Nat → Option Nat)
    (st st' : ExecState P σ) : Prop where
  value : (L.get st'.u).value = ((L.get st.u).rmw f).1.value
  bits : (L.get st'.u).bits = (L.get st.u).bits
  /-- every field of the atomic other than `value` and its vector clock is unchanged -/
  rest : ∃ cl, L.get st'.u = { (L.get st.u) with value := ((L.get st.u).rmw f).1.value, clock := cl }
  frame : st'.u = L.set (L.get st'.u) st.u
  conts : st'.conts = st.conts
  log : st'.log = st.log
  sch : st'.sch = st.sch
  kernel : ∃ tk c, st.k.tasks[me]? = some tk ∧ st'.k = st.k.setTask me { tk with clock := c }

theorem frame_effect (hL : L.Lawful) {st : ExecState P σ} {tk : Task} (h : st.k.tasks[me]? = some tk)
    {f : Nat → Option Nat} {a' : AtomicState} {c' : Clock}
    (ha : ∃ cl, a' = { (L.get st.u) with value := ((L.get st.u).rmw f).1.value, clock := cl }) :
    RmwEffect L me f st (frame L me tk st a' c') := by
  obtain ⟨cl, ha⟩ := ha
  have hg : L.get (frame L me tk st a' c').u = a' := hL.get_set a' st.u
  exact ⟨by rw [hg, ha], by rw [hg, ha], ⟨cl, by rw [hg, ha]⟩, by rw [hg]; rfl, rfl, rfl, rfl, ⟨tk, c', h, rfl⟩⟩

/-- The body `body` of an atomic operation is the read-modify-write `f`: run from a state whose atomic is
`a` and whose own clock is `c` it issues `cost a` kernel requests, none of them a scheduling point, acts
on (atomic, own clock) as the pure function `spec`, which on the value is std's `fetch_update(f)`, and
hands `res a` to the rest of the program. -/
structure IsRmw {α : Type} (L : Lens P.U AtomicState) (body : Prog P.U α) (f : Nat → Option Nat)
    (cost : AtomicState → Nat) (spec : AtomicState → Clock → AtomicState × Clock)
    (res : AtomicState → α) : Prop where
  run : ∀ (fuel : Nat) (st : ExecState P σ) (tk : Task) (a : AtomicState) (c : Clock),
    me < st.k.tasks.length → ∀ k : α → Prog P.U Unit,
      runSegment S me (fuel + cost a) (frame L me tk st a c) (body >>= k) =
        runSegment S me fuel (frame L me tk st (spec a c).1 (spec a c).2) (k (res a))
  value : ∀ a c, ∃ cl, (spec a c).1 = { a with value := (a.rmw f).1.value, clock := cl }

theorem loadBody_isRmw (hL : L.Lawful) :
    IsRmw S me L (loadBody L) (fun _ => none) (fun _ => 5) (loadSpec me) (·.value) where
  run fuel st tk a c hlt k := by
    simp only [loadBody, Prog.bind_assoc']
    rw [run_exhale S me hL hlt, run_getL S me hL]
    rfl
  value _ _ := ⟨_, rfl⟩

theorem storeBody_isRmw (hL : L.Lawful) (v : Nat) :
    IsRmw S me L (storeBody L v) (fun _ => some v) (fun _ => 7) (storeSpec me v) (fun _ => ()) where
  run fuel st tk a c hlt k := by
    simp only [storeBody, Prog.bind_assoc']
    rw [run_inhale S me hL hlt, run_getL S me hL, run_setL S me hL]
    rfl
  value _ _ := ⟨_, rfl⟩

theorem swapBody_isRmw (hL : L.Lawful) (v : Nat) :
    IsRmw S me L (swapBody L v) (fun _ => some v) (fun _ => 11) (swapSpec me v) (·.value) where
  run fuel st tk a c hlt k := by
    simp only [swapBody, Prog.bind_assoc']
    rw [run_exhale S me hL hlt, run_inhale S me hL hlt, run_getL S me hL,
      run_setL S me hL]
    rfl
  value _ _ := ⟨_, rfl⟩

theorem fetchUpdateBody_isRmw (hL : L.Lawful) (f : Nat → Option Nat) :
    IsRmw S me L (fetchUpdateBody L f) f (fetchUpdateCost f) (fetchUpdateSpec me f)
      (fun a => (a.rmw f).2) where
  run fuel st tk a c hlt k := by
    simp only [fetchUpdateBody, Prog.bind_assoc']
    cases hf : f a.value
    -- in either case `exhale` and the read of the old value come first
    all_goals
      simp only [fetchUpdateCost, fetchUpdateSpec, AtomicState.rmw, hf]
      rw [run_exhale S me hL hlt, run_getL S me hL]
      simp only [exhaleSpec, hf, Prog.bind_assoc']
    · rfl
    · rw [run_setL S me hL, run_inhale S me hL hlt]
      rfl
  value a c := by
    cases hf : f a.value <;> exact ⟨_, by simp only [fetchUpdateSpec, AtomicState.rmw, hf]; rfl⟩

section IsRmw
variable {S me} {α : Type} {body : Prog P.U α} {f : Nat → Option Nat} {cost : AtomicState → Nat}
  {spec : AtomicState → Clock → AtomicState × Clock} {res : AtomicState → α}

theorem IsRmw.effect (hb : IsRmw S me L body f cost spec res) (hL : L.Lawful)
    {st : ExecState P σ} {tk : Task} (h : st.k.tasks[me]? = some tk) (fuel : Nat)
    (k : α → Prog P.U Unit) :
    ∃ st', runSegment S me (fuel + cost (L.get st.u)) st (body >>= k) =
        runSegment S me fuel st' (k (res (L.get st.u))) ∧
      RmwEffect L me f st st' := by
  -- `st` is its own frame around the present atomic and clock (`frame_self`)
  have e := hb.run fuel st tk (L.get st.u) tk.clock (List.getElem?_eq_some_iff.mp h).1 k
  rw [frame_self me hL h] at e
  exact ⟨_, e, frame_effect me hL h (hb.value _ _)⟩

end IsRmw

theorem fetchAdd_runSegment (hL : L.Lawful) {st : ExecState P σ} {tk : Task}
    (h : st.k.tasks[me]? = some tk) (fuel : Nat) (n : Nat) (k : Bool × Nat → Prog P.U Unit) :
    ∃ st', runSegment S me (fuel + 11) st (fetchUpdateBody L (fun old => some (old + n)) >>= k) =
        runSegment S me fuel st' (k (true, (L.get st.u).value)) ∧
      (L.get st'.u).value = ((L.get st.u).value + n) % 2 ^ (L.get st.u).bits ∧
      RmwEffect L me (fun old => some (old + n)) st st' := by
  obtain ⟨st', e, eff⟩ := (fetchUpdateBody_isRmw S me hL fun old => some (old + n)).effect hL h fuel k
  exact ⟨st', e, eff.value, eff⟩

theorem compareExchange_runSegment (hL : L.Lawful) {st : ExecState P σ} {tk : Task}
    (h : st.k.tasks[me]? = some tk) (fuel : Nat) (cur new : Nat) (k : Bool × Nat → Prog P.U Unit) :
    ∃ st', runSegment S me (fuel + (if (L.get st.u).value = cur then 11 else 5)) st
          (fetchUpdateBody L (fun old => if old == cur then some new else none) >>= k) =
        runSegment S me fuel st' (k ((L.get st.u).value = cur, (L.get st.u).value)) ∧
      (L.get st'.u).value = (if (L.get st.u).value = cur then new % 2 ^ (L.get st.u).bits
        else (L.get st.u).value) ∧
      RmwEffect L me (fun old => if old == cur then some new else none) st st' := by
  obtain ⟨st', e, eff⟩ :=
    (fetchUpdateBody_isRmw S me hL fun old => if old == cur then some new else none).effect hL h fuel k
  have hv := eff.value
  -- cost, result and new value are those of the branch `f old` takes
  by_cases hc : (L.get st.u).value = cur
  · have hf : (fun old => if old == cur then some new else none) (L.get st.u).value = some new :=
      if_pos (beq_iff_eq.mpr hc)
    simp only [fetchUpdateCost, AtomicState.rmw, hf] at e hv
    simp only [hc, if_true, decide_true] at e hv ⊢
    exact ⟨st', e, hv, eff⟩
  · have hf : (fun old => if old == cur then some new else none) (L.get st.u).value = none :=
      if_neg (mt beq_iff_eq.mp hc)
    simp only [fetchUpdateCost, AtomicState.rmw, hf] at e hv
    simp only [hc, if_false, decide_false] at e hv ⊢
    exact ⟨st', e, hv, eff⟩

end Atomic

section SwitchFreeRun
variable {P : Program} {σ : Type} (S : Scheduler σ) (me : Nat)

/-- what one request other than `switch` does: the segment goes on (no continuation is stored: `conts` only
grows by the bodies of spawned tasks), or the request fails (task panic / scheduler panic in `next_u64`) -/
inductive NonSwitchOutcome (fuel : Nat) (st : ExecState P σ) {β : Type} (kont : β → Prog P.U Unit) :
    SegEnd P σ → Prop
  | go (st' : ExecState P σ) (b : β) (ext : List (Prog P.U Unit)) : st'.conts = st.conts ++ ext →
      NonSwitchOutcome fuel st kont (runSegment S me fuel st' (kont b))
  | failed (msg : String) : NonSwitchOutcome fuel st kont (.panicked msg st)
  | schedPanic (msg : String) (st' : ExecState P σ) : st'.conts = st.conts →
      NonSwitchOutcome fuel st kont (.schedPanic msg st')

theorem NonSwitchOutcome.onTask {fuel : Nat} {st : ExecState P σ} {β : Type} {kont : β → Prog P.U Unit} {b : β}
    {t : Nat} {f : Task → Except String Task} :
    NonSwitchOutcome S me fuel st kont
      (match st.k.modTask t f with
        | .ok k' => runSegment S me fuel { st with k := k' } (kont b)
        | .error e => SegEnd.panicked e st) := by
  cases st.k.modTask t f with
  | error e => exact .failed e
  | ok k' => exact .go { st with k := k' } b [] (by simp)

theorem NonSwitchOutcome.same {fuel : Nat} {st : ExecState P σ} {β : Type} {kont : β → Prog P.U Unit} {b : β}
    {st' : ExecState P σ} (h : st'.conts = st.conts) :
    NonSwitchOutcome S me fuel st kont (runSegment S me fuel st' (kont b)) :=
  .go st' b [] (by simp [h])

theorem runSegment_op_nonswitch (fuel : Nat) (st : ExecState P σ) {β : Type} (o : KOp P.U β)
    (ho : o.isSwitch = false) (kont : β → Prog P.U Unit) :
    NonSwitchOutcome S me fuel st kont (runSegment S me (fuel + 1) st (.op o kont)) := by
  -- every case is the corresponding arm of `runSegment`, to which the outcome (`arg 6`) unfolds
  cases o with
  | switch => cases ho
  | me | getU | setU | emit | isFinished | requestYield | clock | clockOf | exitTruncates | resetSteps
  | ctxSwitches | isPanicking => exact .same S me rfl
  | block | blockTask | sleepUnlessWoken | unblock | unpark | detach | updateClock | joinClockOf =>
    exact .onTask S me
  | spawn fut body => exact .go _ _ [P.bodies body] rfl
  | wake t =>
    rw [show runSegment S me (fuel + 1) st (.op (.wake t) kont) = ite _ _ _ from rfl]
    split
    · exact .same S me rfl
    · split
      · exact .failed _
      · split
        · exact .same S me rfl
        · exact .onTask S me
  | rand =>
    conv => arg 6; whnf
    rcases S.nextU64 st.sch with ⟨r, s'⟩
    cases r with
    | ok v => exact .same S me rfl
    | error e => exact .schedPanic e _ rfl
  | park | setWaiter =>
    conv => arg 6; whnf
    split
    · exact .failed _
    · split
      · exact .same S me rfl
      · exact .failed _
  | takeWaiter | incClock =>
    conv => arg 6; whnf
    split
    · exact .failed _
    · exact .same S me rfl

/-- how running `p >>= k` (with `p` switch-free) from `st` with `fuel` can go: `p` is executed completely
inside the current segment and the segment goes on with `k a`; or `p` raises a panic (unwinding starts in
the state reached); or a kernel request of `p` fails; or the segment's fuel runs out inside `p`.
In no case is a scheduling point reached inside `p`. -/
inductive SwitchFreeOutcome {α : Type} (fuel : Nat) (st : ExecState P σ) (k : α → Prog P.U Unit) :
    SegEnd P σ → Prop
  | done (fuel' : Nat) (st' : ExecState P σ) (a : α) (ext : List (Prog P.U Unit)) :
      fuel' ≤ fuel → st'.conts = st.conts ++ ext →
      SwitchFreeOutcome fuel st k (runSegment S me fuel' st' (k a))
  | raised (fuel' : Nat) (st' : ExecState P σ) (msg : String) (ext : List (Prog P.U Unit)) :
      fuel' ≤ fuel → st'.conts = st.conts ++ ext →
      SwitchFreeOutcome fuel st k (runSegment S me fuel' st' (.panic msg))
  | failed (msg : String) (st' : ExecState P σ) (ext : List (Prog P.U Unit)) :
      st'.conts = st.conts ++ ext → SwitchFreeOutcome fuel st k (.panicked msg st')
  | schedPanic (msg : String) (st' : ExecState P σ) (ext : List (Prog P.U Unit)) :
      st'.conts = st.conts ++ ext → SwitchFreeOutcome fuel st k (.schedPanic msg st')
  | outOfFuel (st' : ExecState P σ) (rest : Prog P.U Unit) (ext : List (Prog P.U Unit)) :
      st'.conts = st.conts ++ ext →
      SwitchFreeOutcome fuel st k (.outOfFuel { st' with conts := st'.conts.set me rest })

theorem SwitchFreeOutcome.step {α : Type} {fuel : Nat} {st st1 : ExecState P σ} {k : α → Prog P.U Unit}
    {e : SegEnd P σ} (ext : List (Prog P.U Unit)) (h1 : st1.conts = st.conts ++ ext)
    (h : SwitchFreeOutcome S me fuel st1 k e) : SwitchFreeOutcome S me (fuel + 1) st k e := by
  have ext_trans : ∀ {c ext' : List (Prog P.U Unit)}, c = st1.conts ++ ext' → c = st.conts ++ (ext ++ ext') :=
    fun hc => by rw [hc, h1, List.append_assoc]
  cases h with
  | done fuel' st' a ext' hf hc => exact .done fuel' st' a _ (Nat.le_succ_of_le hf) (ext_trans hc)
  | raised fuel' st' msg ext' hf hc => exact .raised fuel' st' msg _ (Nat.le_succ_of_le hf) (ext_trans hc)
  | failed msg st' ext' hc => exact .failed msg st' _ (ext_trans hc)
  | schedPanic msg st' ext' hc => exact .schedPanic msg st' _ (ext_trans hc)
  | outOfFuel st' rest ext' hc => exact .outOfFuel st' rest _ (ext_trans hc)

/-- a switch-free piece of program is executed inside one segment: part (a) of `C04.atomic_total_order` -/
theorem runSegment_switchFree {α : Type} {p : Prog P.U α} (hp : p.SwitchFree) (k : α → Prog P.U Unit) :
    ∀ (fuel : Nat) (st : ExecState P σ),
      SwitchFreeOutcome S me fuel st k (runSegment S me fuel st (p >>= k)) := by
  induction hp with
  | pure a => intro fuel st; exact .done fuel st a [] (Nat.le_refl _) (by simp)
  | panic m => intro fuel st; exact .raised fuel st m [] (Nat.le_refl _) (by simp)
  | op o kont ho _ ih =>
    intro fuel st
    cases fuel with
    | zero => exact .outOfFuel st _ [] (by simp)
    | succ fuel =>
      have h1 := runSegment_op_nonswitch S me fuel st o ho (fun b => kont b >>= k)
      rw [Prog.op_bind]
      generalize runSegment S me (fuel + 1) st (.op o fun b => kont b >>= k) = e at h1
      cases h1 with
      | go st' b ext hc => exact (ih b fuel st').step S me ext hc
      | failed msg => exact .failed msg st [] (by simp)
      | schedPanic msg st' hc => exact .schedPanic msg st' [] (by simp [hc])

/-- a segment of a switch-free program (whose destructors are switch-free too) never ends at a scheduling
point -/
theorem runSegment_switchFree_ne_atSwitch (hu : (P.unwind me).SwitchFree) :
    ∀ (fuel : Nat) (st : ExecState P σ) (p : Prog P.U Unit), p.SwitchFree →
      ∀ st', runSegment S me fuel st p ≠ .atSwitch st' := by
  intro fuel
  induction fuel with
  | zero => intro st p _ st' h; cases h
  | succ fuel ih =>
    intro st p hp st'
    cases hp with
    | pure a =>
      -- the closure has returned: the segment ends in `.returned` or `.panicked`
      cases a
      conv => lhs; whnf
      repeat' split
      all_goals exact fun h => by cases h
    | panic m =>
      -- a panic aborts, or the segment goes on with the destructors `P.unwind me`
      conv => lhs; whnf
      split
      · split
        · exact fun h => by cases h
        · exact ih _ _ hu st'
      · exact ih _ _ hu st'
    | op o kont ho hk =>
      have h1 := runSegment_op_nonswitch S me fuel st o ho kont
      generalize runSegment S me (fuel + 1) st (.op o kont) = e at h1
      cases h1 with
      | go st1 b ext hc => exact ih _ _ (hk b) st'
      | failed msg => exact fun h => by cases h
      | schedPanic msg st1 hc => exact fun h => by cases h

end SwitchFreeRun

namespace Atomic
variable {P : Program} {σ : Type} (S : Scheduler σ) (me : Nat) {L : Lens P.U AtomicState}

/-- a task that reaches `load` stops at the scheduling point with *nothing* of the operation done; what it
will run when it is next scheduled is exactly `loadBody` followed by the rest of its program -/
theorem load_runSegment_atSwitch (fuel : Nat) (st : ExecState P σ) (k : Nat → Prog P.U Unit) :
    runSegment S me (fuel + 1) st (load L >>= k) =
      .atSwitch { st with conts := st.conts.set me (loadBody L >>= k) } := rfl

theorem store_runSegment_atSwitch (fuel : Nat) (st : ExecState P σ) (v : Nat) (k : Unit → Prog P.U Unit) :
    runSegment S me (fuel + 1) st (store L v >>= k) =
      .atSwitch { st with conts := st.conts.set me (storeBody L v >>= k) } := rfl

theorem swap_runSegment_atSwitch (fuel : Nat) (st : ExecState P σ) (v : Nat) (k : Nat → Prog P.U Unit) :
    runSegment S me (fuel + 1) st (swap L v >>= k) =
      .atSwitch { st with conts := st.conts.set me (swapBody L v >>= k) } := rfl

theorem fetchUpdate_runSegment_atSwitch (fuel : Nat) (st : ExecState P σ) (f : Nat → Option Nat)
    (k : Bool × Nat → Prog P.U Unit) :
    runSegment S me (fuel + 1) st (fetchUpdate L f >>= k) =
      .atSwitch { st with conts := st.conts.set me (fetchUpdateBody L f >>= k) } := rfl

end Atomic

section Loop
variable {P : Program} {σ : Type} (S : Scheduler σ)

/-- the state in which the chosen task's segment starts -/
def afterSchedule (st : ExecState P σ) (k : Kernel) (s : σ) (ev : Option Ev) : ExecState P σ :=
  { st with k := k.advance, sch := s, log := match ev with | some e => st.log.push e | none => st.log }

theorem advance_tasks (k : Kernel) : k.advance.tasks = k.tasks := by
  unfold Kernel.advance
  simp only
  split <;> rfl

theorem runLoop_segment_atSwitch {segFuel fuel : Nat} {st : ExecState P σ} {k : Kernel} {s : σ}
    {ev : Option Ev} {t : Nat} {p : Prog P.U Unit} {st'' : ExecState P σ}
    (hs : st.k.schedule S st.sch = .ok k s ev) (hc : k.advance.current = .some t)
    (hp : st.conts[t]? = some p)
    (he : runSegment S t segFuel (afterSchedule st k s ev) p = .atSwitch st'') :
    runLoop S segFuel (fuel + 1) st = runLoop S segFuel fuel st'' := by
  rw [runLoop]
  simp only [hs, hc, hp]
  -- `he` up to unfolding `afterSchedule`
  erw [he]

/-- the scheduler picked a task that is about to start an atomic operation (`*_eq`): this iteration of
`runLoop` only moves the task past the operation's scheduling point, shared state untouched -/
theorem runLoop_at_switch (segFuel fuel : Nat) (st : ExecState P σ) (k : Kernel) (s : σ) (ev : Option Ev)
    (t : Nat) (kont : Unit → Prog P.U Unit)
    (hs : st.k.schedule S st.sch = .ok k s ev) (hc : k.advance.current = .some t)
    (hp : st.conts[t]? = some (.op .switch kont)) :
    runLoop S (segFuel + 1) (fuel + 1) st =
      runLoop S (segFuel + 1) fuel
        { afterSchedule st k s ev with conts := (afterSchedule st k s ev).conts.set t (kont ()) } :=
  runLoop_segment_atSwitch S hs hc hp rfl

variable {S} in
/-- the scheduler picked a task that has passed the scheduling point of an operation and whose next
request after the operation is again a scheduling point: this iteration performs exactly the operation,
indivisibly -/
theorem Atomic.IsRmw.loop {L : Lens P.U AtomicState} {t : Nat} {α : Type} {body : Prog P.U α}
    {f : Nat → Option Nat} {cost : AtomicState → Nat} {spec : AtomicState → Clock → AtomicState × Clock}
    {res : AtomicState → α} (hb : Atomic.IsRmw S t L body f cost spec res) (hL : L.Lawful) (sf fuel : Nat)
    (st : ExecState P σ) (k : Kernel) (s : σ) (ev : Option Ev) (tk : Task)
    (kont : α → Unit → Prog P.U Unit)
    (hs : st.k.schedule S st.sch = .ok k s ev) (hc : k.advance.current = .some t)
    (hp : st.conts[t]? = some (body >>= fun r => .op .switch (kont r)))
    (ht : k.tasks[t]? = some tk) :
    ∃ st', runLoop S (sf + 1 + cost (L.get st.u)) (fuel + 1) st =
        runLoop S (sf + 1 + cost (L.get st.u)) fuel
          { st' with conts := st'.conts.set t (kont (res (L.get st.u)) ()) } ∧
      Atomic.RmwEffect L t f (afterSchedule st k s ev) st' := by
  have ht' : (afterSchedule st k s ev).k.tasks[t]? = some tk := (advance_tasks k).symm ▸ ht
  obtain ⟨st', e, eff⟩ := hb.effect hL ht' (sf + 1) fun r => .op .switch (kont r)
  exact ⟨st', runLoop_segment_atSwitch S hs hc hp e, eff⟩

theorem runLoop_loadBody {L : Lens P.U AtomicState} (hL : L.Lawful) (sf fuel : Nat)
    (st : ExecState P σ) (k : Kernel) (s : σ) (ev : Option Ev) (t : Nat) (tk : Task)
    (kont : Nat → Unit → Prog P.U Unit)
    (hs : st.k.schedule S st.sch = .ok k s ev) (hc : k.advance.current = .some t)
    (hp : st.conts[t]? = some (Atomic.loadBody L >>= fun r => .op .switch (kont r)))
    (ht : k.tasks[t]? = some tk) :
    ∃ st', runLoop S (sf + 1 + 5) (fuel + 1) st =
        runLoop S (sf + 1 + 5) fuel { st' with conts := st'.conts.set t (kont (L.get st.u).value ()) } ∧
      Atomic.RmwEffect L t (fun _ => none) (afterSchedule st k s ev) st' :=
  (Atomic.loadBody_isRmw S t hL).loop hL sf fuel st k s ev tk kont hs hc hp ht

theorem runLoop_storeBody {L : Lens P.U AtomicState} (hL : L.Lawful) (sf fuel : Nat)
    (st : ExecState P σ) (k : Kernel) (s : σ) (ev : Option Ev) (t : Nat) (tk : Task) (v : Nat)
    (kont : Unit → Unit → Prog P.U Unit)
    (hs : st.k.schedule S st.sch = .ok k s ev) (hc : k.advance.current = .some t)
    (hp : st.conts[t]? = some (Atomic.storeBody L v >>= fun r => .op .switch (kont r)))
    (ht : k.tasks[t]? = some tk) :
    ∃ st', runLoop S (sf + 1 + 7) (fuel + 1) st =
        runLoop S (sf + 1 + 7) fuel { st' with conts := st'.conts.set t (kont () ()) } ∧
      Atomic.RmwEffect L t (fun _ => some v) (afterSchedule st k s ev) st' :=
  (Atomic.storeBody_isRmw S t hL v).loop hL sf fuel st k s ev tk kont hs hc hp ht

theorem runLoop_swapBody {L : Lens P.U AtomicState} (hL : L.Lawful) (sf fuel : Nat)
    (st : ExecState P σ) (k : Kernel) (s : σ) (ev : Option Ev) (t : Nat) (tk : Task) (v : Nat)
    (kont : Nat → Unit → Prog P.U Unit)
    (hs : st.k.schedule S st.sch = .ok k s ev) (hc : k.advance.current = .some t)
    (hp : st.conts[t]? = some (Atomic.swapBody L v >>= fun r => .op .switch (kont r)))
    (ht : k.tasks[t]? = some tk) :
    ∃ st', runLoop S (sf + 1 + 11) (fuel + 1) st =
        runLoop S (sf + 1 + 11) fuel { st' with conts := st'.conts.set t (kont (L.get st.u).value ()) } ∧
      Atomic.RmwEffect L t (fun _ => some v) (afterSchedule st k s ev) st' :=
  (Atomic.swapBody_isRmw S t hL v).loop hL sf fuel st k s ev tk kont hs hc hp ht

end Loop

namespace AtomicExample

/-- one shared `AtomicU8` -/
def P8 : Program := { U := AtomicState, init := { value := 250, bits := 8 }, bodies := fun _ => .pure () }
/-- a scheduler (irrelevant inside a segment) -/
def S0 : Scheduler Unit := { nextTask := fun s _ _ _ => (.choose none, s), nextU64 := fun s => (.ok 0, s) }
/-- the whole shared state is the atomic -/
def idL : Lens AtomicState AtomicState := { get := id, set := fun s _ => s }
theorem idL_lawful : idL.Lawful := ⟨fun _ _ => rfl, fun _ => rfl, fun _ _ _ => rfl⟩
/-- a second lens, into a pair of atomics: the frame condition is not vacuous either -/
def fstL : Lens (AtomicState × Nat) AtomicState := { get := (·.1), set := fun s u => (s, u.2) }
theorem fstL_lawful : fstL.Lawful := ⟨fun _ _ => rfl, fun _ => rfl, fun _ _ _ => rfl⟩

/-- main thread exists, its clock is `[3]`; the atomic holds 250 and has never been touched -/
def st0 : ExecState P8 Unit :=
  { k := { tasks := [{ clock := Clock.ofList [3] }] }, u := { value := 250, bits := 8 },
    conts := [.pure ()], sch := () }

theorem st0_task : st0.k.tasks[0]? = some { clock := Clock.ofList [3] } := rfl

/-- `fetch_add(10)` on 250u8 returns `Ok(250)` and leaves 4 -/
example (fuel : Nat) (k : Bool × Nat → Prog P8.U Unit) :
    ∃ st', runSegment S0 0 (fuel + 11) st0 (Atomic.fetchUpdateBody idL (fun old => some (old + 10)) >>= k) =
        runSegment S0 0 fuel st' (k (true, 250)) ∧
      (idL.get st'.u).value = 4 ∧ (idL.get st'.u).bits = 8 ∧ st'.conts = st0.conts := by
  obtain ⟨st', e, hv, eff⟩ := Atomic.fetchAdd_runSegment S0 0 idL_lawful st0_task fuel 10 k
  exact ⟨st', e, hv, eff.bits, eff.conts⟩

/-- `compare_exchange(250, 7)` succeeds; `compare_exchange(1, 7)` fails with `Err(250)` -/
example (fuel : Nat) (k : Bool × Nat → Prog P8.U Unit) :
    ∃ st', runSegment S0 0 (fuel + 11) st0
          (Atomic.fetchUpdateBody idL (fun old => if old == 250 then some 7 else none) >>= k) =
        runSegment S0 0 fuel st' (k (true, 250)) ∧ (idL.get st'.u).value = 7 := by
  obtain ⟨st', e, hv, _⟩ := Atomic.compareExchange_runSegment S0 0 idL_lawful st0_task fuel 250 7 k
  exact ⟨st', e, hv⟩

example (fuel : Nat) (k : Bool × Nat → Prog P8.U Unit) :
    ∃ st', runSegment S0 0 (fuel + 5) st0
          (Atomic.fetchUpdateBody idL (fun old => if old == 1 then some 7 else none) >>= k) =
        runSegment S0 0 fuel st' (k (false, 250)) ∧ (idL.get st'.u).value = 250 := by
  obtain ⟨st', e, hv, _⟩ := Atomic.compareExchange_runSegment S0 0 idL_lawful st0_task fuel 1 7 k
  exact ⟨st', e, hv⟩

/-- `load` returns 250; `store(300)` leaves `300 as u8 = 44`; `swap(300)` returns 250 and leaves 44 -/
example (fuel : Nat) (k : Nat → Prog P8.U Unit) :
    ∃ st', runSegment S0 0 (fuel + 5) st0 (Atomic.loadBody idL >>= k) = runSegment S0 0 fuel st' (k 250) ∧
      (idL.get st'.u).value = 250 := by
  obtain ⟨st', e, eff⟩ := (Atomic.loadBody_isRmw S0 0 idL_lawful).effect idL_lawful st0_task fuel k
  exact ⟨st', e, eff.value⟩

example (fuel : Nat) (k : Unit → Prog P8.U Unit) :
    ∃ st', runSegment S0 0 (fuel + 7) st0 (Atomic.storeBody idL 300 >>= k) = runSegment S0 0 fuel st' (k ()) ∧
      (idL.get st'.u).value = 44 := by
  obtain ⟨st', e, eff⟩ := (Atomic.storeBody_isRmw S0 0 idL_lawful 300).effect idL_lawful st0_task fuel k
  exact ⟨st', e, eff.value⟩

example (fuel : Nat) (k : Nat → Prog P8.U Unit) :
    ∃ st', runSegment S0 0 (fuel + 11) st0 (Atomic.swapBody idL 300 >>= k) = runSegment S0 0 fuel st' (k 250) ∧
      (idL.get st'.u).value = 44 := by
  obtain ⟨st', e, eff⟩ := (Atomic.swapBody_isRmw S0 0 idL_lawful 300).effect idL_lawful st0_task fuel k
  exact ⟨st', e, eff.value⟩

/-- the exact final state, vector clocks included: the thread's clock `[3]` becomes `[5]` (two increments,
one per exhale/inhale), the atomic's clock becomes `[5]`, the value 4 -/
example :
    (Atomic.fetchUpdateSpec 0 (fun old => some (old + 10)) st0.u (Clock.ofList [3])) =
      ({ value := 4, bits := 8, clock := some (Clock.ofList [5]) }, Clock.ofList [5]) := by
  rfl

/-- the switch-free run theorem on a non-trivial program, and `atSwitch` for a real operation -/
example (fuel : Nat) (k : Bool × Nat → Prog P8.U Unit) :
    SwitchFreeOutcome S0 0 fuel st0 k
      (runSegment S0 0 fuel st0 (Atomic.fetchUpdateBody idL (fun old => some (old + 10)) >>= k)) :=
  runSegment_switchFree S0 0 (Atomic.fetchUpdateBody_switchFree idL _) k fuel st0

example (k : Bool × Nat → Prog P8.U Unit) :
    runSegment S0 0 1 st0 (Atomic.fetchUpdate idL (fun old => some (old + 10)) >>= k) =
      .atSwitch { st0 with conts := [Atomic.fetchUpdateBody idL (fun old => some (old + 10)) >>= k] } :=
  Atomic.fetchUpdate_runSegment_atSwitch S0 0 0 st0 _ k

/-- frame condition on a state with something else in it: the `77` next to the atomic is untouched -/
def P2 : Program :=
  { U := AtomicState × Nat, init := ({ value := 250, bits := 8 }, 77), bodies := fun _ => .pure () }

def st2 : ExecState P2 Unit :=
  { k := { tasks := [{ clock := Clock.ofList [3] }] }, u := ({ value := 250, bits := 8 }, 77),
    conts := [.pure ()], sch := () }

example (fuel : Nat) (k : Bool × Nat → Prog P2.U Unit) :
    ∃ st', runSegment S0 0 (fuel + 11) st2 (Atomic.fetchUpdateBody fstL (fun old => some (old + 10)) >>= k) =
        runSegment S0 0 fuel st' (k (true, 250)) ∧ st'.u.1.value = 4 ∧ st'.u.2 = 77 := by
  obtain ⟨st', e, hv, eff⟩ := Atomic.fetchAdd_runSegment S0 0 fstL_lawful (st := st2) rfl fuel 10 k
  refine ⟨st', e, hv, ?_⟩
  have := eff.frame
  rw [this]; rfl

/-- the run-loop statements: a scheduler that always picks task 0, whose program is two `fetch_add`s -/
def S1 : Scheduler Unit := { nextTask := fun s _ _ _ => (.choose (some 0), s), nextU64 := fun s => (.ok 0, s) }

def twoAdds : Prog P8.U Unit :=
  Atomic.fetchUpdate idL (fun old => some (old + 10)) >>= fun _ =>
  Atomic.fetchUpdate idL (fun old => some (old + 10)) >>= fun _ => pure ()

def st1 : ExecState P8 Unit :=
  { k := { tasks := [{ clock := Clock.ofList [3] }] }, u := { value := 250, bits := 8 },
    conts := [twoAdds], sch := () }

/-- hypotheses of `runLoop_at_switch` hold at the start of `twoAdds` … -/
example : ∃ k s ev kont, st1.k.schedule S1 st1.sch = .ok k s ev ∧ k.advance.current = .some 0 ∧
    st1.conts[0]? = some (.op .switch kont) ∧ k.tasks[0]? = some { clock := Clock.ofList [3] } :=
  ⟨_, _, _, _, rfl, rfl, rfl, rfl⟩

/-- the state after the first iteration of the loop: task 0 has passed the scheduling point of its first
`fetch_add`, nothing else has happened -/
def stA : ExecState P8 Unit :=
  { k := { tasks := [{ clock := Clock.ofList [3] }], current := .some 0, ctxSwitches := 1,
           schedRev := [.task 0] },
    u := { value := 250, bits := 8 },
    conts := [Atomic.fetchUpdateBody idL (fun old => some (old + 10)) >>= fun _ =>
      Atomic.fetchUpdate idL (fun old => some (old + 10)) >>= fun _ => pure ()],
    sch := (), log := #[.dec [0] none false (some 0)] }

example (fuel sf : Nat) : runLoop S1 (sf + 1 + 11) (fuel + 2) st1 = runLoop S1 (sf + 1 + 11) (fuel + 1) stA :=
  runLoop_at_switch S1 (sf + 1 + 10) (fuel + 1) st1 _ _ _ 0 _ rfl rfl rfl

/-- … and those of `IsRmw.loop` (for `fetchUpdateBody`) in the state reached: the first `fetch_add` is performed in one
iteration and the task is parked at the scheduling point of the second one, with value 4 -/
example (fuel sf : Nat) :
    ∃ st' st'' : ExecState P8 Unit, runLoop S1 (sf + 1 + 11) (fuel + 1) stA = runLoop S1 (sf + 1 + 11) fuel st'' ∧
      st''.u.value = 4 ∧ st'.u.value = 4 ∧
      st''.conts = st'.conts.set 0 (Atomic.fetchUpdateBody idL (fun old => some (old + 10)) >>= fun _ => pure ()) := by
  obtain ⟨st', h2, eff⟩ := (Atomic.fetchUpdateBody_isRmw S1 0 idL_lawful fun old => some (old + 10)).loop
    idL_lawful sf fuel stA _ _ _ { clock := Clock.ofList [3] }
    (fun _ _ => Atomic.fetchUpdateBody idL (fun old => some (old + 10)) >>= fun _ => pure ())
    rfl rfl rfl rfl
  exact ⟨st', _, h2, eff.value, eff.value, rfl⟩

end AtomicExample

end ShuttleModel

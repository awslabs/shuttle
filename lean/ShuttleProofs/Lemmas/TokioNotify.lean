import ShuttleModel.Wrap.TokioNotify
import ShuttleModel.Wrap.TokioWatch
/-
  The most-general client of the tokio-wrapper `Notify` (and of the futures oneshot under it) over
  the PURE transitions of `ShuttleModel/Wrap/TokioNotify.lean` / `TokioBase.lean`.

  `NOp`: `notified` (a `notified()` call), `pollInner id` (`enable` / the first half of `poll`),
  `notifyOne idx` (`idx` = what `gen_range` returned — arbitrary), `notifyWaiters`, `drop id`
  (`Drop for Notified`).  The oneshot sends are wake-up plumbing: the flags decide readiness
  (`poll_inner` returns `true` exactly when the flag is NOTIFIED).
-/
namespace ShuttleModel
namespace Tokio
namespace NotifyLts

inductive NOp where
  | notified
  | pollInner (id : Nat)
  | notifyOne (idx : Nat)
  | notifyWaiters
  | drop (id : Nat)
deriving Repr, DecidableEq

/-- one atomic step; `none` = not enabled / the Rust code panics -/
def nstep (s : TNotify) : NOp → Option TNotify
  | .notified => some s.notified.2
  | .pollInner id =>
    match s.pollInner id with
    | (.lost, _) => none
    | (_, s') => some s'
  | .notifyOne idx =>
    if s.enabledIds.isEmpty then some s.notifyOneNone
    else match s.enabledIds[idx]? with
      | some id => some (s.notifyOneTake id)
      | none => none
  | .notifyWaiters => some s.notifyWaitersTake.2
  | .drop id =>
    match s.dropNotified id with
    | .ok (s', _) => some s'
    | .error _ => none

inductive Reach : TNotify → Prop
  | init : Reach {}
  | step {s s' : TNotify} {op : NOp} : Reach s → nstep s op = some s' → Reach s'

theorem find_id {cells : List NCell} {id : Nat} {c : NCell} (h : cells.find? (·.id == id) = some c) :
    c.id = id :=
  beq_iff_eq.mp (List.find?_some h :)

theorem cell_id (s : TNotify) (id : Nat) : (s.cell id).id = id := by
  unfold TNotify.cell
  cases h : s.cells.find? (·.id == id) with
  | none => rfl
  | some c => exact find_id h

def HasCell (s : TNotify) (id : Nat) : Prop := ∃ c, s.cells.find? (·.id == id) = some c

/-- `setCell c` replaces the cell with `c`'s id and keeps every id, so looking a cell up after it is
looking it up before and replacing -/
theorem find_setCell (s : TNotify) (c : NCell) (j : Nat) :
    (s.setCell c).cells.find? (·.id == j) =
      (s.cells.find? (·.id == j)).map (fun x => if x.id == c.id then c else x) := by
  unfold TNotify.setCell
  rw [List.find?_map]
  congr 2
  funext x
  show ((if x.id == c.id then c else x).id == j) = (x.id == j)
  split
  · rename_i hx
    rw [beq_iff_eq.mp hx]
  · rfl

theorem cell_setCell_ne (s : TNotify) (c : NCell) (j : Nat) (hj : j ≠ c.id) :
    (s.setCell c).cell j = s.cell j := by
  unfold TNotify.cell
  rw [find_setCell]
  cases h : s.cells.find? (·.id == j) with
  | none => rfl
  | some x =>
    show (if x.id == c.id then c else x) = x
    exact if_neg fun hx => hj ((find_id h).symm.trans (beq_iff_eq.mp hx))

theorem cell_setCell_eq (s : TNotify) (c : NCell) (h : HasCell s c.id) :
    (s.setCell c).cell c.id = c := by
  obtain ⟨x, hx⟩ := h
  unfold TNotify.cell
  rw [find_setCell, hx]
  exact if_pos (beq_iff_eq.mpr (find_id hx))

theorem hasCell_setCell (s : TNotify) (c : NCell) (j : Nat) (h : HasCell s j) : HasCell (s.setCell c) j := by
  obtain ⟨x, hx⟩ := h
  exact ⟨_, by rw [find_setCell, hx]; rfl⟩

theorem flagOf_setFlag_ne (s : TNotify) (id j f : Nat) (hj : j ≠ id) :
    (s.setFlag id f).flagOf j = s.flagOf j := by
  have hc : ({ s.cell id with flag := f } : NCell).id = id := cell_id s id
  show ((s.setCell { s.cell id with flag := f }).cell j).flag = (s.cell j).flag
  rw [cell_setCell_ne s _ j (by rw [hc]; exact hj)]

theorem flagOf_setFlag_eq (s : TNotify) (id f : Nat) (h : HasCell s id) :
    (s.setFlag id f).flagOf id = f := by
  have hc : ({ s.cell id with flag := f } : NCell).id = id := cell_id s id
  show ((s.setCell { s.cell id with flag := f }).cell id).flag = f
  have := cell_setCell_eq s { s.cell id with flag := f } (by rw [hc]; exact h)
  rw [hc] at this
  rw [this]

/-- a waiter without a cell reads the default cell, whose flag is INIT -/
theorem hasCell_of_notified {s : TNotify} {id : Nat} (hf : s.flagOf id = flagNotified) : HasCell s id := by
  unfold TNotify.flagOf TNotify.cell at hf
  cases h : s.cells.find? (·.id == id) with
  | some c => exact ⟨c, h⟩
  | none => rw [h] at hf; cases hf

/-- `poll_inner` on a future that is not NOTIFIED: it first enables the waiter (`s1`), then takes the
stored permit if there is one.  Taking it clears it; without a permit nothing is taken; only the
polled waiter's flag is written. -/
theorem pollInner_spec (s : TNotify) (id : Nat) :
    ((s.pollInner id).1 = .consumed → (s.pollInner id).2.pending = false) ∧
    (s.pending = false → (s.pollInner id).1 ≠ .consumed) ∧
    ∀ j, id ≠ j → (s.pollInner id).2.flagOf j = s.flagOf j := by
  -- enabling the waiter leaves the permit and the other flags alone
  have enable : ∀ s1, s1 = (if s.flagOf id == flagInit then s.setFlag id flagEnabled else s) →
      s1.pending = s.pending ∧ ∀ j, id ≠ j → s1.flagOf j = s.flagOf j := by
    rintro _ rfl
    split
    · exact ⟨rfl, fun j hj => flagOf_setFlag_ne s id j _ (Ne.symm hj)⟩
    · exact ⟨rfl, fun _ _ => rfl⟩
  -- the results in the order of `pollInner`: `ready`, `consumed`, `lost`, `notReady`
  fun_cases TNotify.pollInner s id
  · exact ⟨nofun, fun _ => nofun, fun _ _ => rfl⟩
  all_goals obtain ⟨hp, hfl⟩ := enable _ rfl
  next h2 _ =>
    exact ⟨fun _ => rfl, fun h => Bool.noConfusion (h.symm.trans (hp.symm.trans h2)),
      fun j hj => (flagOf_setFlag_ne _ id j _ (Ne.symm hj)).trans (hfl j hj)⟩
  · exact ⟨nofun, fun _ => nofun, hfl⟩
  · exact ⟨nofun, fun _ => nofun, hfl⟩

theorem foldl_setFlag_flag (ids : List Nat) (s : TNotify) (j : Nat) (hc : HasCell s j) :
    HasCell (ids.foldl (fun s id => s.setFlag id flagNotified) s) j ∧
    ((j ∈ ids ∨ s.flagOf j = flagNotified) →
      (ids.foldl (fun s id => s.setFlag id flagNotified) s).flagOf j = flagNotified) := by
  induction ids generalizing s with
  | nil => exact ⟨hc, fun h => h.resolve_left List.not_mem_nil⟩
  | cons x xs ih =>
    have hc' : HasCell (s.setFlag x flagNotified) j := hasCell_setCell s _ j hc
    refine ⟨(ih _ hc').1, fun h => (ih _ hc').2 ?_⟩
    by_cases hx : j = x
    · exact Or.inr (hx ▸ flagOf_setFlag_eq s j flagNotified hc)
    · exact h.imp (fun h => (List.mem_cons.mp h).resolve_left hx)
        fun h => (flagOf_setFlag_ne s x j flagNotified hx).trans h

theorem foldl_setFlag_pending_waiters (ids : List Nat) (s : TNotify) :
    (ids.foldl (fun s id => s.setFlag id flagNotified) s).pending = s.pending ∧
    (ids.foldl (fun s id => s.setFlag id flagNotified) s).waiters = s.waiters := by
  induction ids generalizing s with
  | nil => exact ⟨rfl, rfl⟩
  | cons x xs ih => exact ih _

theorem pollInner_self_notified {s : TNotify} {id : Nat} (hf : s.flagOf id = flagNotified) :
    s.pollInner id = (.ready, s) := by
  unfold TNotify.pollInner
  rw [if_pos (by simp [hf])]

theorem dropNotified_flag_other {s s' : TNotify} {j id : Nat} {effs : List Eff} (hj : j ≠ id)
    (h : s.dropNotified j = .ok (s', effs)) : s'.flagOf id = s.flagOf id := by
  have hne : ∀ (s0 : TNotify) (c : OsCore), (s0.setCell { s.cell j with core := c }).cell id = s0.cell id :=
    fun s0 c => cell_setCell_ne s0 _ id (by rw [cell_id]; exact Ne.symm hj)
  revert h
  fun_cases TNotify.dropNotified s j <;> intro h <;> cases h <;> exact congrArg NCell.flag (hne ..)

inductive OOp where
  | send (v : Nat)
  | dropTx
  | closeRx
  | dropRx
  | tryRecv
  | recv (cx : Nat)
deriving Repr, DecidableEq

/-- the oneshot channel with its two handles: the `Sender` is consumed by `send` / `dropTx` -/
structure OS where
  core : OsCore := {}
  txAlive : Bool := true
  /-- ghost: values accepted by `send`, values handed to the receiver -/
  sent : List Nat := []
  delivered : List Nat := []

def ostep (o : OS) : OOp → Option OS
  | .send v =>
    if o.txAlive then
      let (ok, c) := o.core.send v
      some { o with core := c.dropTx.1, txAlive := false, sent := if ok then o.sent ++ [v] else o.sent }
    else none
  | .dropTx => if o.txAlive then some { o with core := o.core.dropTx.1, txAlive := false } else none
  | .closeRx => some { o with core := o.core.closeRx.1 }
  | .dropRx => some { o with core := o.core.dropRx.1 }
  | .tryRecv =>
    match o.core.tryRecv with
    | (.value v, c) => some { o with core := c, delivered := o.delivered ++ [v] }
    | (_, c) => some { o with core := c }
  | .recv cx =>
    match o.core.recv cx with
    | (some (some v), c) => some { o with core := c, delivered := o.delivered ++ [v] }
    | (_, c) => some { o with core := c }

inductive OReach : OS → Prop
  | init : OReach {}
  | step {o o' : OS} {op : OOp} : OReach o → ostep o op = some o' → OReach o'

structure OInv (o : OS) : Prop where
  acct : o.delivered ++ o.core.data.toList = o.sent
  one : o.sent.length ≤ 1
  alive : o.txAlive = true → o.sent = [] ∧ o.core.data = none

/-- `OInv` reads the slot `core.data`, `txAlive` and the two histories: a step that leaves them alone
(or only retires the `Sender`) keeps it -/
theorem OInv.frame {o o' : OS} (hi : OInv o) (hd : o'.core.data = o.core.data) (hs : o'.sent = o.sent)
    (hdel : o'.delivered = o.delivered) (ha : o'.txAlive = true → o.txAlive = true) : OInv o' :=
  ⟨by rw [hd, hs, hdel]; exact hi.acct, hs ▸ hi.one, fun h => by rw [hs, hd]; exact hi.alive (ha h)⟩

theorem ostep_inv {o o' : OS} {op : OOp} (hi : OInv o) (h : ostep o op = some o') : OInv o' := by
  cases op with
  | send v =>
    by_cases ha : o.txAlive = true
    · obtain ⟨hs, hd⟩ := hi.alive ha
      by_cases hc : o.core.complete = true
      · rw [ostep, if_pos ha, OsCore.send, if_pos hc] at h
        cases h
        exact hi.frame rfl rfl rfl nofun
      · -- accepted: nothing was sent or delivered before
        rw [ostep, if_pos ha, OsCore.send, if_neg hc] at h
        cases h
        have hdel := hi.acct
        rw [hs, hd] at hdel
        exact ⟨by rw [(List.append_eq_nil_iff.mp hdel).1, hs]; rfl, by rw [hs]; exact Nat.le_refl 1, nofun⟩
    · rw [ostep, if_neg ha] at h
      cases h
  | dropTx =>
    rw [ostep] at h
    split at h
    · cases h; exact hi.frame rfl rfl rfl nofun
    · cases h
  | closeRx | dropRx => cases h; exact hi.frame rfl rfl rfl id
  | tryRecv | recv cx =>
    -- a value is handed over only from a completed channel whose slot is full
    simp only [ostep, OsCore.tryRecv, OsCore.recv] at h
    by_cases hc : o.core.complete = true
    · rw [if_pos hc] at h
      cases hd : o.core.data with
      | none => rw [hd] at h; cases h; exact hi.frame rfl rfl rfl id
      | some v =>
        rw [hd] at h; cases h
        have hacct := hi.acct
        rw [hd] at hacct
        exact ⟨(List.append_nil _).trans hacct, hi.one, fun h => ⟨(hi.alive h).1, rfl⟩⟩
    · rw [if_neg hc] at h; cases h; exact hi.frame rfl rfl rfl id

theorem oreach_inv {o : OS} (h : OReach o) : OInv o := by
  induction h with
  | init => exact ⟨rfl, by simp, fun _ => ⟨rfl, rfl⟩⟩
  | step _ hs ih => exact ostep_inv ih hs

end NotifyLts
end Tokio
end ShuttleModel

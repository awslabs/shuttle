import ShuttleProofs.Lemmas.KernelLoop
/-!
# One loop iteration exactly, the loop-head invariant, how an execution ends, how its log grows

`segStart st t s'` (kernel: `chosenK`): where task `t`'s segment starts after the consultation at loop head `st`.
`IterSpec`: every way `loopStep` can answer (`loopStep_spec`); `iter_inr`, `iter_frame`: what a continuing iteration
did.  `LoopInv ms st` holds at every loop head reachable from `initState`.  `FinalSpec`: every way a run ends
(`runLoop_final`, `execute_final`, `FinalSpec.verdict`).  `Decision S segFuel st0 st ev`: the consultation logged as
`ev` was made at the reachable loop head `st`; properties of the final log go through `runLoop_log_induction`.
-/

namespace ShuttleProofs.Kernel
open ShuttleModel

variable {P : Program} {σ : Type}

/-- the kernel in which task `t`'s segment starts after a consultation in `k0` that chose `t`
(`ts` = `wokenTasks k0 t` in `segStart`) -/
def chosenK (k0 : Kernel) (ts : List Task) (t : Nat) : Kernel :=
  { atConsult k0 with tasks := ts, current := .some t, next := .none, schedRev := .task t :: k0.schedRev }

/-- the kernel after `schedule()` + `advance_to_next_task()` ended the execution with `c` -/
def endedK (k : Kernel) (c : Cur) : Kernel := { k with current := c, next := .none }

/-- state in which the chosen task's segment starts -/
def segStart (st : ExecState P σ) (t : Nat) (s' : σ) : ExecState P σ :=
  { st with k := chosenK st.k (wokenTasks st.k t) t, sch := s', log := st.log.push (decEv st.k (some t)) }

/-- Everything one iteration of `run_to_completion` can do from a loop head `st` (with `next_task = None` and
one continuation per task). -/
inductive IterSpec (S : Scheduler σ) (segFuel : Nat) (st : ExecState P σ) :
    Result P σ ⊕ ExecState P σ → Prop
  | boundFail (n : Nat) : st.k.maxSteps = .failAfter n → st.k.stepBoundExceeded n = true →
      IterSpec S segFuel st (.inl ⟨.stepBoundFail n, { st with k := bump st.k }⟩)
  | boundStop (n : Nat) : st.k.maxSteps = .continueAfter n → st.k.stepBoundExceeded n = true →
      IterSpec S segFuel st (.inl ⟨.abandoned, { st with k := endedK (bump st.k) .stopped }⟩)
  | deadlock : BoundOK st.k → endsHere st.k = true → st.k.unfinishedAttached = true →
      IterSpec S segFuel st
        (.inl ⟨.deadlock st.k.deadlockList, { st with k := endedK (bump st.k) .finished }⟩)
  | ok : BoundOK st.k → endsHere st.k = true → st.k.unfinishedAttached = false →
      IterSpec S segFuel st (.inl ⟨.ok, { st with k := endedK (bump st.k) .finished }⟩)
  | schedPanic (msg : String) (s' : σ) : Consults st.k → ask S st.k st.sch = (.panic msg, s') →
      IterSpec S segFuel st (.inl ⟨.schedPanic msg, { st with k := atConsult st.k, sch := s' }⟩)
  | choseBad (t : Nat) (msg : String) (s' : σ) : Consults st.k →
      ask S st.k st.sch = (.choose (some t), s') → t ∉ st.k.offered →
      IterSpec S segFuel st (.inl ⟨.schedPanic msg, { st with k := atConsult st.k, sch := s' }⟩)
  | choseNone (s' : σ) : Consults st.k → ask S st.k st.sch = (.choose none, s') →
      IterSpec S segFuel st
        (.inl ⟨.stopped, { st with k := endedK (atConsult st.k) .stopped, sch := s',
                                    log := st.log.push (decEv st.k none) }⟩)
  | chose (t : Nat) (s' : σ) (p : Prog P.U Unit) : Consults st.k →
      ask S st.k st.sch = (.choose (some t), s') → t ∈ st.k.offered → st.conts[t]? = some p →
      IterSpec S segFuel st (finishSeg t (runSegment S t segFuel (segStart st t s') p))

theorem wokenTasks_length (k0 : Kernel) (t : Nat) : (wokenTasks k0 t).length = k0.tasks.length := by
  unfold wokenTasks
  split
  · split <;> simp
  · rfl

theorem byBound_some (k : Kernel) (e : Ev) : byBound k (some e) = false := by
  unfold byBound
  split <;> simp

theorem advance_stopped (k : Kernel) : Kernel.advance { k with next := .stopped } = endedK k .stopped := rfl
theorem advance_finished (k : Kernel) : Kernel.advance { k with next := .finished } = endedK k .finished := rfl
theorem advance_some (k : Kernel) (t : Nat) : Kernel.advance { k with next := .some t } =
    { k with current := .some t, next := .none, schedRev := .task t :: k.schedRev } := rfl
theorem endedK_current (k : Kernel) (c : Cur) : (endedK k c).current = c := rfl

theorem afterOk_some (S : Scheduler σ) (segFuel : Nat) {st1 : ExecState P σ} {ev : Option Ev} {t : Nat}
    {p : Prog P.U Unit} (hc : st1.k.current = .some t) (hp : st1.conts[t]? = some p) :
    afterOk S segFuel st1 ev = finishSeg t (runSegment S t segFuel st1 p) := by
  unfold afterOk
  rw [hc]
  simp only [hp]

theorem loopStep_spec (S : Scheduler σ) (segFuel : Nat) (st : ExecState P σ) (hn : st.k.next = .none)
    (hc : st.conts.length = st.k.tasks.length) : IterSpec S segFuel st (loopStep S segFuel st) := by
  have hs := schedule_spec S st.k st.sch
  unfold loopStep
  generalize st.k.schedule S st.sch = r at hs
  cases hs with
  | already h => exact absurd hn h
  | boundFail n h1 h2 h3 =>
    have hm : (bump st.k).maxSteps = .failAfter n := h2
    simp only [hm]
    exact IterSpec.boundFail n h2 h3
  | boundStop n h1 h2 h3 =>
    have hb : byBound (endedK (bump st.k) .stopped) none = true := by
      have hm : (endedK (bump st.k) .stopped).maxSteps = .continueAfter n := h2
      have he : (endedK (bump st.k) .stopped).stepBoundExceeded n = true := h3
      simp only [byBound, hm, he, Bool.and_self]
    simp only [afterOk, afterSched, advance_stopped, endedK_current, hb, if_true]
    exact IterSpec.boundStop n h2 h3
  | finished h1 h2 h3 =>
    show IterSpec S segFuel st (.inl (if st.k.unfinishedAttached then _ else _))
    cases hu : st.k.unfinishedAttached
    · exact .ok h2 h3 hu
    · exact .deadlock h2 h3 hu
  | schedPanic msg s' h1 h2 => exact IterSpec.schedPanic msg s' h1 h2
  | choseNone s' h1 h2 =>
    simp only [afterOk, afterSched, advance_stopped, endedK_current, byBound_some, Bool.false_eq_true, if_false]
    exact IterSpec.choseNone s' h1 h2
  | choseBad t msg s' h1 h2 h3 => exact IterSpec.choseBad t msg s' h1 h2 h3
  | chose t s' h1 h2 h3 =>
    have hlt : t < st.conts.length := hc ▸ mem_offered_lt h3
    have hp : (segStart st t s').conts[t]? = some st.conts[t] := List.getElem?_eq_getElem hlt
    -- `advance_to_next_task` turns the kernel `schedule()` answered into that of `segStart`
    show IterSpec S segFuel st (afterOk S segFuel (segStart st t s') _)
    rw [afterOk_some S segFuel rfl hp]
    exact .chose t s' _ h1 h2 h3 hp

/-- only `chose` continues -/
theorem IterSpec.inr_inv {S : Scheduler σ} {segFuel : Nat} {st b : ExecState P σ}
    {x : Result P σ ⊕ ExecState P σ} (h : IterSpec S segFuel st x) (hx : x = .inr b) :
    ∃ t s' p, Consults st.k ∧ ask S st.k st.sch = (.choose (some t), s') ∧ t ∈ st.k.offered ∧
      st.conts[t]? = some p ∧ finishSeg t (runSegment S t segFuel (segStart st t s') p) = .inr b := by
  cases h with
  | chose t s' p h1 h2 h3 h4 => exact ⟨t, s', p, h1, h2, h3, h4, hx⟩
  | _ => cases hx

theorem finishSeg_inr {t : Nat} {e : SegEnd P σ} {b : ExecState P σ} (h : finishSeg t e = .inr b) :
    e.extra = [] ∧ ∃ ts, ts.length = e.st.k.tasks.length ∧ b = { e.st with k := { e.st.k with tasks := ts } } := by
  cases e with
  | atSwitch st' => cases h; exact ⟨rfl, _, rfl, rfl⟩
  | returned st' =>
    simp only [finishSeg] at h
    cases hm : st'.k.modTask t (fun x => x.finish) with
    | error e => rw [hm] at h; cases h
    | ok k' =>
      rw [hm] at h
      obtain ⟨tk, tk', _, _, rfl⟩ := modTask_ok hm
      cases h
      exact ⟨rfl, st'.k.tasks.set t tk', by simp [SegEnd.st], rfl⟩
  | _ => cases h

/-- A continuing iteration: the scheduler was consulted and chose an offered task `t`, whose segment ran from
`segStart st t s'` and ended at a `switch` or by returning (hence `e.extra = []`); the next loop head `b` differs from
the segment's final state at most in task fields. -/
theorem iter_inr {S : Scheduler σ} {segFuel : Nat} {st b : ExecState P σ} (hn : st.k.next = .none)
    (hc : st.conts.length = st.k.tasks.length) (h : loopStep S segFuel st = .inr b) :
    ∃ t s' p e, Consults st.k ∧ ask S st.k st.sch = (.choose (some t), s') ∧ t ∈ st.k.offered ∧
      st.conts[t]? = some p ∧ SegTrace S t (segStart st t s') p e ∧ e.extra = [] ∧
      ∃ ts, ts.length = e.st.k.tasks.length ∧ b = { e.st with k := { e.st.k with tasks := ts } } := by
  obtain ⟨t, s', p, h1, h2, h3, h4, h5⟩ := (loopStep_spec S segFuel st hn hc).inr_inv h
  exact ⟨t, s', p, _, h1, h2, h3, h4, runSegment_trace S t segFuel _ p, finishSeg_inr h5⟩

theorem iter_frame {S : Scheduler σ} {segFuel : Nat} {st b : ExecState P σ} (hn : st.k.next = .none)
    (hc : st.conts.length = st.k.tasks.length) (h : loopStep S segFuel st = .inr b) :
    ∃ t s', Consults st.k ∧ ask S st.k st.sch = (.choose (some t), s') ∧ t ∈ st.k.offered ∧
      SegFrame t (segStart st t s') b ∧ SegLog [] (segStart st t s') b := by
  obtain ⟨t, s', p, e, h1, h2, h3, _, htr, hx, ts, hl, rfl⟩ := iter_inr hn hc h
  exact ⟨t, s', h1, h2, h3, htr.frame.trans (SegFrame.setTasks t e.st ts hl),
    (hx ▸ htr.segLog).trans (SegLog.of_eq rfl rfl)⟩

def choiceStep (acc : Option Nat) (ev : Ev) : Option Nat :=
  match ev with
  | .dec _ _ _ ch => ch
  | _ => acc

/-- the answer of the most recent consultation in the log (`none` if there is none) -/
def lastChoice (l : List Ev) : Option Nat := l.foldl choiceStep none

theorem foldl_choiceStep_nodec (evs : List Ev) (h : ∀ ev ∈ evs, isDec ev = false) (acc : Option Nat) :
    evs.foldl choiceStep acc = acc := by
  induction evs generalizing acc with
  | nil => rfl
  | cons ev evs ih =>
    have h1 : isDec ev = false := h ev (List.mem_cons_self)
    have : choiceStep acc ev = acc := by
      cases ev <;> first | rfl | (simp [isDec] at h1)
    rw [List.foldl_cons, this]
    exact ih (fun e he => h e (List.mem_cons_of_mem _ he)) acc

theorem lastChoice_append_nodec (l evs : List Ev) (h : ∀ ev ∈ evs, isDec ev = false) :
    lastChoice (l ++ evs) = lastChoice l := by
  unfold lastChoice
  rw [List.foldl_append]
  exact foldl_choiceStep_nodec evs h _

theorem lastChoice_append_dec (l : List Ev) (o : List Nat) (c : Option Nat) (y : Bool) (ch : Option Nat) :
    lastChoice (l ++ [.dec o c y ch]) = ch := by
  unfold lastChoice
  rw [List.foldl_append]
  rfl

structure LoopInv (ms : MaxSteps) (st : ExecState P σ) : Prop where
  next : st.k.next = .none
  maxSteps : st.k.maxSteps = ms
  conts : st.conts.length = st.k.tasks.length
  /-- `current_task` is what the last consultation answered -/
  cur : st.k.current.id = lastChoice st.log.toList
  /-- the execution has not been declared finished/stopped -/
  live : st.k.current ≠ .stopped ∧ st.k.current ≠ .finished
  /-- the recorded schedule is the projection of the log -/
  record : st.k.schedRev.reverse = logSteps st.log.toList
  reset : st.k.stepsResetAt ≤ st.k.schedLen
  /-- no consultation so far answered `None` -/
  noNone : ∀ ev ∈ st.log.toList, ∀ o c y, ev ≠ .dec o c y none

theorem LoopInv.init (P : Program) {σ : Type} (ms : MaxSteps) (seed : Nat) (s : σ) :
    LoopInv ms (initState P ms seed s) where
  next := rfl
  maxSteps := rfl
  conts := by simp [initState, Kernel.spawnTask]
  cur := rfl
  live := ⟨by simp [initState, Kernel.spawnTask], by simp [initState, Kernel.spawnTask]⟩
  record := rfl
  reset := Nat.le_refl _
  noNone := by
    intro ev hev
    simp [initState] at hev

/-- the consultation logs a `dec` event and records `.task t`: the record stays the projection of the log -/
theorem segStart_record {st : ExecState P σ} (hrec : st.k.schedRev.reverse = logSteps st.log.toList) (t : Nat)
    (s' : σ) : (segStart st t s').k.schedRev.reverse = logSteps (segStart st t s').log.toList := by
  simp only [segStart, chosenK, Array.toList_push, List.reverse_cons, logSteps_append, ← hrec]
  simp [logSteps, decEv, evSteps]

theorem LoopInv.step {S : Scheduler σ} {segFuel : Nat} {ms : MaxSteps} {a b : ExecState P σ}
    (hi : LoopInv ms a) (h : loopStep S segFuel a = .inr b) : LoopInv ms b := by
  obtain ⟨t, s', _, _, hmem, hf, hsl⟩ := iter_frame hi.next hi.conts h
  have hrec := hsl.record (segStart_record hi.record t s')
  obtain ⟨evs, hlog, hnd, _⟩ := hsl
  have hlog' : b.log.toList = a.log.toList ++ [decEv a.k (some t)] ++ evs := by
    rw [hlog]; simp [segStart]
  exact {
    next := hf.next
    maxSteps := hf.maxSteps.trans hi.maxSteps
    conts := hf.conts (by simpa [segStart, chosenK, wokenTasks_length] using mem_offered_lt hmem)
      (by simpa [segStart, chosenK, wokenTasks_length] using hi.conts)
    cur := by
      rw [hf.current, hlog', lastChoice_append_nodec _ _ hnd]
      unfold decEv
      rw [lastChoice_append_dec]
      rfl
    live := by
      rw [hf.current]
      exact ⟨by simp [segStart, chosenK], by simp [segStart, chosenK]⟩
    record := by simpa using hrec
    reset := by
      apply hf.reset
      have := hi.reset
      simp only [segStart, chosenK, atConsult, bump, Kernel.schedLen, List.length_cons] at this ⊢
      omega
    noNone := by
      intro ev hev o c y
      rw [hlog'] at hev
      rcases List.mem_append.mp hev with hev | hev
      · rcases List.mem_append.mp hev with hev | hev
        · exact hi.noNone ev hev o c y
        · simp only [List.mem_singleton] at hev
          rw [hev]; simp [decEv]
      · intro heq
        have := hnd ev hev
        rw [heq] at this
        simp [isDec] at this }

theorem LoopInv.reach {S : Scheduler σ} {segFuel : Nat} {ms : MaxSteps} {a b : ExecState P σ}
    (hi : LoopInv ms a) (h : Reach S segFuel a b) : LoopInv ms b :=
  h.invariant (LoopInv ms) (fun _ _ hi hs => hi.step hs) hi

/-- All the ways a run of the loop can produce its result `r` at loop head `st`: `loopFuel`, or an `IterSpec` ending
with `.inl r` (`IterSpec.final`). -/
inductive FinalSpec (S : Scheduler σ) (segFuel : Nat) (st : ExecState P σ) : Result P σ → Prop
  /-- the model's loop fuel ran out at this loop head -/
  | loopFuel : FinalSpec S segFuel st ⟨.outOfFuel, st⟩
  | boundFail (n : Nat) : st.k.maxSteps = .failAfter n → st.k.stepBoundExceeded n = true →
      FinalSpec S segFuel st ⟨.stepBoundFail n, { st with k := bump st.k }⟩
  | boundStop (n : Nat) : st.k.maxSteps = .continueAfter n → st.k.stepBoundExceeded n = true →
      FinalSpec S segFuel st ⟨.abandoned, { st with k := endedK (bump st.k) .stopped }⟩
  | deadlock : BoundOK st.k → endsHere st.k = true → st.k.unfinishedAttached = true →
      FinalSpec S segFuel st ⟨.deadlock st.k.deadlockList, { st with k := endedK (bump st.k) .finished }⟩
  | ok : BoundOK st.k → endsHere st.k = true → st.k.unfinishedAttached = false →
      FinalSpec S segFuel st ⟨.ok, { st with k := endedK (bump st.k) .finished }⟩
  | schedPanic (msg : String) (s' : σ) : Consults st.k → ask S st.k st.sch = (.panic msg, s') →
      FinalSpec S segFuel st ⟨.schedPanic msg, { st with k := atConsult st.k, sch := s' }⟩
  | choseBad (t : Nat) (msg : String) (s' : σ) : Consults st.k →
      ask S st.k st.sch = (.choose (some t), s') → t ∉ st.k.offered →
      FinalSpec S segFuel st ⟨.schedPanic msg, { st with k := atConsult st.k, sch := s' }⟩
  | choseNone (s' : σ) : Consults st.k → ask S st.k st.sch = (.choose none, s') →
      FinalSpec S segFuel st
        ⟨.stopped, { st with k := endedK (atConsult st.k) .stopped, sch := s',
                              log := st.log.push (decEv st.k none) }⟩
  /-- the chosen task's segment ended the execution (panic, double panic, scheduler panic in `next_u64`,
  segment fuel) -/
  | seg (t : Nat) (s' : σ) (p : Prog P.U Unit) (r : Result P σ) : Consults st.k →
      ask S st.k st.sch = (.choose (some t), s') → t ∈ st.k.offered → st.conts[t]? = some p →
      finishSeg t (runSegment S t segFuel (segStart st t s') p) = .inl r → FinalSpec S segFuel st r

theorem IterSpec.final {S : Scheduler σ} {segFuel : Nat} {st : ExecState P σ} {r : Result P σ}
    {x : Result P σ ⊕ ExecState P σ} (h : IterSpec S segFuel st x) (hx : x = .inl r) :
    FinalSpec S segFuel st r := by
  cases h with
  | boundFail n h1 h2 => cases hx; exact .boundFail n h1 h2
  | boundStop n h1 h2 => cases hx; exact .boundStop n h1 h2
  | deadlock h1 h2 h3 => cases hx; exact .deadlock h1 h2 h3
  | ok h1 h2 h3 => cases hx; exact .ok h1 h2 h3
  | schedPanic msg s' h1 h2 => cases hx; exact .schedPanic msg s' h1 h2
  | choseBad t msg s' h1 h2 h3 => cases hx; exact .choseBad t msg s' h1 h2 h3
  | choseNone s' h1 h2 => cases hx; exact .choseNone s' h1 h2
  | chose t s' p h1 h2 h3 h4 => exact .seg t s' p r h1 h2 h3 h4 hx

theorem runLoop_final (S : Scheduler σ) (segFuel fuel : Nat) (ms : MaxSteps) (st0 : ExecState P σ)
    (h0 : LoopInv ms st0) :
    ∃ stf, Reach S segFuel st0 stf ∧ LoopInv ms stf ∧ FinalSpec S segFuel stf (runLoop S segFuel fuel st0) := by
  obtain ⟨n, stf, hr, hc⟩ := runLoop_reach S segFuel fuel st0
  have hi : LoopInv ms stf := h0.reach ⟨n, hr⟩
  refine ⟨stf, ⟨n, hr⟩, hi, ?_⟩
  rcases hc with ⟨_, h2⟩ | ⟨_, h2⟩
  · rw [h2]; exact .loopFuel
  · exact (loopStep_spec S segFuel stf hi.next hi.conts).final h2

theorem execute_final (P : Program) {σ : Type} (S : Scheduler σ) (ms : MaxSteps) (seed : Nat) (s : σ)
    (fuel segFuel : Nat) :
    ∃ stf, Reach S segFuel (initState P ms seed s) stf ∧ LoopInv ms stf ∧
      FinalSpec S segFuel stf (execute P S ms seed s fuel segFuel) :=
  runLoop_final S segFuel fuel ms _ (LoopInv.init P ms seed s)

/-- the last conjunct follows from the second and is stated for its users -/
theorem finishSeg_inl {t : Nat} {e : SegEnd P σ} {r : Result P σ} (h : finishSeg t e = .inl r) :
    r.st = e.st ∧ (r.outcome = .outOfFuel ∨ (∃ msg, r.outcome = .panic t msg) ∨
      (∃ msg, r.outcome = .schedPanic msg ∧ e = .schedPanic msg e.st) ∨ (∃ msg, r.outcome = .abort msg)) ∧
      ((∀ msg st', e ≠ .schedPanic msg st') → ∀ msg, r.outcome ≠ .schedPanic msg) := by
  cases e with
  | atSwitch st' => cases h
  | returned st' =>
    simp only [finishSeg] at h
    cases hm : st'.k.modTask t (fun x => x.finish) with
    | error e => rw [hm] at h; cases h; exact ⟨rfl, .inr (.inl ⟨e, rfl⟩), fun _ _ => nofun⟩
    | ok k' => rw [hm] at h; cases h
  | panicked msg st' => cases h; exact ⟨rfl, .inr (.inl ⟨msg, rfl⟩), fun _ _ => nofun⟩
  | schedPanic msg st' =>
    cases h; exact ⟨rfl, .inr (.inr (.inl ⟨msg, rfl, rfl⟩)), fun hne => absurd rfl (hne msg st')⟩
  | outOfFuel st' => cases h; exact ⟨rfl, .inl rfl, fun _ _ => nofun⟩
  | aborted msg st' => cases h; exact ⟨rfl, .inr (.inr (.inr ⟨msg, rfl⟩)), fun _ _ => nofun⟩

/-- **What an outcome says about the loop head the run ended at.**  The four verdicts `schedule()` reaches
without consulting the scheduler, and the answer `None`, each determine the branch taken and the final state;
`schedulingError` never arises; every other outcome comes from a scheduler panic or from the chosen task's
segment (`finishSeg_inl`). -/
theorem FinalSpec.verdict {S : Scheduler σ} {segFuel : Nat} {st : ExecState P σ} {r : Result P σ}
    (hf : FinalSpec S segFuel st r) :
    match r.outcome with
    | .ok => BoundOK st.k ∧ endsHere st.k = true ∧ st.k.unfinishedAttached = false ∧
        r.st = { st with k := endedK (bump st.k) .finished }
    | .deadlock L => BoundOK st.k ∧ endsHere st.k = true ∧ st.k.unfinishedAttached = true ∧
        L = st.k.deadlockList ∧ r.st = { st with k := endedK (bump st.k) .finished }
    | .stepBoundFail n => st.k.maxSteps = .failAfter n ∧ st.k.stepBoundExceeded n = true ∧
        r.st = { st with k := bump st.k }
    | .abandoned => ∃ n, st.k.maxSteps = .continueAfter n ∧ st.k.stepBoundExceeded n = true ∧
        r.st = { st with k := endedK (bump st.k) .stopped }
    | .stopped => ∃ s', Consults st.k ∧ ask S st.k st.sch = (.choose none, s') ∧
        r.st = { st with k := endedK (atConsult st.k) .stopped, sch := s', log := st.log.push (decEv st.k none) }
    | .schedulingError => False
    | _ => True := by
  cases hf with
  | loopFuel => trivial
  | boundFail n h1 h2 => exact ⟨h1, h2, rfl⟩
  | boundStop n h1 h2 => exact ⟨n, h1, h2, rfl⟩
  | deadlock h1 h2 h3 => exact ⟨h1, h2, h3, rfl, rfl⟩
  | ok h1 h2 h3 => exact ⟨h1, h2, h3, rfl⟩
  | schedPanic msg s' h1 h2 => trivial
  | choseBad t msg s' h1 h2 h3 => trivial
  | choseNone s' h1 h2 => exact ⟨s', h1, h2, rfl⟩
  | seg t s' p r h1 h2 h3 h4 h5 =>
    rcases (finishSeg_inl h5).2.1 with ho | ⟨_, ho⟩ | ⟨_, ho, _⟩ | ⟨_, ho⟩ <;> rw [ho] <;> trivial

/-- `Decision S segFuel st0 st ev`: in the run of the loop from `st0`, `schedule()` was called at the
(reachable) loop head `st`, got as far as calling `Scheduler::next_task`, the scheduler answered `ch`
(`None`, or a task that had been offered), and the consultation was logged as `ev`. -/
structure Decision (S : Scheduler σ) (segFuel : Nat) (st0 st : ExecState P σ) (ev : Ev) : Prop where
  reach : Reach S segFuel st0 st
  consults : Consults st.k
  answer : ∃ ch s', ask S st.k st.sch = (.choose ch, s') ∧ (∀ t, ch = some t → t ∈ st.k.offered) ∧
    ev = decEv st.k ch

/-- the part of the final log produced by the last iteration: at most one `dec` event, then the segment's events -/
theorem FinalSpec.log {S : Scheduler σ} {segFuel : Nat} {st : ExecState P σ} {r : Result P σ}
    (h : FinalSpec S segFuel st r) :
    ∃ decs evs, r.st.log.toList = st.log.toList ++ decs ++ evs ∧ (∀ ev ∈ evs, isDec ev = false) ∧
      (decs = [] ∨ ∃ ch s', decs = [decEv st.k ch] ∧ Consults st.k ∧
        ask S st.k st.sch = (.choose ch, s') ∧ (∀ t, ch = some t → t ∈ st.k.offered) ∧
        (ch = none → r.outcome = .stopped ∧ evs = [])) := by
  cases h with
  | choseNone s' h1 h2 =>
    exact ⟨[decEv st.k none], [], by simp, by simp,
      Or.inr ⟨none, s', rfl, h1, h2, fun t ht => (by cases ht), fun _ => ⟨rfl, rfl⟩⟩⟩
  | seg t s' p r h1 h2 h3 h4 h5 =>
    obtain ⟨evs, hlog, hnd, _⟩ := (runSegment_trace S t segFuel (segStart st t s') p).segLog
    refine ⟨[decEv st.k (some t)], evs, ?_, hnd, Or.inr ⟨some t, s', rfl, h1, h2, ?_, nofun⟩⟩
    · rw [(finishSeg_inl h5).1, hlog]; simp [segStart]
    · intro t' ht'; cases ht'; exact h3
  -- every other ending leaves the log as it is
  | _ => exact ⟨[], [], by simp, by simp, Or.inl rfl⟩

/-- **How the log of a run grows**: by the `dec` event of each `Decision`, appended at the loop head where it is
taken, and by events that are not `dec`.  A predicate on logs that both keep holds of the final log. -/
theorem runLoop_log_induction (S : Scheduler σ) (segFuel fuel : Nat) {ms : MaxSteps} {st0 : ExecState P σ}
    (h0 : LoopInv ms st0) (Q : List Ev → Prop)
    (hdec : ∀ st ev, Decision S segFuel st0 st ev → Q st.log.toList → Q (st.log.toList ++ [ev]))
    (hev : ∀ l evs, (∀ ev ∈ evs, isDec ev = false) → Q l → Q (l ++ evs)) (hq : Q st0.log.toList) :
    Q (runLoop S segFuel fuel st0).st.log.toList := by
  obtain ⟨stf, hr, hi, hf⟩ := runLoop_final S segFuel fuel ms st0 h0
  -- the induction carries `Reach` and `LoopInv` along for `hdec`
  obtain ⟨_, _, hQ⟩ : Reach S segFuel st0 stf ∧ LoopInv ms stf ∧ Q stf.log.toList := by
    refine hr.invariant (fun st => Reach S segFuel st0 st ∧ LoopInv ms st ∧ Q st.log.toList) ?_
      ⟨Reach.refl S segFuel st0, h0, hq⟩
    intro mid b ⟨hmid, himid, ih⟩ hstep
    obtain ⟨t, s', hc, ha, hmem, _, evs, hlog, hnd, _⟩ := iter_frame himid.next himid.conts hstep
    have := hdec mid _ ⟨hmid, hc, some t, s', ha, fun t' ht' => by cases ht'; exact hmem, rfl⟩ ih
    refine ⟨hmid.tail hstep, himid.step hstep, ?_⟩
    rw [hlog]
    exact hev _ evs hnd (by simpa [segStart] using this)
  obtain ⟨decs, evs, hlog, hnd, hdecs⟩ := hf.log
  rw [hlog]
  apply hev _ evs hnd
  rcases hdecs with rfl | ⟨ch, s', rfl, hc, ha, hmem, _⟩
  · simpa using hQ
  · exact hdec stf _ ⟨hr, hc, ch, s', ha, hmem, rfl⟩ hQ

theorem runLoop_dec_origin (S : Scheduler σ) (segFuel fuel : Nat) (ms : MaxSteps) (st0 : ExecState P σ)
    (h0 : LoopInv ms st0) (ev : Ev) (hev : ev ∈ (runLoop S segFuel fuel st0).st.log.toList)
    (hd : isDec ev = true) : ev ∈ st0.log.toList ∨ ∃ st, Decision S segFuel st0 st ev :=
  runLoop_log_induction S segFuel fuel h0
    (fun l => ∀ ev ∈ l, isDec ev = true → ev ∈ st0.log.toList ∨ ∃ st, Decision S segFuel st0 st ev)
    (fun st _ hdec ih e he hd => (List.mem_append.mp he).elim (ih e · hd)
      fun h => Or.inr ⟨st, List.mem_singleton.mp h ▸ hdec⟩)
    (fun _ _ hnd ih e he hd => (List.mem_append.mp he).elim (ih e · hd)
      fun h => by rw [hnd e h] at hd; cases hd)
    (fun _ he _ => Or.inl he) ev hev hd

end ShuttleProofs.Kernel

/-
  The whole buffer: the decoder on the first `j` bytes of an encoding (`decodeBytes_take`; the round
  trip is the case `j = length`), and the same for any text whose non-whitespace characters are the
  first `2 * j` hex digits (`deserializeChars_of_filter_take`).
-/
import ShuttleProofs.Lemmas.SerializeBits
import ShuttleProofs.Lemmas.SerializeVarint
import ShuttleProofs.Lemmas.SerializeText

namespace ShuttleModel

/-- Number of bytes before the packed steps: magic + three varints. -/
def headerLen (s : Schedule) : Nat :=
  1 + (writeVarint (taskIdBits s.steps)).length + (writeVarint s.steps.length).length
    + (writeVarint s.seed).length

/-- Number of bits of the packed-steps area that the decoder actually consumes
    (`1 + width` per `Task` step, `1` per `Random` step). -/
def neededBits (s : Schedule) : Nat := (stepsBits (taskIdBits s.steps) s.steps).length

theorem encodeBytes_length (s : Schedule) :
    (encodeBytes s).length = headerLen s + (encodeStepBytes (taskIdBits s.steps) s.steps).length := by
  simp only [encodeBytes, headerLen, List.length_cons, List.length_append]
  omega

theorem hexOfSchedule_length (s : Schedule) :
    (hexOfSchedule s).length
      = 2 * (headerLen s + (encodeStepBytes (taskIdBits s.steps) s.steps).length) := by
  rw [hexOfSchedule, encodeHex_length, encodeBytes_length]

theorem neededBits_le (s : Schedule) :
    neededBits s ≤ 8 * (encodeStepBytes (taskIdBits s.steps) s.steps).length := by
  have := stepsBits_length_le (taskIdBits s.steps) s.steps
  simp only [neededBits, encodeStepBytes, packBytes_length]
  omega

theorem encodeBytes_lt (s : Schedule) : ∀ b ∈ encodeBytes s, b < 256 := by
  simp only [encodeBytes, List.forall_mem_cons, List.forall_mem_append]
  exact ⟨by decide, writeVarint_lt _, writeVarint_lt _, writeVarint_lt _, packBytes_lt _ _⟩

/-- The decoder on the first `j` bytes of `magic · varint w · varint n · varint seed · body`: it needs
    the whole header (`hdr` bytes) and then reads `n` steps of width `w` from what is left of `body`.
    `hdr` comes with an equation so that the caller can pass `headerLen s`; `hw0` negates the decoder's
    test on the width. -/
theorem decodeBytes_take_header {w n seed : Nat} (hw : w < 2 ^ 64) (hn : n < 2 ^ 64)
    (hseed : seed < 2 ^ 64) (hw0 : ¬(w = 0 ∨ 64 < w)) (body : List Nat) (j hdr : Nat)
    (hhdr : hdr = 1 + (writeVarint w).length + (writeVarint n).length + (writeVarint seed).length) :
    decodeBytes ((SCHEDULE_MAGIC_V2 ::
        (writeVarint w ++ (writeVarint n ++ (writeVarint seed ++ body)))).take j)
      = if hdr ≤ j then
          match decodeSteps w n (bytesToBits (body.take (j - hdr))) with
          | none => none
          | some steps => some { seed := seed, steps := steps }
        else none := by
  cases j with
  | zero => rw [if_neg (by omega)]; rfl
  | succ j =>
    rw [List.take_succ_cons, decodeBytes, if_neg (fun hne => hne rfl), readVarint_take_append _ hw]
    by_cases h1 : j < (writeVarint w).length
    · rw [if_pos h1, if_neg (by omega)]
    rw [if_neg h1]
    simp only []  /- reduces the `match` on the pair just read -/
    rw [readVarint_take_append _ hn]
    by_cases h2 : j - (writeVarint w).length < (writeVarint n).length
    · rw [if_pos h2, if_neg (by omega)]
    rw [if_neg h2]
    simp only []
    rw [readVarint_take_append _ hseed]
    by_cases h3 : j - (writeVarint w).length - (writeVarint n).length < (writeVarint seed).length
    · rw [if_pos h3, if_neg (by omega)]
    rw [if_neg h3]
    simp only []
    rw [if_neg hw0, if_pos (by omega),
      show j - (writeVarint w).length - (writeVarint n).length - (writeVarint seed).length
        = j + 1 - hdr by omega]
    rfl

/-- What the decoder makes of the first `j` bytes of an encoding.  It succeeds — with the original
    schedule — exactly when the whole header and all *needed* step bits survive (only unused
    trailing zero bytes may be cut). -/
theorem decodeBytes_take (s : Schedule) (h : s.wf) (j : Nat) :
    decodeBytes ((encodeBytes s).take j)
      = if headerLen s ≤ j ∧ neededBits s ≤ 8 * (j - headerLen s) then some s else none := by
  have hw1 := one_le_taskIdBits s.steps
  have hw64 := taskIdBits_le_64 h
  obtain ⟨hseed, _, hlen⟩ := h
  have hle := stepsBits_length_le (taskIdBits s.steps) s.steps
  rw [encodeBytes, decodeBytes_take_header (Nat.lt_of_le_of_lt hw64 (by decide)) hlen hseed
    (by omega) _ j (headerLen s) rfl]
  by_cases hhl : headerLen s ≤ j
  · rw [if_pos hhl, bytesToBits_take, encodeStepBytes, bytesToBits_packBytes _ _ (by omega)]
    by_cases h4 : neededBits s ≤ 8 * (j - headerLen s)
    · rw [if_pos ⟨hhl, h4⟩, List.take_append, List.take_of_length_le h4,
        decodeSteps_stepsBits _ _ _ (fun id hm => lt_two_pow_taskIdBits hm)]
    · rw [if_neg (fun hc => h4 hc.2), List.take_append_of_le_length (Nat.le_of_not_le h4),
        decodeSteps_take _ _ _ (Nat.lt_of_not_le h4)]
  · rw [if_neg hhl, if_neg (fun hc => hhl hc.1)]

theorem decodeBytes_encodeBytes (s : Schedule) (h : s.wf) : decodeBytes (encodeBytes s) = some s := by
  have hb := neededBits_le s
  have := decodeBytes_take s h (encodeBytes s).length
  rwa [List.take_length, encodeBytes_length, if_pos ⟨Nat.le_add_right .., by omega⟩] at this

theorem hexOfSchedule_not_ws (s : Schedule) : ∀ c ∈ hexOfSchedule s, isWhitespace c = false :=
  encodeHex_not_ws _ (encodeBytes_lt s)

theorem filter_take_hexOfSchedule (s : Schedule) (k : Nat) :
    ((hexOfSchedule s).take k).filter (fun c => !isWhitespace c) = (hexOfSchedule s).take k :=
  filter_not_ws_eq_self fun c hc => hexOfSchedule_not_ws s c (List.mem_of_mem_take hc)

theorem filter_hexOfSchedule (s : Schedule) :
    (hexOfSchedule s).filter (fun c => !isWhitespace c) = hexOfSchedule s :=
  filter_not_ws_eq_self (hexOfSchedule_not_ws s)

theorem deserializeChars_of_filter_take (s : Schedule) (h : s.wf) (cs : List Char) (j : Nat)
    (hcs : cs.filter (fun c => !isWhitespace c) = (hexOfSchedule s).take (2 * j)) :
    deserializeChars cs
      = if headerLen s ≤ j ∧ neededBits s ≤ 8 * (j - headerLen s) then some s else none := by
  unfold deserializeChars
  rw [hcs, hexOfSchedule, encodeHex_take,
    decodeHex_encodeHex _ (fun b hb => encodeBytes_lt s b (List.mem_of_mem_take hb))]
  exact decodeBytes_take s h j

theorem deserializeChars_of_filter (s : Schedule) (h : s.wf) (cs : List Char)
    (hcs : cs.filter (fun c => !isWhitespace c) = hexOfSchedule s) :
    deserializeChars cs = some s := by
  unfold deserializeChars
  rw [hcs, hexOfSchedule, decodeHex_encodeHex _ (encodeBytes_lt s)]
  exact decodeBytes_encodeBytes s h

theorem deserializeChars_of_odd (cs : List Char)
    (h : (cs.filter (fun c => !isWhitespace c)).length % 2 = 1) : deserializeChars cs = none := by
  unfold deserializeChars
  cases hd : decodeHex (cs.filter fun c => !isWhitespace c) with
  | none => rfl
  | some bs => have := (decodeHex_spec _ _ hd).1; omega

theorem filter_serializeChars (s : Schedule) :
    (serializeChars s).filter (fun c => !isWhitespace c) = hexOfSchedule s := by
  unfold serializeChars
  rw [filter_joinLines _ (by simp [isWhitespace_newline]), chunks_flatten _ (by decide),
    filter_hexOfSchedule]

theorem hexOfSchedule_ne_nil (s : Schedule) : hexOfSchedule s ≠ [] := by
  simp [hexOfSchedule, encodeBytes, encodeHex]

theorem linesOf_serializeChars (s : Schedule) :
    linesOf (serializeChars s) = chunks LINE_WIDTH (hexOfSchedule s) := by
  unfold serializeChars
  apply linesOf_joinLines _ (chunks_ne_nil _ _ (hexOfSchedule_ne_nil s))
  intro c hc hnl
  have := hexOfSchedule_not_ws s _ ((chunksAux_spec LINE_WIDTH _ _ c hc).2 _ hnl)
  rw [isWhitespace_newline] at this
  cases this

end ShuttleModel

import ShuttleProofs.Lemmas.ReplaySim
/-!
# Replay lemmas: the schedule seed stored in the kernel (`Schedule::new(seed)`) is never read

`withSeed sd k` / `stSeed sd st` replace the `seed` field (`Kernel.reCfg id (fun _ => sd)`).  Task segments and
`schedule()` commute with that replacement by the kernel lemmas about `reCfg` (`Lemmas/KernelSim.lean`); here this is
lifted to loop iterations and whole runs (`execute_seed`).
-/

namespace ShuttleProofs.Replay
open ShuttleModel ShuttleProofs.Kernel

variable {P : Program} {σ : Type}

def withSeed (sd : Nat) (k : Kernel) : Kernel := { k with seed := sd }

def stSeed (sd : Nat) (st : ExecState P σ) : ExecState P σ := { st with k := withSeed sd st.k }

def resSeed (sd : Nat) (r : Result P σ) : Result P σ := ⟨r.outcome, stSeed sd r.st⟩

theorem resSeed_outcome (sd : Nat) (r : Result P σ) : (resSeed sd r).outcome = r.outcome := rfl
theorem resSeed_log (sd : Nat) (r : Result P σ) : (resSeed sd r).st.log = r.st.log := rfl
theorem resSeed_sch (sd : Nat) (r : Result P σ) : (resSeed sd r).st.sch = r.st.sch := rfl
theorem resSeed_u (sd : Nat) (r : Result P σ) : (resSeed sd r).st.u = r.st.u := rfl
theorem resSeed_schedule (sd : Nat) (r : Result P σ) : (resSeed sd r).st.k.schedule_ = r.st.k.schedule_ := rfl

theorem spawnTask_withSeed (sd : Nat) (k : Kernel) (me : Nat) :
    (withSeed sd k).spawnTask (some me) =
      ((k.spawnTask (some me)).1, withSeed sd (k.spawnTask (some me)).2) :=
  spawnTask_reCfg id (fun _ => sd) k me

/-- `byBound` reads `maxSteps`, which `stSeed` leaves alone: the side condition of `afterOk_stCfg` is `rfl`. -/
theorem loopStep_stSeed (S : Scheduler σ) (segFuel : Nat) (sd : Nat) (st : ExecState P σ) :
    loopStep S segFuel (stSeed sd st) = Sum.map (resSeed sd) (stSeed sd) (loopStep S segFuel st) := by
  unfold loopStep
  rw [show (stSeed sd st).k.schedule S (stSeed sd st).sch = stepCfg id (fun _ => sd) (st.k.schedule S st.sch) from
    schedule_reCfg S id (fun _ => sd) st.k st.sch rfl]
  cases st.k.schedule S st.sch with
  | err e k s => cases e <;> rfl
  | schedPanic msg k s => rfl
  | ok k s ev =>
    exact (congrArg (afterOk S segFuel · ev) (afterSched_stCfg id (fun _ => sd) st k s ev)).trans
      (afterOk_stCfg id (fun _ => sd) S segFuel _ ev fun _ => rfl)

theorem runLoop_stSeed (S : Scheduler σ) (segFuel : Nat) (sd : Nat) :
    ∀ (fuel : Nat) (st : ExecState P σ),
      runLoop S segFuel fuel (stSeed sd st) = resSeed sd (runLoop S segFuel fuel st)
  | 0, st => by rw [runLoop_zero, runLoop_zero]; rfl
  | fuel + 1, st => by
    rw [runLoop_succ, runLoop_succ, loopStep_stSeed S segFuel sd st]
    cases loopStep S segFuel st with
    | inl r => rfl
    | inr st' => exact runLoop_stSeed S segFuel sd fuel st'

/-- **The schedule seed does not influence an execution**: executing with seed `sd` instead of `seed` gives the
same result, except for the `seed` field stored in the kernel. -/
theorem execute_seed (P : Program) (S : Scheduler σ) (ms : MaxSteps) (seed sd : Nat) (s : σ) (fuel segFuel : Nat) :
    execute P S ms sd s fuel segFuel = resSeed sd (execute P S ms seed s fuel segFuel) := by
  rw [execute_eq, execute_eq, ← runLoop_stSeed]
  rfl

end ShuttleProofs.Replay

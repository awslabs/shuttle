import ShuttleModel.Prim.Sem
import ShuttleModel.Prim.Chan
import ShuttleModel.Prim.Barrier
import ShuttleModel.Prim.Once
import ShuttleModel.Prim.Condvar
import ShuttleProofs.Lemmas.ClockKernel
import ShuttleProofs.Lemmas.LocksAtomic
/-!
# Vector-clock lemmas: one lemma per happens-before edge, on the PURE transitions

Each lemma says: the clock the second task ends up with (the value the wrapper hands to `update_clock` /
`joinClockOf`, joined into its own clock) dominates the clock the first task published.

This file and `ClockKernel` stand beside the `Kernel*`, `Sem*` and `Chan*` chains, not on them: an edge needs one or
two facts read off a transition's definition and none of those chains' invariants. Twins: `batchSum` = `SemLts.bsum`;
`s.avail = batchSum s.initBatches` = `SemLts.BatchOk`; `sendPush_messages`, `recvPop_head` ⊂ `C06.sendPush_state`, `recvPop_ok`.
-/

namespace ShuttleProofs.Clock
open ShuttleModel
open ShuttleModel.Atomic (exhaleSpec inhaleSpec loadSpec storeSpec fetchUpdateSpec)

/-- **spawn** (`C15.spawn_edge` is the part about domination): the child's initial clock *is* the parent's clock after the spawn (incremented,
extended); it dominates the parent's clock before, and the parent's tick is in it. -/
theorem spawnTask_child_clock (k : Kernel) (p : Nat) (ptk : Task) (h : k.getTask? p = some ptk) :
    ∃ ptk' ctk, (k.spawnTask (some p)).2.getTask? p = some ptk' ∧
      (k.spawnTask (some p)).2.getTask? (k.spawnTask (some p)).1 = some ctk ∧
      (k.spawnTask (some p)).1 = k.tasks.length ∧
      ctk.clock = ptk'.clock ∧ ctk.clock = (ptk.clock.increment p).extend k.tasks.length ∧
      ple ptk.clock ctk.clock := by
  have hlt : p < k.tasks.length := (List.getElem?_eq_some_iff.mp h).1
  have e : k.spawnTask (some p) =
      (k.tasks.length,
        { (k.setTask p { ptk with clock := (ptk.clock.increment p).extend k.tasks.length }) with
          tasks := (k.setTask p { ptk with clock := (ptk.clock.increment p).extend k.tasks.length }).tasks ++
            [{ clock := (ptk.clock.increment p).extend k.tasks.length, parent := some p }] }) := by
    unfold Kernel.spawnTask
    simp only [h]
  rw [e]
  refine ⟨{ ptk with clock := (ptk.clock.increment p).extend k.tasks.length },
    { clock := (ptk.clock.increment p).extend k.tasks.length, parent := some p }, ?_, ?_, rfl, rfl, rfl, ?_⟩
  · exact (List.getElem?_append_left ((List.length_set ..).symm ▸ hlt)).trans (getTask?_setTask_self _ h)
  · show ((k.tasks.set p _) ++ _)[k.tasks.length]? = _
    rw [List.getElem?_append_right (by simp)]
    simp
  · exact ple_trans (ple_increment _ _) (ple_extend _ _)

/-- the parent's tick is visible in the child -/
theorem spawn_edge_tick (c : Clock) (p tid : Nat) (hp : p < List.length c) :
    Clock.get ((c.increment p).extend tid) p = Clock.get c p + 1 := by
  rw [get_extend, get_increment_self c p hp]

/-- **join** at the kernel level: the two requests `clockOf target; updateClock _` of `JoinHandle::join`
(`update_clock(&get_clock(target))`; on clocks alone this is `C15.join_edge`) -/
theorem join_edge_kernel (k k' : Kernel) (me target : Nat) (tt : Task) (ht : k.getTask? target = some tt)
    (h : k.modTask me (fun tk => .ok { tk with clock := (tk.clock.increment me).update tt.clock }) = .ok k') :
    ∃ jt', k'.getTask? me = some jt' ∧ ple tt.clock jt'.clock := by
  unfold Kernel.modTask at h
  split at h
  · cases h
  · cases h
    exact ⟨_, getTask?_setTask_self _ ‹_›, ple_update_right _ tt.clock⟩

/-- the clocks of the batches an acquisition of `n` permits touches (fully or partially) -/
def consumed : Nat → List (Nat × Clock) → List Clock
  | _, [] => []
  | n, (b, c) :: rest => c :: (if n ≤ b then [] else consumed (n - b) rest)

/-- **the clock returned by the batch loop is exactly the join of the start value and of the clocks of the
batches consumed** — nothing less (soundness) and nothing more (FIFO attribution, no extra order) -/
theorem takeBatches_clock : ∀ (bs : List (Nat × Clock)) (n : Nat) (acc : Clock),
    (SemState.takeBatches n bs acc).2 = (consumed n bs).foldl Clock.update acc := by
  intro bs n acc
  fun_induction SemState.takeBatches n bs acc
  · rfl
  · rw [consumed, if_pos (Nat.le_of_lt ‹_›)]; rfl
  · rw [consumed, if_pos (Nat.le_refl _)]; rfl
  · rw [consumed, if_neg fun hle => (Nat.lt_or_eq_of_le hle).elim ‹¬ _ < _› ‹¬ _ = _›]; assumption

/-- a fold of `update` is the least upper bound of the start value and the list; with `takeBatches_clock`:
the acquirer's clock is above every batch consumed, and **no clock that was not consumed leaks into it** -/
theorem foldl_update_ple_iff : ∀ (cs : List Clock) (acc ub : Clock),
    ple (cs.foldl Clock.update acc) ub ↔ ple acc ub ∧ ∀ c ∈ cs, ple c ub
  | [], _, _ => by simp
  | d :: cs, acc, ub => by
    rw [List.foldl_cons, foldl_update_ple_iff cs, update_ple_iff, List.forall_mem_cons, and_assoc]

def batchSum (l : List (Nat × Clock)) : Nat := (l.map (·.1)).sum

theorem mem_consumed_last : ∀ (pre : List (Nat × Clock)) (n b : Nat) (c : Clock),
    batchSum pre < n → c ∈ consumed n (pre ++ [(b, c)])
  | [], n, b, c, _ => by simp [consumed]
  | (b1, c1) :: pre, n, b, c, h => by
    have hs : b1 + batchSum pre < n := by simpa [batchSum] using h
    have h3 : ¬ n ≤ b1 := Nat.not_le.2 (Nat.lt_of_le_of_lt (Nat.le_add_right _ _) hs)
    simp only [List.cons_append, consumed, h3, if_false]
    exact List.mem_cons_of_mem _ (mem_consumed_last pre (n - b1) b c (Nat.lt_sub_of_add_lt (Nat.add_comm .. ▸ hs)))

theorem paAcquire_clock {s s' : SemState} {n : Nat} {acq out : Clock} (h : s.paAcquire n acq = some (s', out)) :
    out = if n = 0 then Clock.new else (consumed n s.initBatches).foldl Clock.update Clock.new := by
  unfold SemState.paAcquire at h
  split at h
  · cases h; exact (if_pos ‹_›).symm
  · split at h <;> cases h
    exact (takeBatches_clock ..).trans (if_neg ‹_›).symm

/-- every batch an acquisition consumes is below the clock it returns (mutex hand-over is the instance
with one batch of one permit) -/
theorem sem_consumed_edge (s : SemState) (n : Nat) (acq : Clock) (s' : SemState) (out : Clock)
    (h : s.paAcquire n acq = some (s', out)) (hn : n ≠ 0) : ∀ c ∈ consumed n s.initBatches, ple c out := by
  rw [paAcquire_clock h, if_neg hn]
  exact ((foldl_update_ple_iff _ _ _).mp (ple_refl _)).2

/-- … and nothing else: the returned clock is below any bound of the consumed batches -/
theorem sem_acquire_exact (s : SemState) (n : Nat) (acq : Clock) (s' : SemState) (out ub : Clock)
    (h : s.paAcquire n acq = some (s', out)) (hub : ∀ c ∈ consumed n s.initBatches, ple c ub) : ple out ub := by
  rw [paAcquire_clock h]
  split
  · exact new_ple _
  · exact (foldl_update_ple_iff _ _ _).mpr ⟨new_ple _, hub⟩

/-- the atomic's clock (`None` = all zeros) -/
def aclk (a : AtomicState) : Clock := a.clock.getD Clock.new

theorem inhale_publishes (me : Nat) (a : AtomicState) (c : Clock) :
    ple (inhaleSpec me a c).2 (aclk (inhaleSpec me a c).1) ∧ ple (aclk a) (aclk (inhaleSpec me a c).1) := by
  unfold inhaleSpec aclk
  exact ⟨ple_update_right _ _, ple_update_left _ _⟩

theorem exhale_receives (me : Nat) (a : AtomicState) (c : Clock) :
    ple (aclk a) (exhaleSpec me a c).2 ∧ aclk (exhaleSpec me a c).1 = aclk a ∧ ple c (exhaleSpec me a c).2 := by
  unfold exhaleSpec aclk
  exact ⟨ple_update_right _ _, rfl, ple_updateClock_self _ _ _⟩

/-- `store` and `load` do not lower the atomic's clock -/
theorem atomic_clock_mono_store (me v : Nat) (a : AtomicState) (c : Clock) :
    ple (aclk a) (aclk (storeSpec me v a c).1) := (inhale_publishes me a c).2

theorem atomic_clock_mono_load (me : Nat) (a : AtomicState) (c : Clock) :
    ple (aclk a) (aclk (loadSpec me a c).1) := by
  unfold loadSpec; rw [(exhale_receives me a c).2.1]; exact ple_refl _

/-- write → read for a successful read-modify-write as the writer and any RMW as the reader (for `store` and
`load` see `C15.atomic_write_read_edge`) -/
theorem atomic_rmw_rmw_edge (w r : Nat) (f g : Nat → Option Nat) (a a' : AtomicState) (cw cr : Clock) (v : Nat)
    (hf : f a.value = some v)
    (hmono : ple (aclk (fetchUpdateSpec w f a cw).1) (aclk a')) :
    ple (fetchUpdateSpec w f a cw).2 (fetchUpdateSpec r g a' cr).2 := by
  have hw : ple (fetchUpdateSpec w f a cw).2 (aclk (fetchUpdateSpec w f a cw).1) := by
    unfold fetchUpdateSpec; rw [hf]; exact (inhale_publishes w _ _).1
  have hr : ple (aclk a') (fetchUpdateSpec r g a' cr).2 := by
    unfold fetchUpdateSpec
    cases g a'.value with
    | none => exact (exhale_receives r a' cr).1
    | some u =>
      simp only
      refine ple_trans (exhale_receives r a' cr).1 ?_
      unfold inhaleSpec
      exact ple_increment _ _
  exact ple_trans hw (ple_trans hmono hr)

theorem sendPush_messages (s s' : ChanState) (v : Nat) (c : Clock) (out : PushOut) (effs : List Eff)
    (h : s.sendPush v c = .ok (s', out, effs)) : s'.messages = s.messages ++ [(v, c)] := by
  revert s'
  fun_cases ChanState.sendPush s v c <;> intro s' h <;> cases h <;> rfl

theorem recvPop_head (s s' : ChanState) (item : Nat × Clock) (effs : List Eff)
    (h : s.recvPop = .ok (s', item, effs)) : s.messages = item :: s'.messages := by
  revert s'
  fun_cases ChanState.recvPop s <;> intro s' h <;> cases h
  assumption

/-- FIFO in general: a push never disturbs the messages in front and lands behind them (and a pop removes the
front one: `recvPop_head`) -/
theorem chan_fifo (s s1 : ChanState) (v : Nat) (c : Clock) (out : PushOut) (e1 : List Eff)
    (hs : s.sendPush v c = .ok (s1, out, e1)) (i : Nat) (hi : i < s.messages.length) :
    s1.messages[i]? = s.messages[i]? ∧ s1.messages[s.messages.length]? = some (v, c) := by
  rw [sendPush_messages s s1 v c out e1 hs]
  exact ⟨List.getElem?_append_left hi, by simp⟩

/-- `receiver_clock` is a queue: on a bounded channel `recvAck` appends the receiver's clock … -/
theorem recvAck_receiverClock {s s1 : ChanState} {mine : Clock} {e1 : List Eff} {rcs : List Clock} {b : Nat}
    (hrc : s.receiverClock = some rcs) (hb : s.bound = some b) (hpos : 0 < b)
    (ha : s.recvAck mine = .ok (s1, (), e1)) : s1 = { s with receiverClock := some (rcs ++ [mine]) } := by
  unfold ChanState.recvAck at ha
  rw [hrc, hb] at ha
  simp only [hpos, if_true] at ha
  split at ha <;> cases ha
  rw [hb]

/-- … and the sender that uses a slot pops the front one, which its wrapper joins -/
theorem sendPush_rc {s s2 : ChanState} {v : Nat} {c : Clock} {out : PushOut} {e2 : List Eff} {rc : Clock}
    {rest : List Clock} (hnr : s.isRdv = false) (hrc : s.receiverClock = some (rc :: rest))
    (hs : s.sendPush v c = .ok (s2, out, e2)) : out.rc = some rc ∧ s2.receiverClock = some rest := by
  unfold ChanState.sendPush at hs
  simp only [ChanState.isRdv] at hnr
  simp only [ChanState.isRdv, hnr, hrc] at hs
  split at hs <;> cases hs
  exact ⟨rfl, rfl⟩

/-- **`recv → send` on a bounded channel**, the case that no earlier acknowledgement is pending (`receiver_clock`
empty; in general `sendPush_rc` hands out the oldest pending clock): the sender that uses the freed slot is handed
the receiver's clock. -/
theorem chan_recv_send_edge (s s1 s2 : ChanState) (mine : Clock) (b : Nat) (v : Nat) (c : Clock) (out : PushOut)
    (e1 e2 : List Eff) (hb : s.bound = some b) (hpos : 0 < b) (hrc : s.receiverClock = some [])
    (ha : s.recvAck mine = .ok (s1, (), e1)) (hs : s1.sendPush v c = .ok (s2, out, e2)) :
    out.rc = some mine := by
  obtain rfl := recvAck_receiverClock hrc hb hpos ha
  have hnr : ({ s with receiverClock := some ([] ++ [mine]) } : ChanState).isRdv = false := by
    simp [ChanState.isRdv, hb, Nat.ne_of_gt hpos]
  exact (sendPush_rc hnr rfl hs).1

/-- an arrival puts its (incremented) clock into the barrier's clock, which never decreases -/
theorem barrier_arrive_clock (s s' : BarrierState) (me : Nat) (c : Clock) (clk : Nat → Clock)
    (a : BarrierArrival) (effs : List Eff) (h : s.arrive me c clk = .ok (s', a, effs)) :
    s'.clock = s.clock.update c := by
  revert s'
  fun_cases BarrierState.arrive s me c clk <;> intro s' h <;> cases h <;> rfl

theorem mem_releaseEffs (clk : Nat → Clock) (B : Clock) : ∀ (l : List Nat) (t : Nat) (x : Clock),
    Eff.joinClock t x ∈ BarrierState.releaseEffs clk B l ↔ t ∈ l ∧ x = ((clk t).increment t).update B
  | [], t, x => by simp [BarrierState.releaseEffs]
  | tid :: rest, t, x => by
    simp only [BarrierState.releaseEffs, List.mem_cons, Eff.joinClock.injEq, reduceCtorEq, false_or,
      mem_releaseEffs clk B rest]
    rw [or_and_right]
    exact or_congr_left (and_congr_right fun h => h ▸ Iff.rfl)

/-- **barrier** (`C15.barrier_edge` is the second half): when the releasing arrival completes the group, every member `t` (the earlier
arrivals and the releaser itself) gets a `joinClock` with a clock that dominates the barrier's clock —
which contains the clock `c` of this arrival and (by `barrier_arrive_clock`, arrival by arrival) the clock
of every earlier arrival. -/
theorem arrive_released_joins (s s' : BarrierState) (me : Nat) (c : Clock) (clk : Nat → Clock) (e : Nat) (effs : List Eff)
    (h : s.arrive me c clk = .ok (s', .released e, effs)) :
    (∀ t x, Eff.joinClock t x ∈ effs → ple (s.clock.update c) x ∧ (t ∈ s.waiters ∨ t = me)) ∧
    (∀ t, t ∈ s.waiters ∨ t = me → ∃ x, Eff.joinClock t x ∈ effs ∧ ple c x ∧ ple s.clock x) := by
  have hmem : ∀ t, t ∈ s.waiters ++ [me] ↔ t ∈ s.waiters ∨ t = me := fun t =>
    List.mem_append.trans (or_congr_right List.mem_singleton)
  revert s' e effs
  fun_cases BarrierState.arrive s me c clk <;> intro s' e effs h <;> cases h
  constructor
  · intro t x hx
    obtain ⟨h1, rfl⟩ := (mem_releaseEffs clk _ _ t x).mp hx
    exact ⟨ple_update_right _ _, (hmem t).mp h1⟩
  · intro t ht
    refine ⟨_, (mem_releaseEffs clk _ _ t _).mpr ⟨(hmem t).mpr ht, rfl⟩, ?_, ?_⟩
    · exact ple_trans (ple_update_right s.clock c) (ple_update_right _ _)
    · exact ple_trans (ple_update_left s.clock c) (ple_update_right _ _)

/-- a notify loop that runs through (no `assert_ne!` failure) applies `f` to every waiter's status; ids are
kept, so the entry found for `w` afterwards is the old one with `f` applied -/
theorem notifyLoop_find (me w : Nat) (f : CvStatus → CvStatus) :
    ∀ (ws ws' : List (Nat × CvStatus)) (effs : List Eff) (st : CvStatus),
      CondvarState.notifyLoop me f ws = (ws', effs, false) → ws.find? (·.1 == w) = some (w, st) →
      ws'.find? (·.1 == w) = some (w, f st) := by
  intro ws
  fun_induction CondvarState.notifyLoop me f ws <;> intro ws' effs st h hw
  · cases hw
  · cases h
  · rename_i ih
    cases h
    rw [List.find?_cons] at hw ⊢
    split at hw
    · cases hw; simp only [*]
    · simp only [*]; exact ih _ _ st ‹_› hw

/-- **notify → the wait it wakes**, the broadcast case (`notify_one`: `C15.condvar_notify_wait_edge`): the
`wait` that resumes consumes exactly the notifier's clock `c` -/
theorem condvar_notifyAll_wait_edge (s s1 : CondvarState) (notifier w : Nat) (c : Clock) (e1 : List Eff)
    (st : CvStatus) (hw : s.waiters.find? (·.1 == w) = some (w, st))
    (hn : s.notifyAll notifier c = .ok (s1, e1)) :
    ∃ s2 e2, s1.wake w = .ok (s2, c, e2) := by
  unfold CondvarState.notifyAll at hn
  split at hn
  · cases hn
  next ws _ hloop =>
    -- the loop ran through: `s1.waiters = ws`
    cases hn
    unfold CondvarState.wake
    rw [notifyLoop_find notifier w _ _ _ _ _ hloop hw]
    exact ⟨_, _, rfl⟩

end ShuttleProofs.Clock

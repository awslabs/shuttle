import ShuttleProofs.Lemmas.ReplaySim
import ShuttleProofs.Lemmas.ReplayClock
/-!
# Replay lemmas: the `ReplayScheduler` is a follower of the log it was built from (`replay_follows`); schedulers whose
`next_u64` is a `RandomDataSource` re-seeded by `new_execution` produce `DataFaithful` executions, and the
round-robin, random and DFS schedulers are such schedulers; round-robin is also `WellBehaved`.
-/

namespace ShuttleProofs.Replay
open ShuttleModel ShuttleModel.Replay ShuttleProofs.Kernel

def draws : List Ev → List Nat
  | [] => []
  | .draw v :: evs => v :: draws evs
  | _ :: evs => draws evs

/-- the data source `d` produces the values `vs`, in order -/
def DrawsFrom (d : Rng.RandomDataSource) : List Nat → Prop
  | [] => True
  | v :: vs => d.nextU64.1 = v ∧ DrawsFrom d.nextU64.2 vs

/-- the data source of an execution whose schedule seed is `seed`:
`RandomDataSource::initialize(seed)` followed by `reinitialize()` -/
def seededSource (seed : Nat) : Rng.RandomDataSource := (Rng.RandomDataSource.initialize seed).reinitialize.2

theorem reinitialize_initialize (seed : Nat) :
    (Rng.RandomDataSource.initialize seed).reinitialize =
      (seed, { rng := Rng.seedFromU64 seed, nextSeed := none }) := rfl

theorem reinitialize_snd (d : Rng.RandomDataSource) : d.reinitialize.2 = seededSource d.reinitialize.1 := rfl

/-- **`DataFaithful`**: every `Ev.draw v` of the log, in order, is the corresponding output of the
`RandomDataSource` stream of `seed`. -/
def DataFaithful (seed : Nat) (log : List Ev) : Prop := DrawsFrom (seededSource seed) (draws log)

def NoNone (evs : List Ev) : Prop := ∀ ev ∈ evs, ∀ o c y, ev ≠ .dec o c y none

theorem NoNone.tail {ev : Ev} {evs : List Ev} (h : NoNone (ev :: evs)) : NoNone evs :=
  fun e he => h e (List.mem_cons_of_mem _ he)

/-- The relation of `replay_follows` (`RR` for replay; `rr…` further down is round-robin): the replay state `rs`
(replaying `sch`, no `allow_incomplete`, no target clock) has consumed a prefix of `sch.steps`, what is left is
exactly the projection `logSteps evs` of the events still to come, none of those is a consultation answered `None`,
and its data source will produce exactly the draws among `evs`. -/
structure RR {σ : Type} (sch : Schedule) (_s : σ) (evs : List Ev) (rs : ReplayState) : Prop where
  schedule : rs.schedule = sch
  allow : rs.allowIncomplete = false
  target : rs.targetClock = none
  skipped : rs.stepsSkipped = 0
  started : rs.started = true
  le : rs.steps ≤ sch.steps.length
  rest : sch.steps.drop rs.steps = (logSteps evs).map ofSStep
  noNone : NoNone evs
  data : DrawsFrom rs.data (draws evs)

theorem find_of_mem_ids {views : List TaskView} {t : Nat} (h : t ∈ views.map (·.id)) :
    ∃ task, views.find? (fun v => v.id == t) = some task := by
  obtain ⟨v, hv, rfl⟩ := List.mem_map.mp h
  exact Option.isSome_iff_exists.mp (List.find?_isSome.mpr ⟨v, hv, beq_self_eq_true _⟩)

theorem replay_follows {σ : Type} (S : Scheduler σ) (sch : Schedule) :
    Follows S replayScheduler.sched (RR (σ := σ) sch) where
  dec := by
    intro s rs views off cur y ch evs s1 hR hv hmem _
    cases ch with
    | none => exact absurd rfl (hR.noNone _ (List.mem_cons_self ..) off cur y)
    | some t =>
      obtain ⟨hget, hdrop, hle⟩ := getElem?_of_drop_eq_cons (x := ScheduleStep.task t) hR.rest
      obtain ⟨task, hfind⟩ := find_of_mem_ids (t := t) (by rw [hv]; exact hmem t rfl)
      exact ⟨_, nextTask_step rs views cur y t task (hR.schedule ▸ hget) hfind
          (fun c hc => nomatch hR.target.symm.trans hc),
        { hR with le := hle, rest := hdrop, noNone := hR.noNone.tail }⟩
  draw := by
    intro s rs v evs s1 hR _
    obtain ⟨hget, hdrop, hle⟩ := getElem?_of_drop_eq_cons (x := ScheduleStep.random) hR.rest
    have hd := hR.data
    simp only [draws, DrawsFrom] at hd
    refine ⟨{ rs with steps := rs.steps + 1, data := rs.data.nextU64.2 }, ?_, ?_⟩
    · show Replay.nextU64 rs = _
      unfold Replay.nextU64
      rw [hR.schedule, hget]
      simp only [hd.1]
    · exact { hR with le := hle, rest := hdrop, noNone := hR.noNone.tail, data := hd.2 }
  obs := fun _ _ _ _ hR => { hR with rest := hR.rest, noNone := hR.noNone.tail }

theorem RR.exhausted {σ : Type} {sch : Schedule} {s : σ} {rs : ReplayState} (h : RR sch s [] rs) :
    rs.steps = sch.steps.length :=
  Nat.le_antisymm h.le (List.drop_eq_nil_iff.mp h.rest)

variable {σ : Type}

/-- the scheduler's random data is a `RandomDataSource` kept in its state (`proj`), untouched by `next_task` -/
structure DataProj (S : Scheduler σ) (proj : σ → Rng.RandomDataSource) : Prop where
  task : ∀ s views cur y ch s1, S.nextTask s views cur y = (.choose ch, s1) → proj s1 = proj s
  draw : ∀ s v s1, S.nextU64 s = (.ok v, s1) → (proj s).nextU64 = (v, proj s1)

/-- Such a scheduler follows itself, and what its data source is about to produce are the draws still to come: if
the draws of the whole log are not the stream of `d0`, then at every later point the remaining draws are not the
stream of the data source either (which is absurd at the end, where none remain). -/
theorem dataProj_follows {S : Scheduler σ} {proj : σ → Rng.RandomDataSource} (h : DataProj S proj)
    (d0 : Rng.RandomDataSource) (full : List Ev) :
    Follows S S (fun s evs s' => s' = s ∧ (DrawsFrom (proj s) (draws evs) → DrawsFrom d0 (draws full))) where
  dec := by
    rintro s _ views off cur y ch evs s1 ⟨rfl, hj⟩ _ _ hn
    exact ⟨s1, hn, rfl, fun hd => hj (h.task _ _ _ _ _ _ hn ▸ hd)⟩
  draw := by
    rintro s _ v evs s1 ⟨rfl, hj⟩ hn
    have hd := h.draw _ _ _ hn
    exact ⟨s1, hn, rfl, fun hs => hj ⟨by rw [hd], by rw [hd]; exact hs⟩⟩
  obs := fun _ _ _ _ hR => hR

theorem dataFaithful_of_proj {S : Scheduler σ} {proj : σ → Rng.RandomDataSource} (h : DataProj S proj)
    (P : Program) (ms : MaxSteps) (seed : Nat) (s : σ) (fuel segFuel : Nat) (hs : proj s = seededSource seed)
    (hne : ∀ msg, (execute P S ms seed s fuel segFuel).outcome ≠ .schedPanic msg) :
    DataFaithful seed (execute P S ms seed s fuel segFuel).st.log.toList := by
  obtain ⟨_, _, _, hj⟩ := execute_follows
    (dataProj_follows h (seededSource seed) (execute P S ms seed s fuel segFuel).st.log.toList)
    P ms seed s s fuel segFuel hne ⟨rfl, fun hd => hs ▸ hd⟩
  exact hj trivial

/-- a full scheduler whose `new_execution` returns the seed it has just re-seeded its data source with -/
structure DataFull (F : FullScheduler σ) (proj : σ → Rng.RandomDataSource) : Prop where
  sched : DataProj F.sched proj
  newExec : ∀ s seed s', F.newExec s = .some seed s' → proj s' = seededSource seed

/-- what `builtin_data_faithful` says of one `(seed, result)` pair of a run -/
def ExecFaithful {P : Program} (x : Nat × Result P σ) : Prop :=
  (∀ msg, x.2.outcome ≠ .schedPanic msg) → DataFaithful x.1 x.2.st.log.toList

theorem runner_data_faithful {F : FullScheduler σ} {proj : σ → Rng.RandomDataSource} (hF : DataFull F proj)
    (P : Program) (ms : MaxSteps) (fuel segFuel : Nat) (iters : Nat) (s : σ) (acc : List (Nat × Result P σ))
    (hacc : ∀ x ∈ acc, ExecFaithful x) :
    ∀ x ∈ (runner P F ms fuel segFuel iters s acc).execs, ExecFaithful x :=
  (runner_inv (I := fun _ => True) (Qp := fun _ => True)
    (fun _ seed s' _ hn => ⟨fun hne =>
      dataFaithful_of_proj hF.sched P ms seed s' fuel segFuel (hF.newExec _ _ _ hn) hne, trivial⟩)
    (fun _ _ _ _ => trivial) trivial iters s acc trivial hacc).1

theorem rr_dataFull : DataFull rrScheduler (fun s => s.data) where
  sched := {
    task := by
      -- `next_task` returns the state it was given
      intro s views cur y ch s1 h
      simp only [rrScheduler] at h
      repeat' split at h
      all_goals cases h <;> rfl
    draw := by
      intro s v s1 h
      cases h
      rfl }
  newExec := by
    intro s seed s' h
    simp only [rrScheduler] at h
    split at h <;> cases h
    exact reinitialize_snd s.data

theorem random_dataFull : DataFull randomScheduler (fun s => s.dataSource) where
  sched := {
    task := by
      -- `next_task` draws from `rng`, not from the data source
      intro s views cur y ch s1 h
      simp only [randomScheduler, Rng.RandomScheduler.nextTask] at h
      split at h <;> cases h
      rename_i heq
      split at heq <;> cases heq <;> rfl
    draw := by
      intro s v s1 h
      cases h
      rfl }
  newExec := by
    intro s seed s' h
    simp only [randomScheduler, Rng.RandomScheduler.newExecution] at h
    split at h <;> cases h
    rename_i heq
    split at heq <;> cases heq
    exact reinitialize_snd s.dataSource

theorem dfs_dataFull : DataFull dfsScheduler (fun s => s.data.dataSource) where
  sched := {
    task := by
      intro s views cur y ch s1 h
      simp only [dfsScheduler] at h
      split at h <;> cases h
      rfl
    draw := by
      intro s v s1 h
      simp only [dfsScheduler] at h
      split at h <;> cases h
      rfl }
  newExec := by
    intro s seed s' h
    simp only [dfsScheduler] at h
    split at h <;> cases h
    rfl

theorem rr_wellBehaved : WellBehaved rrScheduler.sched where
  task := by
    intro s views cur y hne
    obtain ⟨v, vs, rfl⟩ := List.exists_cons_of_ne_nil hne
    simp only [rrScheduler, List.map_cons, List.head?_cons]
    cases cur with
    | none => exact ⟨_, _, rfl, fun t ht => by cases ht; simp⟩
    | some c =>
      simp only
      split
      · rename_i t hf
        refine ⟨_, _, rfl, fun t' ht' => ?_⟩
        cases ht'
        exact List.mem_of_find?_eq_some hf
      · exact ⟨_, _, rfl, fun t ht => by cases ht; simp⟩
  draw := fun s => ⟨_, _, rfl⟩

end ShuttleProofs.Replay

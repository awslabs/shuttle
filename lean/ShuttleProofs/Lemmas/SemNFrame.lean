import ShuttleProofs.Lemmas.SemFifo
/-
  Facts about every waiter of the table. The waker invariant, the requested amounts and the frame
  property all say that every table entry satisfies some `R`. The transitions change the table one
  waiter at a time, so such a property survives a step as soon as `R` survives the update of the
  waiter concerned (`step_forall`).

  The waker invariant is what `Acquire::poll` asserts with `assert_eq!(is_queued, waker.is_some())`:
  a waiter that is not queued has no waker registered — unless it holds permits / is completed / the
  semaphore is closed (those paths never look at it). With it no internal assertion of
  batch_semaphore.rs fails in a reachable state (`step_progress`), the documented
  `assert!(num_permits > 0)` of `acquire_permits` apart.
-/
namespace ShuttleModel
namespace SemLts
open Sem (PollOut)

theorem forall_mem_tset {R : Waiter → Prop} {T : List Waiter} {w' : Waiter} (h : ∀ x ∈ T, R x)
    (hw : R w') : ∀ x ∈ tset T w', R x := by
  intro x hx
  rcases mem_tset.mp hx with ⟨hx, _⟩ | ⟨rfl, _⟩
  · exact h x hx
  · exact hw

theorem unblockFront_forall {R : Waiter → Prop} (hs : ∀ w, R w → R (staleW w))
    (hg : ∀ w, R w → R (grantedW w)) (fin : Nat → Bool) (q : List Nat) (s : SemState)
    (h : ∀ w ∈ s.table, R w) : ∀ w ∈ (SemState.unblockFront fin q s).1.table, R w := by
  refine unblockFront_induct fin
    (motive := fun _ s r => (∀ w ∈ s.table, R w) → ∀ w ∈ r.1.table, R w) ?_ ?_ ?_ ?_ ?_ q s h
  · exact fun _ h => h
  · exact fun _ _ _ _ _ ih h => ih h
  · exact fun _ _ _ w _ hw _ ih h => ih (forall_mem_tset h (hs w (h w (tget_some_mem hw).1)))
  · intro _ _ s w s' _ _ hw _ hpa ih h
    exact ih (forall_mem_tset (by rw [(paAcquire_some hpa).1.table]; exact h)
      (hg w (h w (tget_some_mem hw).1)))
  · exact fun _ _ _ _ _ _ _ h => h

theorem clear_forall {R : Waiter → Prop} (f : Waiter → Waiter) (hf : ∀ w, R w → R (f w))
    (q : List Nat) (s : SemState) (h : ∀ w ∈ s.table, R w) :
    ∀ w ∈ (q.foldl (clearStep f) s).table, R w := by
  induction q generalizing s with
  | nil => exact h
  | cons wid rest ih =>
    refine ih _ ?_
    unfold clearStep
    cases hw : s.getW wid with
    | none => exact h
    | some w => exact forall_mem_tset h (hf w (h w (tget_some_mem hw).1))

theorem removeWaiterPure_forall {R : Waiter → Prop} (hs : ∀ w, R w → R (staleW w))
    (hg : ∀ w, R w → R (grantedW w)) (fin : Nat → Bool) {s s' : SemState} {effs : List Eff}
    {wid : Nat} (h : ∀ w ∈ s.table, R w) (hu : ∀ w, s.getW wid = some w → R (unqW w))
    (hr : s.removeWaiterPure fin wid = .ok (s', effs)) : ∀ w ∈ s'.table, R w := by
  obtain ⟨w, idx, hw, hnc, hp, hidx⟩ := removeWaiterPure_pre hr
  rw [removeWaiterPure_eq fin hw hnc hp hidx] at hr
  have h2 : ∀ x ∈ (rmState s w idx).table, R x := forall_mem_tset h (hu w hw)
  by_cases hb : (s.fair && idx == 0) = true
  · rw [if_pos hb] at hr
    simp only [Except.ok.injEq] at hr
    have := unblockFront_forall hs hg fin (rmState s w idx).queue (rmState s w idx) h2
    rw [hr] at this; exact this
  · rw [if_neg hb] at hr
    simp only [Except.ok.injEq, Prod.mk.injEq] at hr
    rw [← hr.1]; exact h2

/-- `poll`: the polled waiter's entry is overwritten last, by a waiter with the same request that is
queued or completed; in between only `remove_waiter` touches other entries -/
theorem pollPure_forall {R : Waiter → Prop} (hs : ∀ w, R w → R (staleW w))
    (hg : ∀ w, R w → R (grantedW w)) {s : SemState} {wid me cx : Nat} {clk : Clock}
    {fin : Nat → Bool} {w0 : Waiter} {o : PollOut} (hi : Inv s) (hw : s.getW wid = some w0)
    (hpp : s.pollPure wid me cx clk fin = .ok o)
    (hown : ∀ w', w'.wid = wid → w'.n = w0.n → w'.isQueued = true ∨ w'.completed = true → R w')
    (h : ∀ x ∈ s.table, R x) : ∀ x ∈ o.s.table, R x := by
  have hwid : w0.wid = wid := (tget_some_mem hw).2
  -- on the way nothing is claimed about the entry of `wid`
  have h' : ∀ x ∈ s.table, x.wid ≠ wid → R x := fun x hx _ => h x hx
  have mid : ∀ {T : List Waiter} {w' : Waiter}, w'.wid = wid → (∀ x ∈ T, x.wid ≠ wid → R x) →
      ∀ x ∈ tset T w', x.wid ≠ wid → R x := fun e h => forall_mem_tset h (fun hne => absurd e hne)
  have last : ∀ {T : List Waiter} {w' : Waiter}, w'.wid = wid → w'.n = w0.n →
      w'.isQueued = true ∨ w'.completed = true → (∀ x ∈ T, x.wid ≠ wid → R x) →
      ∀ x ∈ tset T w', R x := by
    intro T w' e hn hqc h x hx
    rcases mem_tset.mp hx with ⟨hx, hne⟩ | ⟨rfl, _⟩
    · exact h x hx (e ▸ hne)
    · exact hown _ e hn hqc
  cases pollPure_cases hw hpp with
  | granted _ _ ho | closed _ _ _ ho => subst ho; exact last hwid rfl (.inr rfl) h'
  | stillQueued _ _ hq _ _ _ ho | fairWait _ _ hq _ _ ho => subst ho; exact last hwid rfl (.inl hq) h'
  | enqueued _ _ _ _ _ ho => subst ho; exact last (T := s.table) hwid rfl (.inl rfl) h'
  | acquiredFresh _ _ _ s' pc hacq ho =>
    subst ho
    have ht : s'.table = s.table := (acquirePermits_frame hacq).1.table
    exact last hwid rfl (.inr rfl) (mid hwid (ht ▸ h'))
  | acquiredQueued _ _ _ _ _ s' s3 pc effs w4 hacq hrm hw4 ho =>
    subst ho
    have ht : s'.table = s.table := (acquirePermits_frame hacq).1.table
    obtain ⟨i2, hg1, _⟩ := acquirePermits_polled hi hw hacq
    obtain ⟨_, hgw, _, rs⟩ := removeWaiterPure_spec fin i2 hrm
    cases hg1.symm.trans hgw
    cases rs.getW.symm.trans hw4
    exact last hwid rfl (.inr rfl) (removeWaiterPure_forall (R := fun x => x.wid ≠ wid → R x)
      (fun w h hne => hs w (h hne)) (fun w h hne => hg w (h hne)) fin (mid (w' := polled w0) hwid (ht ▸ h'))
      (fun w hw hne => absurd (tget_some_mem hw).2 hne) hrm)

/-- Every step rewrites the table one waiter at a time: the scans and `remove_waiter` leave
`staleW w` or `grantedW w`, the poisoning release `unqW w`, `Acquire::new` appends a waiter, and
the polled waiter is overwritten by one with the same request that is queued or completed (a dropped
one is erased). A property of single waiters that survives these updates survives the step. -/
theorem step_forall {R : Waiter → Prop} (fin : Nat → Bool) {s : SemState} {op : SemOp} {o : StepOut}
    (hi : Inv s) (hstep : step fin s op = .ok o) (hs : ∀ w, R w → R (staleW w))
    (hg : ∀ w, R w → R (grantedW w)) (hpoison : o.s.closed = true → ∀ w, R w → R (unqW w))
    (hnew : ∀ task n c, op = .newAcq task n c →
      R { wid := s.nextWid, taskId := task, n := n, clock := c })
    (hpoll : ∀ {wid me cx c w0 w'}, op = .poll wid me cx c → s.getW wid = some w0 → w'.wid = wid →
      w'.n = w0.n → w'.isQueued = true ∨ w'.completed = true → R w')
    (h : ∀ w ∈ s.table, R w) : ∀ w ∈ o.s.table, R w := by
  cases step_ok_iff.mp hstep with
  | tryErr | dropGone | releaseZero | poisonZero => exact h
  | tryOk hacq => rw [(acquirePermits_frame hacq).1.table]; exact h
  | @newAcq task n clk =>
    intro w hw
    rcases List.mem_append.mp hw with h1 | h1
    · exact h w h1
    · exact List.mem_singleton.mp h1 ▸ hnew task n clk rfl
  | poll hw _ hpp =>
    exact pollPure_forall hs hg hi hw hpp (fun _ e hn hqc => hpoll rfl hw e hn hqc) h
  | @dropQueued _ wid _ _ _ _ _ hrm =>
    intro x hx
    obtain ⟨hx, hne⟩ := mem_tdrop.mp hx
    exact removeWaiterPure_forall (R := fun x => x.wid ≠ wid → R x) (fun w h hne => hs w (h hne))
      (fun w h hne => hg w (h hne)) fin (fun x hx _ => h x hx)
      (fun w hw hne => absurd (tget_some_mem hw).2 hne) hrm x hx hne
  | dropUnqueued => exact fun x hx => h x (mem_tdrop.mp hx).1
  | @release _ n clk =>
    cases hf : s.fair with
    | true => rw [releasePure_fair fin n clk hf]; exact unblockFront_forall hs hg fin _ _ h
    | false => rw [releasePure_unfair_state fin n clk hf]; exact h
  | close =>
    cases hc : s.closed with
    | true => rw [show s.closePure fin = (s, []) from if_pos hc]; exact h
    | false => rw [closePure_eq fin s hc]; exact clear_forall _ hs s.queue s h
  | @poison _ n => exact clear_forall _ (hpoison rfl) _ (s.paRelease n Clock.new) h

/-- local condition on one waiter (`c` = the semaphore is closed) -/
def wakerCond (c : Bool) (w : Waiter) : Prop :=
  w.isQueued = false → w.waker = none ∨ w.hasPermits = true ∨ w.completed = true ∨ c = true

/-- every waiter except possibly `ex` satisfies `wakerCond` -/
def WOkX (ex : Option Nat) (c : Bool) (T : List Waiter) : Prop :=
  ∀ w ∈ T, some w.wid ≠ ex → wakerCond c w

abbrev WOk (c : Bool) (T : List Waiter) : Prop := WOkX none c T

theorem WOkX.closed {ex : Option Nat} (T : List Waiter) : WOkX ex true T :=
  fun _ _ _ _ => Or.inr (Or.inr (Or.inr rfl))

/-- `Inv` and the waker condition: what `step_progress` needs -/
structure WakerInv (s : SemState) : Prop where
  inv : Inv s
  wok : WOk s.closed s.table

theorem removeWaiterPure_progress (fin : Nat → Bool) {s : SemState} {wid : Nat} {w : Waiter}
    (hi : Inv s) (hw : s.getW wid = some w) (hq : w.isQueued = true) :
    ∃ r, s.removeWaiterPure fin wid = .ok r := by
  fun_cases SemState.removeWaiterPure fin s wid
  case case1 h => cases h.symm.trans hw
  case case2 h hc => cases h.symm.trans hw; rw [hi.open_of_queued hw hq] at hc; cases hc
  case case3 h _ hp =>
    cases h.symm.trans hw; rw [(hi.tq.queuedOk w (tget_some_mem hw).1 hq).1] at hp; cases hp
  case case4 hidx =>
    have := List.findIdx?_eq_none_iff.mp hidx wid ((hi.tq.queued_of_tget hw).mp hq)
    simp at this
  all_goals exact ⟨_, rfl⟩

theorem pollPure_progress {s : SemState} {wid me cx : Nat} {clk : Clock} {fin : Nat → Bool}
    {w0 : Waiter} (hi : WakerInv s) (hw : s.getW wid = some w0) (hnc : w0.completed = false)
    (hn : 0 < w0.n ∨ w0.hasPermits = true ∨ s.closed = true) :
    ∃ o, s.pollPure wid me cx clk fin = .ok o := by
  have same : ∀ {w}, s.getW wid = some w → w = w0 := fun h => Option.some.inj (h.symm.trans hw)
  have hmem : w0 ∈ s.table := (tget_some_mem hw).1
  -- a queued waiter has no permits, has a waker, and the semaphore is open
  have hqp : w0.isQueued = true → w0.hasPermits = false ∧ w0.waker.isSome = true ∧ s.closed = false := by
    intro hq
    have h1 := hi.inv.tq.queuedOk w0 hmem hq
    exact ⟨h1.1, h1.2.2.1, hi.inv.open_of_queued hw hq⟩
  fun_cases SemState.pollPure s wid me cx clk fin
  -- case numbers as in `pollPure_cases`
  case case3 | case5 | case10 | case11 | case12 | case14 => exact ⟨_, rfl⟩
  case case1 h => rw [hw] at h; cases h
  case case2 w h _ hp hq => cases same h; rw [(hqp hq).1] at hp; cases hp
  case case4 w h _ _ hc hq => cases same h; rw [(hqp hq).2.2] at hc; cases hc
  case case6 w h wp hp hc hqw =>
    cases same h
    have hqw : w0.isQueued ≠ w0.waker.isSome := by simpa [wp] using hqw
    refine (hqw ?_).elim
    cases hq : w0.isQueued with
    | true => exact (hqp hq).2.1.symm
    | false =>
      rcases hi.wok w0 hmem (by simp) hq with h | h | h | h
      · rw [h]; rfl
      · exact absurd h hp
      · rw [hnc] at h; cases h
      · exact absurd h hc
  case case7 w h wp hp hc _ _ msg hacq =>
    cases same h
    obtain ⟨r, hr⟩ := acquirePermits_defined s clk (hn.resolve_right (not_or.mpr ⟨hp, hc⟩))
    cases hr.symm.trans hacq
  case case8 w h wp hp hc _ _ s' pc hacq s1 msg hrm =>
    cases same h
    obtain ⟨i2, hg1, _⟩ := acquirePermits_polled hi.inv hw hacq
    cases hq : w0.isQueued with
    | false => cases (if_neg (Bool.eq_false_iff.mp hq)).symm.trans hrm
    | true =>
      obtain ⟨r, hr⟩ := removeWaiterPure_progress fin i2 hg1 hq
      cases hr.symm.trans ((if_pos hq).symm.trans hrm)
  case case9 w h wp hp hc _ _ s' pc hacq s1 s3 effs hrm hw4 =>
    cases same h
    obtain ⟨i2, hg1, _⟩ := acquirePermits_polled hi.inv hw hacq
    cases hq : w0.isQueued with
    | false =>
      obtain ⟨rfl, _⟩ := Prod.mk.inj (Except.ok.inj ((if_neg (Bool.eq_false_iff.mp hq)).symm.trans hrm))
      cases hg1.symm.trans hw4
    | true =>
      obtain ⟨_, _, _, rs⟩ := removeWaiterPure_spec fin i2 ((if_pos hq).symm.trans hrm)
      cases rs.getW.symm.trans hw4
  case case13 w h wp hp hc _ _ hacq => exact absurd (acquirePermits_closed hacq) hc

theorem step_WakerInv (fin : Nat → Bool) {s : SemState} {op : SemOp} {o : StepOut} (hi : WakerInv s)
    (h : step fin s op = .ok o) : WakerInv o.s := by
  refine ⟨(step_spec fin hi.inv h).1, fun w hw _ => ?_⟩
  -- a waker is registered only while queued, and every update either unqueues and clears it or
  -- leaves a completed waiter
  refine step_forall (R := wakerCond o.s.closed) fin hi.inv h
    (hs := fun _ _ _ => .inl rfl) (hg := fun _ _ _ => .inl rfl)
    (hpoison := fun hc _ _ _ => .inr (.inr (.inr hc))) (hnew := fun _ _ _ _ _ => .inl rfl)
    -- `hqc`: the polled waiter ends queued or completed; `hq`: it is not queued
    (hpoll := fun _ _ _ _ hqc hq =>
      hqc.elim (fun h => by rw [hq] at h; cases h) (fun h => .inr (.inr (.inl h))))
    (h := fun w hw hq => ?_) w hw
  exact (hi.wok w hw (by simp) hq).imp id (Or.imp id (Or.imp id (step_closed_mono fin hi.inv h)))

theorem reach_WakerInv {n : Nat} {s0 : SemState} (h0 : Initial n s0) {g : G} (hr : Reach s0 g) :
    WakerInv g.s := by
  induction hr with
  | init =>
    refine ⟨h0.inv.1, ?_⟩
    rcases h0 with ⟨_, _, rfl⟩ | ⟨_, rfl⟩ <;> exact fun w hw => nomatch hw
  | @step g1 g2 fin op out effs _ hstep ih =>
    unfold gstep at hstep
    split at hstep
    · cases hstep
    · next o hs => cases hstep; exact step_WakerInv fin ih hs

/-- every step of the client is defined (no assertion of the Rust code fails) in every reachable
state, the single exception being `assert!(num_permits > 0)` for `try_acquire(0)` / polling an
`acquire(0)` on an open semaphore, and the API misuse of polling a completed or dropped `Acquire` -/
theorem step_progress (fin : Nat → Bool) {s : SemState} (hi : WakerInv s) (op : SemOp)
    (hop : match op with
      | .tryAcquire _ n _ => 0 < n
      | .poll wid _ _ _ => ∃ w0, s.getW wid = some w0 ∧ w0.completed = false ∧
          (0 < w0.n ∨ w0.hasPermits = true ∨ s.closed = true)
      | _ => True) :
    ∃ o, step fin s op = .ok o := by
  revert hop
  fun_cases step fin s op
  -- the `.error` branches, numbered as in `step_ok_iff`
  case case1 msg hacq =>
    intro hop
    obtain ⟨r, hr⟩ := acquirePermits_defined s _ hop
    cases hr.symm.trans hacq
  case case5 hw => rintro ⟨_, hw', _⟩; cases hw.symm.trans hw'
  case case6 hw hc => rintro ⟨_, hw', hnc, _⟩; cases hw.symm.trans hw'; rw [hc] at hnc; cases hnc
  case case7 hw _ msg hpp =>
    rintro ⟨_, hw', hnc, hn⟩
    obtain ⟨o, ho⟩ := pollPure_progress hi hw' hnc hn
    cases ho.symm.trans hpp
  case case10 hw hq msg hrm =>
    obtain ⟨r, hr⟩ := removeWaiterPure_progress fin hi.inv hw hq
    cases hr.symm.trans hrm
  -- every other branch of `step` returns `.ok`
  all_goals exact fun _ => ⟨_, rfl⟩

theorem step_frame_queued (fin : Nat → Bool) {s : SemState} {op : SemOp} {o : StepOut} (hi : Inv s)
    (h : step fin s op = .ok o) {wid : Nat} {w : Waiter} (hw : s.getW wid = some w)
    (hq' : wid ∈ o.s.queue) (hop : ∀ me cx c, op ≠ .poll wid me cx c) :
    o.s.getW wid = some w := by
  obtain ⟨x, hx, hxq⟩ := (step_spec fin hi h).1.tq.tget_of_mem_queue hq'
  obtain ⟨hxm, hxw⟩ := tget_some_mem hx
  -- every update of an entry other than the polled one unqueues it, so a queued entry is an old one
  have : x = w := step_forall (R := fun x => x.wid = wid → x.isQueued = true → x = w) fin hi h
    (hs := fun _ _ _ => nofun) (hg := fun _ _ _ => nofun) (hpoison := fun _ _ _ _ => nofun)
    (hnew := fun _ _ _ _ _ => nofun)
    (hpoll := fun {_ me cx c _ _} e _ e1 _ _ e2 _ => absurd (e ▸ e1 ▸ e2 ▸ rfl) (hop me cx c))
    (h := fun y hy e _ => Option.some.inj ((e ▸ tget_of_mem hi.tq.nodupT hy).symm.trans hw))
    x hxm hxw hxq
  exact this ▸ hx

def AllN (P : Nat → Prop) (T : List Waiter) : Prop := ∀ w ∈ T, P w.n

theorem step_allN (P : Nat → Prop) (fin : Nat → Bool) {s : SemState} {op : SemOp} {o : StepOut}
    (hi : Inv s) (h : AllN P s.table) (hnew : ∀ task n c, op = .newAcq task n c → P n)
    (hs : step fin s op = .ok o) : AllN P o.s.table :=
  step_forall (R := fun w => P w.n) fin hi hs (hs := fun _ h => h) (hg := fun _ h => h)
    (hpoison := fun _ _ h => h) (hnew := hnew)
    (hpoll := fun _ hw _ hn _ => hn ▸ h _ (tget_some_mem hw).1) (h := h)

end SemLts
end ShuttleModel

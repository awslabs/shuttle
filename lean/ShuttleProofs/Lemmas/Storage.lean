import ShuttleModel.Storage
/-
  `ShuttleModel.Storage` (the transcription of storage.rs) under its representation invariant `WF` (distinct keys,
  `order` = the live keys): `init`, `pop` and `try_with` keep `WF` and never reach their panics, and the destructor
  loop `drain` terminates, because every round turns a live slot into a tombstone and a destructor can only add
  slots for keys of the finite set `K` that were never initialised (`measure`).
-/
namespace ShuttleModel
namespace Storage
namespace StorageMap
variable {α : Type}

theorem find_some_mem {ls : List (StorageKey × Option α)} {k : StorageKey} {p : StorageKey × Option α}
    (h : ls.find? (fun p => p.1 == k) = some p) : p.1 = k ∧ k ∈ ls.map (·.1) := by
  have h1 := List.find?_some h
  have h2 := List.mem_of_find?_eq_some h
  have : p.1 = k := by simpa using h1
  exact ⟨this, this ▸ List.mem_map_of_mem h2⟩

theorem lookup_eq_none_iff (m : StorageMap α) (k : StorageKey) : m.lookup k = none ↔ k ∉ m.keys := by
  simp only [lookup, keys, Option.map_eq_none_iff, List.find?_eq_none, List.mem_map, beq_iff_eq, not_exists, not_and]

theorem get_eq_none_iff (m : StorageMap α) (k : StorageKey) : m.get k = none ↔ k ∉ m.keys := by
  rw [← lookup_eq_none_iff]; unfold get; cases m.lookup k <;> simp

theorem get_destructed_iff (m : StorageMap α) (k : StorageKey) :
    m.get k = some (.error .alreadyDestructed) ↔ m.lookup k = some none := by
  unfold get
  cases m.lookup k with
  | none => simp
  | some o => cases o <;> simp

theorem mem_keys_of_lookup {m : StorageMap α} {k : StorageKey} {o : Option α} (h : m.lookup k = some o) :
    k ∈ m.keys :=
  Decidable.byContradiction fun hn => by rw [(lookup_eq_none_iff m k).2 hn] at h; cases h

theorem mem_keys_of_get {m : StorageMap α} {k : StorageKey} {r : Except AlreadyDestructed α}
    (h : m.get k = some r) : k ∈ m.keys :=
  Decidable.byContradiction fun hn => by rw [(get_eq_none_iff m k).2 hn] at h; cases h

@[simp] theorem tombstone_nil (k : StorageKey) : tombstone ([] : List (StorageKey × Option α)) k = [] := rfl

theorem tombstone_cons_eq (o : Option α) (tl : List (StorageKey × Option α)) (k : StorageKey) :
    tombstone ((k, o) :: tl) k = (k, none) :: tombstone tl k := by
  simp [tombstone]

theorem tombstone_cons_ne {hd : StorageKey × Option α} (tl : List (StorageKey × Option α)) {k : StorageKey}
    (h : hd.1 ≠ k) : tombstone (hd :: tl) k = hd :: tombstone tl k := by
  simp [tombstone, h]

theorem tombstone_of_not_mem {ls : List (StorageKey × Option α)} {k : StorageKey}
    (h : k ∉ ls.map (·.1)) : tombstone ls k = ls := by
  induction ls with
  | nil => rfl
  | cons hd tl ih =>
    simp only [List.map_cons, List.mem_cons, not_or] at h
    rw [tombstone_cons_ne tl (fun e => h.1 e.symm), ih h.2]

/-- `tombstone` rewrites values only -/
theorem tombstone_fst (k : StorageKey) (p : StorageKey × Option α) :
    (if p.1 == k then (k, none) else p).1 = p.1 := by
  split
  · exact (beq_iff_eq.1 ‹_›).symm
  · rfl

theorem tombstone_keys (ls : List (StorageKey × Option α)) (k : StorageKey) :
    (tombstone ls k).map (·.1) = ls.map (·.1) := by
  rw [tombstone, List.map_map]
  exact List.map_congr_left fun p _ => tombstone_fst k p

theorem lookup_tombstone_none {ls : List (StorageKey × Option α)} {k k' : StorageKey}
    (h : (ls.find? (fun p => p.1 == k')).map (·.2) = some none) :
    ((tombstone ls k).find? (fun p => p.1 == k')).map (·.2) = some none := by
  rw [tombstone, List.find?_map]
  simp only [Function.comp_def, tombstone_fst]
  cases hf : ls.find? (fun p => p.1 == k') with
  | none => rw [hf] at h; cases h
  | some p =>
    rw [hf] at h
    simp only [Option.map_some, Option.some.injEq] at h ⊢
    split
    · rfl
    · exact h

theorem liveKeys_subset_keys {ls : List (StorageKey × Option α)} {k : StorageKey}
    (h : k ∈ (ls.filter (fun p => p.2.isSome)).map (·.1)) : k ∈ ls.map (·.1) := by
  obtain ⟨p, hp, rfl⟩ := List.mem_map.1 h
  exact List.mem_map_of_mem (List.mem_filter.1 hp).1

/-- the core of `pop`: in a duplicate-free association list whose live keys start with `k`, the entry
found for `k` is live, and turning it into a tombstone removes exactly that first live entry -/
theorem pop_core {ls : List (StorageKey × Option α)} {k : StorageKey} {rest : List StorageKey}
    (hn : (ls.map (·.1)).Nodup) (ho : (ls.filter (fun p => p.2.isSome)).map (·.1) = k :: rest) :
    ∃ v, ls.find? (fun p => p.1 == k) = some (k, some v) ∧
      ((tombstone ls k).filter (fun p => p.2.isSome)).map (·.1) = rest ∧
      ls.filterMap (·.2) = v :: (tombstone ls k).filterMap (·.2) ∧
      ((tombstone ls k).filter (fun p => p.2.isNone)).length = (ls.filter (fun p => p.2.isNone)).length + 1 ∧
      (tombstone ls k).find? (fun p => p.1 == k) = some (k, none) := by
  induction ls with
  | nil => simp at ho
  | cons hd tl ih =>
    obtain ⟨k', o⟩ := hd
    simp only [List.map_cons, List.nodup_cons] at hn
    cases o with
    | none =>
      simp only [List.filter_cons, Option.isSome_none, Bool.false_eq_true, if_false] at ho
      have hk : k ∈ tl.map (·.1) := liveKeys_subset_keys (by rw [ho]; exact List.mem_cons_self)
      have hne' : k' ≠ k := fun e : k' = k => hn.1 (e ▸ hk)
      have hne : (k' == k) = false := by simpa using hne'
      obtain ⟨v, h1, h2, h3, h4, h5⟩ := ih hn.2 ho
      rw [tombstone_cons_ne (hd := (k', none)) tl hne']
      refine ⟨v, ?_, ?_, ?_, ?_, ?_⟩
      · simp [hne, h1]
      · simpa using h2
      · simpa using h3
      · simp [h4]
      · simpa [List.find?_cons, hne] using h5
    | some v =>
      simp only [List.filter_cons, Option.isSome_some, if_true, List.map_cons, List.cons.injEq] at ho
      obtain ⟨rfl, ho⟩ := ho
      have ht := tombstone_of_not_mem hn.1
      rw [tombstone_cons_eq, ht]
      exact ⟨v, by simp, by simp [ho], by simp, by simp, by simp⟩

theorem insertRaw_fresh {ls : List (StorageKey × Option α)} {k : StorageKey} (v : α)
    (h : k ∉ ls.map (·.1)) : insertRaw ls k v = ls ++ [(k, some v)] := by
  unfold insertRaw
  have : ls.any (fun p => p.1 == k) = false := by
    rw [List.any_eq_false]
    intro p hp e
    exact h (List.mem_map.2 ⟨p, hp, by simpa using e⟩)
  simp [this]

theorem init_fresh (m : StorageMap α) (k : StorageKey) (v : α) (h : k ∉ m.keys) :
    m.init k v = .ok { locals := m.locals ++ [(k, some v)], order := m.order ++ [k] } := by
  unfold init
  rw [(lookup_eq_none_iff m k).2 h]
  simp [insertRaw_fresh v h]

theorem init_present (m : StorageMap α) (k : StorageKey) (v : α) (h : k ∈ m.keys) :
    m.init k v = .error "cannot reinitialize a storage slot" := by
  unfold init
  cases hl : m.lookup k with
  | none => exact absurd h ((lookup_eq_none_iff m k).1 hl)
  | some _ => rfl

theorem init_ok_iff (m : StorageMap α) (k : StorageKey) (v : α) :
    (∃ m', m.init k v = .ok m') ↔ k ∉ m.keys := by
  constructor
  · rintro ⟨m', h⟩ hk; rw [init_present m k v hk] at h; cases h
  · intro h; exact ⟨_, init_fresh m k v h⟩

/-- the state after `init` of a fresh key -/
def pushed (m : StorageMap α) (k : StorageKey) (v : α) : StorageMap α :=
  { locals := m.locals ++ [(k, some v)], order := m.order ++ [k] }

@[simp] theorem pushed_keys (m : StorageMap α) (k : StorageKey) (v : α) :
    (m.pushed k v).keys = m.keys ++ [k] := by simp [pushed, keys]
@[simp] theorem pushed_liveKeys (m : StorageMap α) (k : StorageKey) (v : α) :
    (m.pushed k v).liveKeys = m.liveKeys ++ [k] := by simp [pushed, liveKeys]
@[simp] theorem pushed_liveVals (m : StorageMap α) (k : StorageKey) (v : α) :
    (m.pushed k v).liveVals = m.liveVals ++ [v] := by simp [pushed, liveVals, List.filterMap_append]
@[simp] theorem pushed_tombstones (m : StorageMap α) (k : StorageKey) (v : α) :
    (m.pushed k v).tombstones = m.tombstones := by simp [pushed, tombstones, List.filter_append]
@[simp] theorem pushed_order (m : StorageMap α) (k : StorageKey) (v : α) :
    (m.pushed k v).order = m.order ++ [k] := rfl

theorem pushed_wf {m : StorageMap α} (h : m.WF) {k : StorageKey} (v : α) (hk : k ∉ m.keys) :
    (m.pushed k v).WF := by
  refine ⟨?_, ?_⟩
  · rw [pushed_keys]
    exact List.nodup_append.2 ⟨h.nodup, by simp, by
      intro a ha b hb; simp at hb; subst hb; exact fun e => hk (e ▸ ha)⟩
  · rw [pushed_liveKeys, pushed_order, h.order_eq]

theorem lookup_pushed (m : StorageMap α) (k k' : StorageKey) (v : α) :
    (m.pushed k v).lookup k' = (m.lookup k').or (if k == k' then some (some v) else none) := by
  simp only [lookup, pushed, List.find?_append, List.find?_singleton, Option.map_or, Option.map_if]

theorem lookup_pushed_self (m : StorageMap α) (k : StorageKey) (v : α) (hk : k ∉ m.keys) :
    (m.pushed k v).lookup k = some (some v) := by
  rw [lookup_pushed, (lookup_eq_none_iff m k).2 hk, beq_self_eq_true]
  rfl

theorem new_wf : (new : StorageMap α).WF := ⟨by simp [new, keys], by simp [new, liveKeys]⟩

theorem pop_empty_iff (m : StorageMap α) : m.pop = .empty ↔ m.order = [] := by
  unfold pop
  cases m.order with
  | nil => simp
  | cons k rest =>
    simp only [reduceCtorEq, iff_false]
    cases m.lookup k with
    | none => simp
    | some o => cases o <;> simp

/-- `pop` on `m`, whose destruction order is `k :: rest`, returns `v` and leaves `m'` -/
structure PopSpec (m : StorageMap α) (k : StorageKey) (rest : List StorageKey) (v : α) (m' : StorageMap α) :
    Prop where
  eq : m.pop = .popped v m'
  wf : m'.WF
  order : m'.order = rest
  keys : m'.keys = m.keys
  liveVals : m.liveVals = v :: m'.liveVals
  tombstones : m'.tombstones = m.tombstones + 1
  wasLive : m.lookup k = some (some v)
  isDead : m'.lookup k = some none
  dead : ∀ k0, m.lookup k0 = some none → m'.lookup k0 = some none

/-- under the representation invariant `pop` never hits its `expect`s; it returns the oldest live value and
leaves a tombstone, next to those already there -/
theorem pop_wf {m : StorageMap α} (h : m.WF) {k : StorageKey} {rest : List StorageKey}
    (ho : m.order = k :: rest) : ∃ v m', PopSpec m k rest v m' := by
  have ho' : (m.locals.filter (fun p => p.2.isSome)).map (·.1) = k :: rest := by
    have := h.order_eq; rw [ho] at this; exact this.symm
  obtain ⟨v, h1, h2, h3, h4, h5⟩ := pop_core h.nodup ho'
  exact ⟨v, { locals := tombstone m.locals k, order := rest }, {
    eq := by unfold pop; rw [ho]; simp [lookup, h1]
    wf := ⟨by simpa [keys, tombstone_keys] using h.nodup, by simp [liveKeys, h2]⟩
    order := rfl
    keys := by simp [keys, tombstone_keys]
    liveVals := h3
    tombstones := h4
    wasLive := by simp [lookup, h1]
    isDead := by simp [lookup, h5]
    dead := fun _ => lookup_tombstone_none }⟩

end StorageMap

open StorageMap

/-- `LocalKey::try_with` never panics, on any map; it either initialises the fresh key at the end of the
destruction order, or leaves the map unchanged (the key was initialised before: live → the stored value,
tombstone → `AccessError`) -/
theorem tryWith_spec {α : Type} (m : StorageMap α) (k : StorageKey) (v : α) :
    (k ∉ m.keys ∧ tryWith m k v = .ok (.ok v, m.pushed k v)) ∨
    (k ∈ m.keys ∧ tryWith m k v =
      .ok (match m.lookup k with | some (some x) => .ok x | _ => .error .accessError, m)) := by
  by_cases hk : k ∈ m.keys
  · refine .inr ⟨hk, ?_⟩
    cases hl : m.lookup k with
    | none => exact absurd hk ((lookup_eq_none_iff m k).1 hl)
    | some o => cases o <;> simp [tryWith, StorageMap.get, hl]
  · refine .inl ⟨hk, ?_⟩
    have hg : m.get k = none := (get_eq_none_iff m k).2 hk
    have hi : m.init k v = .ok (m.pushed k v) := init_fresh m k v hk
    have hl := lookup_pushed_self m k v hk
    have hg' : (m.pushed k v).get k = some (.ok v) := by simp [StorageMap.get, hl]
    unfold tryWith
    rw [hg]
    simp only [hi, hg']

theorem tryWith_no_panic {α : Type} {m : StorageMap α} (h : m.WF) (k : StorageKey) (v : α) :
    ∃ r m', tryWith m k v = .ok (r, m') ∧ m'.WF := by
  rcases tryWith_spec m k v with ⟨hk, e⟩ | ⟨_, e⟩
  · exact ⟨_, _, e, pushed_wf h v hk⟩
  · exact ⟨_, _, e, h⟩

/-- the termination measure of the destructor loop: keys of `K` not yet initialised + live slots -/
def measure {α : Type} (K : List StorageKey) (m : StorageMap α) : Nat :=
  (K.filter (fun k => !m.keys.contains k)).length + m.order.length

theorem filter_length_lt {β : Type} {p q : β → Bool} (h : ∀ x, q x = true → p x = true) {l : List β} {k : β}
    (hk : k ∈ l) (hp : p k = true) (hq : q k = false) : (l.filter q).length < (l.filter p).length := by
  have e : l.filter q = (l.filter p).filter q := by
    rw [List.filter_filter]
    exact List.filter_congr fun x _ => by cases hx : q x <;> simp [h x, hx]
  rw [e]
  exact List.length_filter_lt_length_iff_exists.2 ⟨k, List.mem_filter.2 ⟨hk, hp⟩, by simp [hq]⟩

theorem measure_pushed {α : Type} {K : List StorageKey} (m : StorageMap α) {k : StorageKey} (v : α)
    (hk : k ∉ m.keys) (hK : k ∈ K) : measure K (m.pushed k v) ≤ measure K m := by
  unfold measure
  rw [pushed_keys, pushed_order]
  -- one more live slot, and at least one key of `K` fewer that is still to be initialised
  have := filter_length_lt (p := fun x => !m.keys.contains x) (q := fun x => !(m.keys ++ [k]).contains x)
    (fun x hx => by simp at hx ⊢; exact hx.1) hK (by simpa using hk) (by simp)
  simp only [List.length_append, List.length_cons, List.length_nil]
  omega

/-- `init` of a list of `(key, value)` pairs, in order -/
def initAll {α : Type} : StorageMap α → List (StorageKey × α) → Except String (StorageMap α)
  | m, [] => .ok m
  | m, (k, v) :: rest =>
    match m.init k v with
    | .error e => .error e
    | .ok m' => initAll m' rest

theorem initAll_spec {α : Type} {K : List StorageKey} (kvs : List (StorageKey × α)) :
    ∀ {m : StorageMap α}, m.WF → (m.keys ++ kvs.map (·.1)).Nodup → (∀ p ∈ kvs, p.1 ∈ K) →
      ∃ m', initAll m kvs = .ok m' ∧ m'.WF ∧ m'.keys = m.keys ++ kvs.map (·.1) ∧
        m'.liveVals = m.liveVals ++ kvs.map (·.2) ∧ m'.tombstones = m.tombstones ∧
        (∀ k, m.lookup k = some none → m'.lookup k = some none) ∧ measure K m' ≤ measure K m := by
  induction kvs with
  | nil => intro m h _ _; exact ⟨m, rfl, h, by simp, by simp, rfl, fun _ h => h, Nat.le_refl _⟩
  | cons p rest ih =>
    intro m h hn hK
    obtain ⟨k, v⟩ := p
    have hk : k ∉ m.keys := fun hk => (List.nodup_append.1 hn).2.2 k hk k List.mem_cons_self rfl
    obtain ⟨m', e, wf, ks, vs, ts, dead, le⟩ := ih (pushed_wf h v hk)
      (by rw [pushed_keys, List.append_assoc]; exact hn) (fun p hp => hK p (List.mem_cons_of_mem _ hp))
    refine ⟨m', ?_, wf, ?_, ?_, ts.trans (pushed_tombstones m k v), fun k' hk' => dead k' ?_,
      Nat.le_trans le (measure_pushed m v hk (hK _ List.mem_cons_self))⟩
    · simp only [initAll, init_fresh m k v hk]; exact e
    · rw [ks, pushed_keys, List.append_assoc]; rfl
    · rw [vs, pushed_liveVals, List.append_assoc]; rfl
    · -- tombstones are never resurrected
      rw [lookup_pushed, hk']
      rfl

/-- the `try_with` accesses of one destructor only initialise fresh slots: together they are the `initAll` of
those accessed pairs whose key was fresh at its turn -/
theorem runAccesses_eq_initAll {α : Type} (l : List (StorageKey × α)) :
    ∀ {m : StorageMap α}, m.WF →
      ∃ kvs, kvs.Sublist l ∧ (m.keys ++ kvs.map (·.1)).Nodup ∧ runAccesses m l = initAll m kvs := by
  induction l with
  | nil => intro m h; exact ⟨[], .slnil, by simpa using h.nodup, rfl⟩
  | cons p rest ih =>
    intro m h
    obtain ⟨k, v⟩ := p
    rcases tryWith_spec m k v with ⟨hfresh, e⟩ | ⟨_, e⟩
    · obtain ⟨kvs, hs, hn, e'⟩ := ih (pushed_wf h v hfresh)
      refine ⟨(k, v) :: kvs, hs.cons_cons _, ?_, ?_⟩
      · rw [pushed_keys, List.append_assoc] at hn; exact hn
      · simp only [runAccesses, e, initAll, init_fresh m k v hfresh]; exact e'
    · obtain ⟨kvs, hs, hn, e'⟩ := ih h
      exact ⟨kvs, hs.cons _, hn, by simp only [runAccesses, e]; exact e'⟩

theorem keys_length {α : Type} (m : StorageMap α) : m.keys.length = m.tombstones + m.liveVals.length := by
  rw [keys, tombstones, liveVals, List.length_map, List.length_filterMap_eq_countP, ← List.countP_eq_length_filter,
    List.length_eq_countP_add_countP (fun p => p.2.isNone)]
  congr 2
  funext p
  cases p.2 <;> rfl

theorem liveKeys_length {α : Type} (m : StorageMap α) : m.liveKeys.length = m.liveVals.length := by
  rw [liveKeys, liveVals, List.length_map, List.length_filterMap_eq_countP, List.countP_eq_length_filter]

/-- what the destructor loop guarantees when it is given enough fuel -/
structure DrainSpec {α : Type} (K : List StorageKey) (m : StorageMap α) (acc : List α) (r : DrainRes α) : Prop where
  completed : r.completed = true
  noPanic : r.panic = none
  wf : r.final.WF
  /-- nothing is left alive: every slot ever initialised is a tombstone -/
  drained : r.final.order = [] ∧ r.final.liveVals = []
  /-- one destructor run per value ever initialised: the slots that were alive at the start, plus every
  slot a destructor initialised -/
  count : r.dropped.length + m.tombstones = acc.length + r.final.keys.length
  /-- the values alive at the start are dropped first, in initialisation order, then the late ones -/
  order : ∃ late, r.dropped = acc.reverse ++ m.liveVals ++ late
  keys : ∃ ks, r.final.keys = m.keys ++ ks ∧ ∀ k ∈ ks, k ∈ K
  dead : ∀ k, m.lookup k = some none → r.final.lookup k = some none

theorem liveVals_nil_of_order_nil {α : Type} {m : StorageMap α} (h : m.WF) (ho : m.order = []) :
    m.liveVals = [] ∧ m.tombstones = m.keys.length := by
  have hv : m.liveVals = [] :=
    List.eq_nil_of_length_eq_zero (by rw [← liveKeys_length, ← h.order_eq, ho]; rfl)
  exact ⟨hv, by rw [keys_length, hv]; rfl⟩

theorem drain_spec {α : Type} {K : List StorageKey} (dtor : α → List (StorageKey × α))
    (hK : ∀ v, ∀ p ∈ dtor v, p.1 ∈ K) :
    ∀ (fuel : Nat) (m : StorageMap α) (acc : List α), m.WF → measure K m < fuel →
      DrainSpec K m acc (drain dtor fuel m acc) := by
  intro fuel
  induction fuel with
  | zero => intro m acc _ hlt; omega
  | succ fuel ih =>
    intro m acc h hlt
    cases ho : m.order with
    | nil =>
      have hp : m.pop = .empty := (pop_empty_iff m).2 ho
      have hv := liveVals_nil_of_order_nil h ho
      unfold drain; rw [hp]
      exact {
        completed := rfl
        noPanic := rfl
        wf := h
        drained := ⟨ho, hv.1⟩
        count := by rw [List.length_reverse, hv.2]
        order := ⟨[], by rw [hv.1, List.append_nil, List.append_nil]⟩
        keys := ⟨[], (List.append_nil _).symm, fun _ h => nomatch h⟩
        dead := fun _ h => h }
    | cons k rest =>
      obtain ⟨v, m', hpop⟩ := pop_wf h ho
      obtain ⟨kvs, hsub, hn, hr⟩ := runAccesses_eq_initAll (dtor v) hpop.wf
      have hkvs : ∀ p ∈ kvs, p.1 ∈ K := fun p hp => hK v p (hsub.subset hp)
      obtain ⟨m'', hi, wf'', eks, evs, etomb, hdead, hle⟩ := initAll_spec (K := K) kvs hpop.wf hn hkvs
      rw [hi] at hr
      have hm' : measure K m' + 1 = measure K m := by
        unfold measure; rw [hpop.keys, hpop.order, ho, List.length_cons]; omega
      have ih' := ih m'' (v :: acc) wf'' (by omega)
      unfold drain; rw [hpop.eq]; simp only [hr]
      obtain ⟨late, elate⟩ := ih'.order
      obtain ⟨ks2, eks2, mks2⟩ := ih'.keys
      exact {
        completed := ih'.completed
        noPanic := ih'.noPanic
        wf := ih'.wf
        drained := ih'.drained
        count := by
          have := ih'.count
          rw [etomb, hpop.tombstones] at this
          simp only [List.length_cons] at this
          omega
        order := ⟨kvs.map (·.2) ++ late, by
          rw [elate, evs, hpop.liveVals]; simp only [List.reverse_cons, List.append_assoc, List.cons_append, List.nil_append]⟩
        keys := ⟨kvs.map (·.1) ++ ks2, by rw [eks2, eks, hpop.keys, List.append_assoc], fun k hk => by
          rcases List.mem_append.1 hk with hk | hk
          · obtain ⟨p, hp, rfl⟩ := List.mem_map.1 hk
            exact hkvs p hp
          · exact mks2 k hk⟩
        dead := fun k0 hk0 => ih'.dead k0 (hdead k0 (hpop.dead k0 hk0)) }

end Storage
end ShuttleModel

import ShuttleModel.Kernel
/-!
# The derived task lists and `Kernel.schedule` (`ExecutionState::schedule`)

Membership lemmas for the lists `schedule()` computes from the task table (`offered`, `live`, `deadlockList`) and its
`any`/`all` summaries.  Then `SchedSpec S k s r`: every way `schedule` can answer `r` from kernel state `k` /
scheduler state `s`, each with its side conditions (`schedule_spec`); only the panic text of a choice that was not
offered is left open (`SchedSpec.choseBad`).  Later proofs go through `SchedSpec` and do not unfold `schedule`.
-/

namespace ShuttleProofs.Kernel
open ShuttleModel

theorem Task.runnable_iff (t : Task) : t.runnable = true ↔ t.state = .runnable := by
  simp [Task.runnable]

theorem Task.finished_iff (t : Task) : t.finished = true ↔ t.state = .finished := by
  simp [Task.finished]

theorem Task.runnable_eq_false_iff (t : Task) : t.runnable = false ↔ t.state ≠ .runnable := by
  rw [Ne, ← Task.runnable_iff, Bool.not_eq_true]

theorem Task.finished_eq_false_iff (t : Task) : t.finished = false ↔ t.state ≠ .finished := by
  rw [Ne, ← Task.finished_iff, Bool.not_eq_true]

theorem Task.sleeping_iff (t : Task) : t.sleeping = true ↔ t.state = .sleeping := by
  simp [Task.sleeping]

theorem Task.canSpuriouslyWakeup_iff (t : Task) : t.canSpuriouslyWakeup = true ↔ t.state = .blocked true := by
  unfold Task.canSpuriouslyWakeup
  cases h : t.state <;> simp

theorem Task.isBlocked_iff (t : Task) : t.isBlocked = true ↔ ∃ sp, t.state = .blocked sp := by
  unfold Task.isBlocked
  cases h : t.state <;> simp

theorem Task.runnable_not_finished (t : Task) (h : t.runnable = true) : t.finished = false := by
  rw [Task.runnable_iff] at h
  rw [Task.finished_eq_false_iff, h]
  nofun

theorem Task.spurious_not_finished (t : Task) (h : t.canSpuriouslyWakeup = true) : t.finished = false := by
  rw [Task.canSpuriouslyWakeup_iff] at h
  simp [Task.finished, h]

theorem Task.spurious_not_runnable (t : Task) (h : t.canSpuriouslyWakeup = true) : t.runnable = false := by
  rw [Task.canSpuriouslyWakeup_iff] at h
  simp [Task.runnable, h]

theorem mem_indexed {k : Kernel} {i : Nat} {tk : Task} :
    (i, tk) ∈ k.indexed ↔ k.tasks[i]? = some tk := by
  unfold Kernel.indexed
  simp only [List.mem_map, Prod.mk.injEq]
  constructor
  · rintro ⟨⟨a, j⟩, hm, rfl, rfl⟩
    exact List.mem_zipIdx_iff_getElem?.mp hm
  · intro h
    exact ⟨(tk, i), List.mem_zipIdx_iff_getElem?.mpr h, rfl, rfl⟩

theorem indexed_map_fst (k : Kernel) : k.indexed.map (·.1) = List.range k.tasks.length := by
  unfold Kernel.indexed
  rw [List.map_map]
  have : ((fun x : Nat × Task => x.1) ∘ fun p : Task × Nat => (p.2, p.1)) = Prod.snd := by
    funext p; rfl
  rw [this, List.zipIdx_map_snd, List.range_eq_range']

theorem filter_indexed_pairwise (k : Kernel) (p : Nat × Task → Bool) :
    ((k.indexed.filter p).map (·.1)).Pairwise (· < ·) := by
  have hsub : ((k.indexed.filter p).map (·.1)).Sublist (k.indexed.map (·.1)) :=
    (List.filter_sublist).map _
  rw [indexed_map_fst] at hsub
  exact List.Pairwise.sublist hsub List.pairwise_lt_range

theorem mem_filter_indexed {k : Kernel} {p : Nat × Task → Bool} {i : Nat} :
    i ∈ (k.indexed.filter p).map (·.1) ↔ ∃ tk, k.tasks[i]? = some tk ∧ p (i, tk) = true := by
  simp only [List.mem_map, List.mem_filter]
  constructor
  · rintro ⟨⟨j, tk⟩, ⟨hm, hp⟩, rfl⟩
    exact ⟨tk, mem_indexed.mp hm, hp⟩
  · rintro ⟨tk, h, hp⟩
    exact ⟨(i, tk), ⟨mem_indexed.mpr h, hp⟩, rfl⟩

theorem mem_offered {k : Kernel} {i : Nat} :
    i ∈ k.offered ↔ ∃ tk, k.tasks[i]? = some tk ∧ (tk.runnable = true ∨ tk.canSpuriouslyWakeup = true) := by
  unfold Kernel.offered
  rw [mem_filter_indexed]
  simp only [Bool.or_eq_true]

theorem mem_live {k : Kernel} {i : Nat} :
    i ∈ k.live ↔ ∃ tk, k.tasks[i]? = some tk ∧ tk.finished = false := by
  unfold Kernel.live
  rw [mem_filter_indexed]
  simp only [Bool.not_eq_true']

theorem mem_offered_lt {k : Kernel} {t : Nat} (h : t ∈ k.offered) : t < k.tasks.length := by
  obtain ⟨tk, h1, _⟩ := mem_offered.mp h
  exact (List.getElem?_eq_some_iff.mp h1).1

theorem offered_pairwise (k : Kernel) : k.offered.Pairwise (· < ·) :=
  filter_indexed_pairwise k _

theorem live_pairwise (k : Kernel) : k.live.Pairwise (· < ·) :=
  filter_indexed_pairwise k _

theorem offered_nodup (k : Kernel) : k.offered.Nodup :=
  (offered_pairwise k).imp (fun h => Nat.ne_of_lt h)

/-- the offered list is a sub-list of `live_tasks` (what the Rust loop iterates over) -/
theorem offered_subset_live {k : Kernel} {i : Nat} (h : i ∈ k.offered) : i ∈ k.live := by
  rw [mem_offered] at h
  rw [mem_live]
  obtain ⟨tk, hk, h | h⟩ := h
  · exact ⟨tk, hk, Task.runnable_not_finished tk h⟩
  · exact ⟨tk, hk, Task.spurious_not_finished tk h⟩

theorem offered_congr {k k' : Kernel} (h : k'.tasks = k.tasks) : k'.offered = k.offered := by
  unfold Kernel.offered Kernel.indexed
  rw [h]

theorem anyRunnable_iff {k : Kernel} :
    k.anyRunnable = true ↔ ∃ (i : Nat) (tk : Task), k.tasks[i]? = some tk ∧ tk.runnable = true := by
  unfold Kernel.anyRunnable
  rw [List.any_eq_true]
  constructor
  · rintro ⟨tk, hm, hr⟩
    obtain ⟨i, hi⟩ := List.mem_iff_getElem?.mp hm
    exact ⟨i, tk, hi, hr⟩
  · rintro ⟨i, tk, hi, hr⟩
    exact ⟨tk, List.mem_of_getElem? hi, hr⟩

theorem anyRunnable_false_iff {k : Kernel} :
    k.anyRunnable = false ↔ ∀ (i : Nat) (tk : Task), k.tasks[i]? = some tk → tk.runnable = false := by
  rw [← Bool.not_eq_true, anyRunnable_iff]
  simp only [not_exists, not_and, Bool.not_eq_true]

theorem unfinishedAttached_iff {k : Kernel} :
    k.unfinishedAttached = true ↔
      ∃ (i : Nat) (tk : Task), k.tasks[i]? = some tk ∧ tk.finished = false ∧ tk.detached = false := by
  unfold Kernel.unfinishedAttached
  rw [List.any_eq_true]
  constructor
  · rintro ⟨tk, hm, hr⟩
    obtain ⟨i, hi⟩ := List.mem_iff_getElem?.mp hm
    simp only [Bool.and_eq_true, Bool.not_eq_true'] at hr
    exact ⟨i, tk, hi, hr.1, hr.2⟩
  · rintro ⟨i, tk, hi, h1, h2⟩
    exact ⟨tk, List.mem_of_getElem? hi, by simp [h1, h2]⟩

theorem unfinishedAttached_false_iff {k : Kernel} :
    k.unfinishedAttached = false ↔
      ∀ (i : Nat) (tk : Task), k.tasks[i]? = some tk → tk.detached = false → tk.finished = true := by
  rw [← Bool.not_eq_true, unfinishedAttached_iff]
  constructor
  · intro h i tk hi hd
    cases hf : tk.finished
    · exact absurd ⟨i, tk, hi, hf, hd⟩ h
    · rfl
  · rintro h ⟨i, tk, hi, hf, hd⟩
    rw [h i tk hi hd] at hf
    cases hf

theorem allRunnableDetached_iff {k : Kernel} :
    k.allRunnableDetached = true ↔
      ∀ (i : Nat) (tk : Task), k.tasks[i]? = some tk → tk.runnable = true → tk.detached = true := by
  unfold Kernel.allRunnableDetached
  rw [List.all_eq_true]
  constructor
  · intro h i tk hi hr
    have := h tk (List.mem_of_getElem? hi)
    simpa [hr] using this
  · intro h tk hm
    obtain ⟨i, hi⟩ := List.mem_iff_getElem?.mp hm
    cases hr : tk.runnable
    · simp
    · simp [h i tk hi hr]

theorem offered_ne_nil_of_anyRunnable {k : Kernel} (h : k.anyRunnable = true) : k.offered ≠ [] := by
  obtain ⟨i, tk, hi, hr⟩ := anyRunnable_iff.mp h
  have : i ∈ k.offered := mem_offered.mpr ⟨tk, hi, Or.inl hr⟩
  intro hnil
  rw [hnil] at this
  cases this

theorem mem_deadlockList {k : Kernel} {x : Nat × Bool × Bool} :
    x ∈ k.deadlockList ↔
      ∃ tk, k.tasks[x.1]? = some tk ∧ tk.finished = false ∧ x.2.1 = tk.detached ∧ x.2.2 = tk.sleeping := by
  unfold Kernel.deadlockList
  simp only [List.mem_map, List.mem_filter, Bool.not_eq_true']
  constructor
  · rintro ⟨⟨i, tk⟩, ⟨hm, hf⟩, rfl⟩
    exact ⟨tk, mem_indexed.mp hm, hf, rfl, rfl⟩
  · rintro ⟨tk, hk, hf, h1, h2⟩
    refine ⟨(x.1, tk), ⟨mem_indexed.mpr hk, hf⟩, ?_⟩
    obtain ⟨a, b, c⟩ := x
    simp only at h1 h2 ⊢
    rw [h1, h2]

theorem deadlockList_ids (k : Kernel) : k.deadlockList.map (·.1) = k.live := by
  unfold Kernel.deadlockList Kernel.live
  rw [List.map_map]
  rfl

theorem deadlockList_ids_pairwise (k : Kernel) : (k.deadlockList.map (·.1)).Pairwise (· < ·) := by
  rw [deadlockList_ids]
  exact live_pairwise k

/-! `Kernel.schedule` tests the bound and the end condition on `bump k` and takes the offered list on `atConsult k`;
neither test reads `ctxSwitches` or `hasYielded`, so `endsHere`, `BoundOK`, `offered`, `decEv` below are stated on the
`k` in which `schedule()` is called (`schedule_eq_boundCheck`, by `rfl`, identifies the two). -/

/-- the kernel after `self.context_switches += 1` -/
def bump (k : Kernel) : Kernel := { k with ctxSwitches := k.ctxSwitches + 1 }
/-- the kernel as `Scheduler::next_task` sees it: `has_yielded` taken as well -/
def atConsult (k : Kernel) : Kernel := { bump k with hasYielded := false }
/-- `schedule()` sets `next_task = Finished` -/
def endsHere (k : Kernel) : Bool :=
  !k.anyRunnable || (!k.unfinishedAttached && k.allRunnableDetached)
/-- the call of `Scheduler::next_task` made by `schedule()` in `k` -/
def ask {σ : Type} (S : Scheduler σ) (k : Kernel) (s : σ) : SchedAns × σ :=
  S.nextTask s ((atConsult k).views k.offered) k.current.id k.hasYielded
/-- the event logged for that call when the answer is `ch` -/
def decEv (k : Kernel) (ch : Option Nat) : Ev := .dec k.offered k.current.id k.hasYielded ch

/-- the part of `schedule()` after the bound check -/
def scheduleCore {σ : Type} (S : Scheduler σ) (k : Kernel) (s : σ) : Kernel.SchedStep σ :=
  if endsHere k then .ok { bump k with next := .finished } s none
  else
    match ask S k s with
    | (.panic msg, s') => .schedPanic msg (atConsult k) s'
    | (.choose Option.none, s') => .ok { atConsult k with next := .stopped } s' (some (decEv k none))
    | (.choose (Option.some t), s') =>
      match k.tasks[t]? with
      | Option.none => .schedPanic "scheduler chose an unknown task" (atConsult k) s'
      | Option.some tk =>
        if !(tk.runnable || tk.isBlocked) then
          .schedPanic "assertion failed: task.runnable() || task.blocked()" (atConsult k) s'
        else if tk.isBlocked then
          if !tk.canSpuriouslyWakeup then
            .schedPanic "assertion failed: task.can_spuriously_wakeup()" (atConsult k) s'
          else match tk.unblock with
            | .ok tk' => .ok { ((atConsult k).setTask t tk') with next := .some t } s' (some (decEv k (some t)))
            | .error e => .schedPanic e (atConsult k) s'
        else .ok { atConsult k with next := .some t } s' (some (decEv k (some t)))

/-- the bound check of `schedule()`: `some true` = `FailAfter` bound reached, `some false` = `ContinueAfter` bound
reached (in the shape of the source, so that `schedule_eq_boundCheck` holds by unfolding) -/
def boundCheck (k : Kernel) : Option Bool :=
  match (match k.maxSteps with
         | .failAfter n => some (true, n)
         | .continueAfter n => some (false, n)
         | .none => none : Option (Bool × Nat)) with
  | some (fail, n) => if k.stepBoundExceeded n then some fail else none
  | none => none

theorem schedule_eq_boundCheck {σ : Type} (S : Scheduler σ) (k : Kernel) (s : σ) :
    k.schedule S s =
      if k.next != .none then .ok k s none
      else match boundCheck k with
        | some true => .err .stepBoundExceeded (bump k) s
        | some false => .ok { bump k with next := .stopped } s none
        | none => scheduleCore S k s := rfl

theorem stepBoundExceeded_iff (k : Kernel) (n : Nat) :
    k.stepBoundExceeded n = true ↔ n ≤ k.schedLen - k.stepsResetAt := by
  simp [Kernel.stepBoundExceeded]

theorem stepBoundExceeded_eq_false_iff (k : Kernel) (n : Nat) :
    k.stepBoundExceeded n = false ↔ k.schedLen - k.stepsResetAt < n := by
  simp [Kernel.stepBoundExceeded]

/-- the configured step bound (if any) is not reached in `k` -/
def BoundOK (k : Kernel) : Prop :=
  match k.maxSteps with
  | .failAfter n => k.stepBoundExceeded n = false
  | .continueAfter n => k.stepBoundExceeded n = false
  | .none => True

/-- `schedule()` called in `k` reaches the call of `Scheduler::next_task` -/
structure Consults (k : Kernel) : Prop where
  next : k.next = .none
  bound : BoundOK k
  goOn : endsHere k = false

/-- the task table after `schedule()` in `k0` chose `t`: `k0.tasks`, unless a spuriously woken `t` was `unblock()`ed -/
def wokenTasks (k0 : Kernel) (t : Nat) : List Task :=
  match k0.tasks[t]? with
  | some tk => if tk.runnable then k0.tasks else k0.tasks.set t { tk with state := .runnable, blockedInPark := false }
  | none => k0.tasks

inductive SchedSpec {σ : Type} (S : Scheduler σ) (k : Kernel) (s : σ) : Kernel.SchedStep σ → Prop
  /-- "Don't schedule twice" -/
  | already : k.next ≠ .none → SchedSpec S k s (.ok k s none)
  | boundFail (n : Nat) : k.next = .none → k.maxSteps = .failAfter n → k.stepBoundExceeded n = true →
      SchedSpec S k s (.err .stepBoundExceeded (bump k) s)
  | boundStop (n : Nat) : k.next = .none → k.maxSteps = .continueAfter n → k.stepBoundExceeded n = true →
      SchedSpec S k s (.ok { bump k with next := .stopped } s none)
  | finished : k.next = .none → BoundOK k → endsHere k = true →
      SchedSpec S k s (.ok { bump k with next := .finished } s none)
  | schedPanic (msg : String) (s' : σ) : Consults k → ask S k s = (.panic msg, s') →
      SchedSpec S k s (.schedPanic msg (atConsult k) s')
  | choseNone (s' : σ) : Consults k → ask S k s = (.choose none, s') →
      SchedSpec S k s (.ok { atConsult k with next := .stopped } s' (some (decEv k none)))
  /-- the scheduler chose something that was not offered: one of the `unwrap`/`assert!`s fails (`msg` is left
  free: which of the three it is depends on why `t` was not offered) -/
  | choseBad (t : Nat) (msg : String) (s' : σ) : Consults k → ask S k s = (.choose (some t), s') →
      t ∉ k.offered → SchedSpec S k s (.schedPanic msg (atConsult k) s')
  /-- the scheduler chose an offered task; if it was only spuriously wakeable it is unblocked first -/
  | chose (t : Nat) (s' : σ) : Consults k → ask S k s = (.choose (some t), s') → t ∈ k.offered →
      SchedSpec S k s
        (.ok { atConsult k with tasks := wokenTasks k t, next := .some t } s' (some (decEv k (some t))))

theorem not_mem_offered {k : Kernel} {t : Nat} {tk : Task} (hk : k.tasks[t]? = some tk)
    (hr : tk.runnable = false) (hs : tk.canSpuriouslyWakeup = false) : t ∉ k.offered := by
  intro hmem
  obtain ⟨tk', h1, h2⟩ := mem_offered.mp hmem
  rw [hk] at h1; cases h1
  rcases h2 with h2 | h2
  · rw [hr] at h2; cases h2
  · rw [hs] at h2; cases h2

theorem scheduleCore_spec {σ : Type} (S : Scheduler σ) (k : Kernel) (s : σ)
    (hnext : k.next = .none) (hb : BoundOK k) : SchedSpec S k s (scheduleCore S k s) := by
  have hc : endsHere k ≠ true → Consults k := fun he => ⟨hnext, hb, Bool.eq_false_iff.mpr he⟩
  fun_cases scheduleCore S k s
  case case1 he => exact .finished hnext hb he
  -- cases 2, 3: the scheduler panicked / answered `None`; cases 4-9: it chose `t`
  case case2 he msg s' ha => exact .schedPanic msg s' (hc he) ha
  case case3 he s' ha => exact .choseNone s' (hc he) ha
  -- `t` is not in the task table
  case case4 he t s' ha hk =>
    refine .choseBad t _ s' (hc he) ha fun hmem => ?_
    obtain ⟨tk, h1, _⟩ := mem_offered.mp hmem
    rw [hk] at h1; cases h1
  case case5 he t s' ha tk hk h =>
    -- neither runnable nor blocked, hence not spuriously wakeable either
    obtain ⟨hr, hbl⟩ := Bool.or_eq_false_iff.mp (by simpa using h)
    refine .choseBad t _ s' (hc he) ha (not_mem_offered hk hr ?_)
    cases hs : tk.canSpuriouslyWakeup
    · rfl
    · rw [(Task.isBlocked_iff tk).mpr ⟨true, (Task.canSpuriouslyWakeup_iff tk).mp hs⟩] at hbl; cases hbl
  case case6 he t s' ha tk hk _ hbl hs =>
    -- blocked, but not spuriously wakeable
    obtain ⟨sp, hst⟩ := (Task.isBlocked_iff tk).mp hbl
    exact .choseBad t _ s' (hc he) ha
      (not_mem_offered hk (by simp [Task.runnable, hst]) (by simpa using hs))
  case case7 he t s' ha tk hk _ _ hs tk' hu =>
    -- blocked and spuriously wakeable: `unblock()`ed
    have hs : tk.canSpuriouslyWakeup = true := by simpa using hs
    have hst := (Task.canSpuriouslyWakeup_iff tk).mp hs
    have htk : tk' = { tk with state := .runnable, blockedInPark := false } := by
      simpa [Task.unblock, Task.finished, hst] using hu.symm
    have hw : wokenTasks k t = k.tasks.set t tk' := by
      simp [wokenTasks, hk, Task.spurious_not_runnable tk hs, htk]
    have := SchedSpec.chose (S := S) (s := s) t s' (hc he) ha (mem_offered.mpr ⟨tk, hk, .inr hs⟩)
    rw [hw] at this
    exact this
  case case8 _ _ _ _ tk _ _ hbl _ e hu =>
    -- `unblock` fails only on a finished task
    obtain ⟨sp, hst⟩ := (Task.isBlocked_iff tk).mp hbl
    simp [Task.unblock, Task.finished, hst] at hu
  case case9 he t s' ha tk hk h hbl =>
    -- runnable
    have hbl' : tk.isBlocked = false := Bool.eq_false_iff.mpr hbl
    have hr : tk.runnable = true := by simpa [hbl'] using h
    have hw : wokenTasks k t = k.tasks := by simp [wokenTasks, hk, hr]
    have := SchedSpec.chose (S := S) (s := s) t s' (hc he) ha (mem_offered.mpr ⟨tk, hk, .inl hr⟩)
    rw [hw] at this
    exact this

theorem schedule_spec {σ : Type} (S : Scheduler σ) (k : Kernel) (s : σ) :
    SchedSpec S k s (k.schedule S s) := by
  rw [schedule_eq_boundCheck]
  by_cases hnext : k.next = .none
  · rw [if_neg (by simp [hnext])]
    unfold boundCheck
    cases hm : k.maxSteps with
    | none => exact scheduleCore_spec S k s hnext (by unfold BoundOK; rw [hm]; trivial)
    | failAfter n =>
      simp only
      cases he : k.stepBoundExceeded n
      · exact scheduleCore_spec S k s hnext (by unfold BoundOK; rw [hm]; exact he)
      · exact .boundFail n hnext hm he
    | continueAfter n =>
      simp only
      cases he : k.stepBoundExceeded n
      · exact scheduleCore_spec S k s hnext (by unfold BoundOK; rw [hm]; exact he)
      · exact .boundStop n hnext hm he
  · rw [if_pos (by simpa using hnext)]
    exact .already hnext

end ShuttleProofs.Kernel

import ShuttleProofs.Lemmas.PctMap
import ShuttleProofs.Lemmas.PctSample

/-!
`NextSpec` and `ExecSpec` collect, field by field, everything a successful call does to the scheduler state; the theorems
of `ShuttleProofs.C11` read their conclusions off these two.  `nextTask_total` shows that under the invariant `next_task`
can only fail through the model's RNG fuel.
-/

namespace ShuttleProofs.Pct
open ShuttleModel ShuttleModel.Pct

theorem foldl_max_ge (l : List Nat) (a : Nat) : a ≤ l.foldl max a := by
  induction l generalizing a with
  | nil => exact Nat.le_refl a
  | cons y ys ih => exact Nat.le_trans (Nat.le_max_left a y) (ih (max a y))

/-- `listMax` is the library's `List.max?`. -/
theorem listMax_spec {xs : List Nat} {mx : Nat} (h : listMax xs = some mx) : mx ∈ xs ∧ ∀ t ∈ xs, t ≤ mx :=
  List.max?_eq_some_iff.1 (show xs.max? = some mx by cases xs <;> exact h)

theorem listMax_isSome {xs : List Nat} (h : xs ≠ []) : ∃ mx, listMax xs = some mx := by
  cases xs with
  | nil => exact absurd rfl h
  | cons x xs => exact ⟨_, rfl⟩

/-- Rank of an `Option<&usize>` key in Rust's `Ord` (`None < Some(_)`). -/
def rank : Option Nat → Nat
  | none => 0
  | some a => a + 1

theorem keyLt_iff (a b : Option Nat) : keyLt a b = true ↔ rank a < rank b := by
  cases a <;> cases b <;> simp [keyLt, rank]

theorem minByKey_spec {key : Nat → Option Nat} {xs : List Nat} {c : Nat} (h : minByKey key xs = some c) :
    c ∈ xs ∧ ∀ t ∈ xs, rank (key c) ≤ rank (key t) := by
  cases xs with
  | nil => cases h
  | cons x xs =>
    cases h
    induction xs generalizing x with
    | nil => exact ⟨List.mem_singleton.2 rfl, fun t ht => Nat.le_of_eq (by rw [List.mem_singleton.1 ht]; rfl)⟩
    | cons y ys ih =>
      obtain ⟨h1, h2⟩ := ih (if keyLt (key y) (key x) then y else x)
      rw [List.foldl_cons]
      by_cases hlt : keyLt (key y) (key x) = true
      · rw [if_pos hlt] at h1 h2 ⊢
        refine ⟨List.mem_cons_of_mem _ h1, fun t ht => ?_⟩
        rcases List.mem_cons.1 ht with rfl | ht
        · exact Nat.le_trans (h2 y List.mem_cons_self) (Nat.le_of_lt ((keyLt_iff _ _).1 hlt))
        · exact h2 t ht
      · rw [if_neg hlt] at h1 h2 ⊢
        refine ⟨?_, fun t ht => ?_⟩
        · rcases List.mem_cons.1 h1 with e | e
          · rw [e]; exact List.mem_cons_self
          · exact List.mem_cons_of_mem _ (List.mem_cons_of_mem _ e)
        · rcases List.mem_cons.1 ht with rfl | ht
          · exact h2 _ List.mem_cons_self
          · rcases List.mem_cons.1 ht with rfl | ht
            · exact Nat.le_trans (h2 x List.mem_cons_self) (Nat.le_of_not_lt (mt (keyLt_iff _ _).2 hlt))
            · exact h2 t (List.mem_cons_of_mem _ ht)

theorem minByKey_isSome {key : Nat → Option Nat} {xs : List Nat} (h : xs ≠ []) : ∃ c, minByKey key xs = some c := by
  cases xs with
  | nil => exact absurd rfl h
  | cons x xs => exact ⟨_, rfl⟩

/-- The effect of the new-task loop (pct.rs:118-132) on `(priorities, next_priority)`, as a sequence of elementary
    updates: each new task `len` either takes the fresh priority `np`, or an existing task `t ≥ 1` is moved to the fresh
    priority `np` and the new task inherits `t`'s old priority. -/
inductive NewTaskInserts : List (Nat × Nat) → Nat → List (Nat × Nat) → Nat → Prop
  | done (m np) : NewTaskInserts m np m np
  | fresh {m np m' np'} :
      NewTaskInserts (mapInsert m m.length np) (np + 1) m' np' → NewTaskInserts m np m' np'
  | swap {m np m' np'} (t old : Nat) : 1 ≤ t → t < m.length → mapGet m t = some old →
      NewTaskInserts (mapInsert (mapInsert m t np) m.length old) (np + 1) m' np' → NewTaskInserts m np m' np'

/-- One iteration is one elementary update; the last conjunct prepends it to any `NewTaskInserts` from its result. -/
theorem newTaskStep_spec {st st' : LoopState} (hI : MInv st.priorities st.nextPriority)
    (h : newTaskStep st st.priorities.length = .ok st') :
    MInv st'.priorities st'.nextPriority ∧ st'.priorities.length = st.priorities.length + 1 ∧
    st'.nextPriority = st.nextPriority + 1 ∧
    ∀ {m' np'}, NewTaskInserts st'.priorities st'.nextPriority m' np' →
      NewTaskInserts st.priorities st.nextPriority m' np' := by
  revert h
  fun_cases newTaskStep st st.priorities.length <;> intro h
  -- `case5` is the branch that returns `.ok`
  case case5 _ r g _ target stepResult p m hsr _ =>
    cases h
    -- `hsr`: the new task's priority `p` and the map `m` it goes into, from pct.rs:122 or 124-127
    simp only [stepResult, target] at hsr
    split at hsr
    · cases hsr
      exact ⟨hI.insert_new_fresh, length_insert_end hI.keys _, rfl, .fresh⟩
    · split at hsr
      · cases hsr
      · next old hg =>
        cases hsr
        have htl := mapGet_lt hI.keys hg
        exact ⟨hI.insert_new_swap hg, hI.length_insert_new_swap htl p, rfl,
          .swap (r + 1) p (Nat.le_add_left 1 r) htl hg⟩
  all_goals cases h

theorem newTaskLoop_spec : ∀ (count : Nat) (st st' : LoopState), MInv st.priorities st.nextPriority →
    newTaskLoop count st.priorities.length st = .ok st' →
    NewTaskInserts st.priorities st.nextPriority st'.priorities st'.nextPriority ∧
    MInv st'.priorities st'.nextPriority ∧
    st'.priorities.length = st.priorities.length + count ∧
    st'.nextPriority = st.nextPriority + count := by
  intro count
  induction count with
  | zero =>
    intro st st' hI h
    cases h
    exact ⟨.done _ _, hI, rfl, rfl⟩
  | succ n ih =>
    intro st st' hI h
    simp only [newTaskLoop] at h
    cases hs : newTaskStep st st.priorities.length with
    | error e => rw [hs] at h; cases h
    | ok st1 =>
      simp only [hs] at h
      obtain ⟨hI1, hlen, hnp, hcont⟩ := newTaskStep_spec hI hs
      rw [← hlen] at h
      obtain ⟨a, b, c, d⟩ := ih st1 st' hI1 h
      exact ⟨hcont a, b, by rw [c, hlen, Nat.add_right_comm, Nat.add_assoc],
        by rw [d, hnp, Nat.add_right_comm, Nat.add_assoc]⟩

/-- Along the new-task loop a known task either keeps its priority value or is moved to a fresh (larger than every
    value in use before the loop) one. -/
theorem NewTaskInserts.mono {m np m' np'} (h : NewTaskInserts m np m' np') : MInv m np →
    np ≤ np' ∧ MInv m' np' ∧ ∀ k < m.length,
      mapGet m' k = mapGet m k ∨ ∃ v', mapGet m' k = some v' ∧ np ≤ v' := by
  induction h with
  | done m np => intro hI; exact ⟨Nat.le_refl _, hI, fun k _ => Or.inl rfl⟩
  | @fresh m np m' np' _ ih =>
    intro hI
    obtain ⟨h1, h2, h4⟩ := ih hI.insert_new_fresh
    rw [length_insert_end hI.keys] at h4
    refine ⟨Nat.le_of_succ_le h1, h2, fun k hk => ?_⟩
    rcases h4 k (Nat.lt_succ_of_lt hk) with h | ⟨v', h, hv⟩
    · rw [mapGet_mapInsert, if_neg (Nat.ne_of_lt hk)] at h; exact Or.inl h
    · exact Or.inr ⟨v', h, Nat.le_of_succ_le hv⟩
  | @swap m np m' np' t old ht1 htl hg _ ih =>
    intro hI
    obtain ⟨h1, h2, h4⟩ := ih (hI.insert_new_swap hg)
    rw [hI.length_insert_new_swap htl] at h4
    refine ⟨Nat.le_of_succ_le h1, h2, fun k hk => ?_⟩
    rcases h4 k (Nat.lt_succ_of_lt hk) with h | ⟨v', h, hv⟩
    · rw [mapGet_mapInsert, if_neg (Nat.ne_of_lt hk), mapGet_mapInsert] at h
      by_cases hkt : k = t
      · rw [if_pos hkt] at h; exact Or.inr ⟨np, h, Nat.le_refl _⟩
      · rw [if_neg hkt] at h; exact Or.inl h
    · exact Or.inr ⟨v', h, Nat.le_of_succ_le hv⟩

/-- The priority of task `k` in state `s` (`self.priorities.get(&k)`). -/
def prio (s : PctState) (k : Nat) : Option Nat := mapGet s.priorities k

/-- pct.rs:141-142: `runnable.len() > 1 && (self.change_points.contains(&self.steps) || is_yielding)`. -/
def Demote (s : PctState) (runnable : List Nat) (isYielding : Bool) : Prop :=
  runnable.length > 1 ∧ (s.steps ∈ s.changePoints ∨ isYielding = true)

instance (s r y) : Decidable (Demote s r y) := by unfold Demote; infer_instance

/-- `s'` is `s` after `k` multi-choice decisions of one execution: the configuration and the change points are
    untouched, `steps` has counted them, `max_steps` is the running maximum (pct.rs:150-153). -/
structure Counted (s s' : PctState) (k : Nat) : Prop where
  maxIterations : s'.maxIterations = s.maxIterations
  maxDepth : s'.maxDepth = s.maxDepth
  iterations : s'.iterations = s.iterations
  changePoints : s'.changePoints = s.changePoints
  steps : s'.steps = s.steps + k
  maxSteps : s'.maxSteps = max s.maxSteps (s.steps + k)

theorem Counted.refl {s : PctState} (h : s.steps ≤ s.maxSteps) : Counted s s 0 :=
  { maxIterations := rfl, maxDepth := rfl, iterations := rfl, changePoints := rfl, steps := rfl,
    maxSteps := (Nat.max_eq_left h).symm }

/-- `Counted` reads only the counters of its first argument, which the new-task loop and the demotion leave alone. -/
theorem Counted.of_update {s s' : PctState} {k : Nat} {m : List (Nat × Nat)} {np : Nat} {g : Rng.Pcg}
    (h : Counted { s with priorities := m, nextPriority := np, rng := g } s' k) : Counted s s' k :=
  { maxIterations := h.maxIterations, maxDepth := h.maxDepth, iterations := h.iterations,
    changePoints := h.changePoints, steps := h.steps, maxSteps := h.maxSteps }

/-- pct.rs:150-153 `self.steps += 1; if self.steps > self.max_steps { self.max_steps = self.steps; }`. -/
def bump (s : PctState) : PctState :=
  let s := { s with steps := s.steps + 1 }
  if s.steps > s.maxSteps then { s with maxSteps := s.steps } else s

theorem bump_spec (s : PctState) :
    Counted s (bump s) 1 ∧ (bump s).data = s.data ∧ (bump s).priorities = s.priorities ∧
      (bump s).nextPriority = s.nextPriority := by
  by_cases h : s.steps + 1 > s.maxSteps
  · rw [show bump s = { s with steps := s.steps + 1, maxSteps := s.steps + 1 } from if_pos h]
    exact ⟨{ maxIterations := rfl, maxDepth := rfl, iterations := rfl, changePoints := rfl, steps := rfl,
             maxSteps := (Nat.max_eq_right (Nat.le_of_lt h)).symm }, rfl, rfl, rfl⟩
  · rw [show bump s = { s with steps := s.steps + 1 } from if_neg h]
    exact ⟨{ maxIterations := rfl, maxDepth := rfl, iterations := rfl, changePoints := rfl, steps := rfl,
             maxSteps := (Nat.max_eq_left (Nat.le_of_not_lt h)).symm }, rfl, rfl, rfl⟩

/-- The block demotes `current` exactly when `Demote` holds, and counts the decision if more than one task is offered
    (`steps ≤ max_steps` is what makes "no change" a case of `Counted`). -/
theorem changeStep_spec {s s' : PctState} {runnable : List Nat} {current : Option Nat} {y : Bool}
    (hI : MInv s.priorities s.nextPriority) (h : changeStep s runnable.length current y = .ok s') :
    (s.steps ≤ s.maxSteps → Counted s s' (if runnable.length > 1 then 1 else 0)) ∧ s'.data = s.data ∧
    MInv s'.priorities s'.nextPriority ∧ s'.priorities.length = s.priorities.length ∧
    (Demote s runnable y →
      ∃ cur, current = some cur ∧ cur < s.priorities.length ∧
        s'.priorities = mapInsert s.priorities cur s.nextPriority ∧ s'.nextPriority = s.nextPriority + 1) ∧
    (¬ Demote s runnable y → s'.priorities = s.priorities ∧ s'.nextPriority = s.nextPriority) := by
  revert h
  fun_cases changeStep s runnable.length current y <;> intro h
  case case1 => cases h
  case case2 hn r1 s1 hr _ =>
    -- whatever the demotion did (`hr`), the block returns `bump s1`
    obtain rfl : bump s1 = s' := Except.ok.inj h
    obtain ⟨f, b1, b2, b3⟩ := bump_spec s1
    rw [if_pos hn, b2, b3]
    simp only [r1] at hr
    split at hr
    · next hc =>
      have hd : Demote s runnable y := ⟨hn, by simpa using hc⟩
      split at hr
      · cases hr
      · split at hr
        · cases hr
        · next cur _ old hg =>
          cases hr
          have htl := mapGet_lt hI.keys hg
          exact ⟨fun _ => f.of_update, b1, hI.insert_known htl, length_insert_lt hI.keys htl _,
            fun _ => ⟨cur, rfl, htl, rfl, rfl⟩, fun hnd => absurd hd hnd⟩
    · next hc =>
      cases hr
      exact ⟨fun _ => f, b1, hI, rfl, fun hd => absurd (by simpa using hd.2) hc, fun _ => ⟨rfl, rfl⟩⟩
  case case3 hn =>
    cases h
    rw [if_neg hn]
    exact ⟨Counted.refl, rfl, hI, rfl, fun hd => absurd hd.1 hn, fun _ => ⟨rfl, rfl⟩⟩

theorem changeStep_total {s : PctState} {runnable : List Nat} {current : Option Nat} {y : Bool}
    (h : Demote s runnable y → ∃ cur, current = some cur ∧ (mapGet s.priorities cur).isSome) :
    ∃ s', changeStep s runnable.length current y = .ok s' := by
  unfold changeStep
  by_cases hn : runnable.length > 1
  · rw [if_pos hn]
    by_cases hc : (s.changePoints.contains s.steps || y) = true
    · obtain ⟨cur, rfl, hk⟩ := h ⟨hn, by simpa using hc⟩
      obtain ⟨old, hold⟩ := Option.isSome_iff_exists.1 hk
      simp only [hc, if_true, hold]
      exact ⟨_, rfl⟩
    · simp only [hc]
      exact ⟨_, rfl⟩
  · rw [if_neg hn]
    exact ⟨_, rfl⟩

/-- Everything `next_task` does when it returns (i.e. does not panic): the new-task loop leads from the map of `s` to
    an intermediate map `mid` with next fresh priority `npMid`, the change-point block from there to `s'`. -/
structure NextSpec (s : PctState) (runnable : List Nat) (current : Option Nat) (y : Bool) (c : Nat) (s' : PctState)
    (mx : Nat) (mid : List (Nat × Nat)) (npMid : Nat) : Prop where
  listMax_eq : listMax runnable = some mx
  inserts : NewTaskInserts s.priorities s.nextPriority mid npMid
  mid_length : mid.length = max s.priorities.length (mx + 1)
  npMid_eq : npMid = s.nextPriority + (mid.length - s.priorities.length)
  noNew : mx < s.priorities.length → mid = s.priorities ∧ npMid = s.nextPriority
  demote : Demote s runnable y → ∃ cur, current = some cur ∧ cur < mid.length ∧
    s'.priorities = mapInsert mid cur npMid ∧ s'.nextPriority = npMid + 1
  keep : ¬ Demote s runnable y → s'.priorities = mid ∧ s'.nextPriority = npMid
  length : s'.priorities.length = mid.length
  inv : Inv s'
  counted : s.steps ≤ s.maxSteps → Counted s s' (if runnable.length > 1 then 1 else 0)
  data : s'.data = s.data
  choice : minByKey (mapGet s'.priorities) runnable = some c

theorem nextTask_spec {s s' : PctState} {runnable : List Nat} {current : Option Nat} {y : Bool} {c : Nat}
    (hI : Inv s) (h : nextTask s runnable current y = .ok c s') :
    ∃ mx mid npMid, NextSpec s runnable current y c s' mx mid npMid := by
  revert h
  fun_cases nextTask s runnable current y <;> intro h
  -- `case5` is the branch that returns `.ok`
  case case5 _ mx hmx st hl _ s1 hc c' hk =>
    cases h
    obtain ⟨hins, hI1, hlen1, hnp1⟩ := newTaskLoop_spec _
      { priorities := s.priorities, nextPriority := s.nextPriority, rng := s.rng } st hI hl
    simp only at hins hI1 hlen1 hnp1
    obtain ⟨hcount, hdata, hinv, hlen, hd, hnd⟩ := changeStep_spec hI1 hc
    refine ⟨mx, st.priorities, st.nextPriority,
      { listMax_eq := hmx, inserts := hins,
        mid_length := by rw [hlen1, Nat.add_comm, Nat.sub_add_eq_max, Nat.max_comm, Nat.add_comm 1],
        npMid_eq := by rw [hnp1, hlen1, Nat.add_sub_cancel_left],
        noNew := fun hlt => ?_,
        demote := hd, keep := hnd, length := hlen, inv := hinv,
        counted := fun hsm => (hcount hsm).of_update, data := hdata, choice := hk }⟩
    rw [Nat.sub_eq_zero_of_le (Nat.add_comm 1 mx ▸ Nat.succ_le_of_lt hlt)] at hl
    cases hl
    exact ⟨rfl, rfl⟩
  all_goals cases h

theorem inv_nextTask {s s' : PctState} {runnable : List Nat} {current : Option Nat} {y : Bool} {c : Nat}
    (hI : Inv s) (h : nextTask s runnable current y = .ok c s') : Inv s' :=
  let ⟨_, _, _, sp⟩ := nextTask_spec hI h
  sp.inv

theorem inv_nextU64 {s : PctState} (hI : Inv s) : Inv (nextU64 s).2 := hI

theorem take_succ_set {l : List Nat} {i : Nat} (hi : i < l.length) (a : Nat) :
    (l.set i a).take (i + 1) = l.take i ++ [a] := by
  rw [List.take_add_one, List.take_set_of_le (Nat.le_refl i)]
  simp [hi]

theorem reinsertLoop_spec {ps : List Nat} {m : List (Nat × Nat)} {i : Nat} (hk : KeysOk m)
    (hl : i + ps.length = m.length) :
    ∃ m', reinsertLoop m i ps = some m' ∧ KeysOk m' ∧ m'.length = m.length ∧ vals m' = (vals m).take i ++ ps := by
  fun_induction reinsertLoop m i ps with
  | case1 m i =>
    refine ⟨m, rfl, hk, rfl, ?_⟩
    rw [List.append_nil, show i = (vals m).length from hl.trans (vals_length m).symm, List.take_length]
  | case2 m i p ps hnone =>
    rw [mapGet_eq_none_iff hk, ← hl] at hnone
    exact absurd hnone (Nat.not_le.2 (Nat.lt_add_of_pos_right (Nat.succ_pos _)))
  | case3 m i p ps old hold ih =>
    have hi := mapGet_lt hk hold
    have hl1 := length_insert_lt hk hi p
    obtain ⟨m', h1, h2, h3, h4⟩ := ih (keysOk_insert_lt hk hi p)
      (by rw [hl1, ← hl, List.length_cons, Nat.add_right_comm]; rfl)
    refine ⟨m', h1, h2, h3.trans hl1, ?_⟩
    rw [h4, vals_insert_lt hk hi, take_succ_set (by rwa [vals_length]), List.append_assoc]; rfl

/-- What `new_execution` does from the second execution on (pct.rs:78-106): the priorities are a shuffle of
    `0..len`, the change points are `index::sample`d. -/
structure Reshuffled (s s' : PctState) : Prop where
  maxSteps_pos : 0 < s.maxSteps
  keys : KeysOk s'.priorities
  length : s'.priorities.length = s.priorities.length
  perm : (vals s'.priorities).Perm (List.range s.priorities.length)
  nextPriority : s'.nextPriority = s.priorities.length
  sample : ∃ g cps, Rng.indexSample g (s.maxSteps - 1) (min (s.maxDepth - 1) (s.maxSteps - 1)) = some (cps, s'.rng) ∧
    s'.changePoints = cps.map (· + 1)

/-- Everything `new_execution` does, when it returns `Some`. -/
structure ExecSpec (s : PctState) (seed : Nat) (s' : PctState) : Prop where
  lt : s.iterations < s.maxIterations
  maxIterations : s'.maxIterations = s.maxIterations
  maxDepth : s'.maxDepth = s.maxDepth
  iterations : s'.iterations = s.iterations + 1
  steps : s'.steps = 0
  maxSteps : s'.maxSteps = s.maxSteps
  data : (seed, s'.data) = s.data.reinitialize
  first : s.iterations = 0 → s'.priorities = s.priorities ∧ s'.nextPriority = s.nextPriority ∧
    s'.changePoints = s.changePoints ∧ s'.rng = s.rng
  later : s.iterations > 0 → Reshuffled s s'

theorem newExecution_some {s s' : PctState} {seed : Nat} (hI : Inv s) (h : newExecution s = .some seed s') :
    ExecSpec s seed s' := by
  revert h
  fun_cases newExecution s <;> intro h
  -- `case6`: a later execution in which nothing panics (pct.rs:78-106); `case7`: the first execution
  case case6 hit _ h0 hms prios g hsh m hre _ _ cps g' hix _ seed1 ds hds =>
    cases h
    have hperm := shuffle_perm hsh
    obtain ⟨m', hm', hkeys, hlen, hvals⟩ := reinsertLoop_spec (ps := prios) (i := 0) hI.keys
      (by rw [hperm.length_eq, List.length_range, Nat.zero_add])
    cases hm'.symm.trans hre
    rw [List.take_zero, List.nil_append] at hvals
    exact { lt := Nat.lt_of_not_le hit, maxIterations := rfl, maxDepth := rfl, iterations := rfl, steps := rfl,
            maxSteps := rfl, data := hds.symm, first := fun h => absurd h (Nat.ne_of_gt h0),
            later := fun _ => { maxSteps_pos := Decidable.not_not.1 hms, keys := hkeys, length := hlen,
                                perm := hvals ▸ hperm, nextPriority := hlen, sample := ⟨g, cps, hix, rfl⟩ } }
  case case7 hit _ h0 seed1 ds hds =>
    cases h
    exact { lt := Nat.lt_of_not_le hit, maxIterations := rfl, maxDepth := rfl, iterations := rfl, steps := rfl,
            maxSteps := rfl, data := hds.symm, first := fun _ => ⟨rfl, rfl, rfl, rfl⟩, later := fun h => absurd h h0 }
  all_goals cases h

/-- pct.rs:69: `None` is returned exactly when the iteration budget is used up (every other path returns `Some` or
    panics). -/
theorem newExecution_eq_none_iff (s : PctState) : newExecution s = .none ↔ s.iterations ≥ s.maxIterations := by
  fun_cases newExecution s <;> simp [*]

theorem inv_newFromSeed (seed d it : Nat) : Inv (PctState.newFromSeed seed d it) := by
  refine ⟨?_, ?_, ?_⟩
  · simp [PctState.newFromSeed, KeysOk, keys, List.map_map, Function.comp_def]
  · simp [PctState.newFromSeed, vals, List.map_map, Function.comp_def, List.nodup_range]
  · simp [PctState.newFromSeed, vals, List.map_map, Function.comp_def]

/-- A shuffle of `0..len` is duplicate-free and below `len`, which is the new `next_priority`. -/
theorem inv_newExecution {s s' : PctState} {seed : Nat} (hI : Inv s) (h : newExecution s = .some seed s') :
    Inv s' := by
  have sp := newExecution_some hI h
  by_cases h0 : s.iterations > 0
  · have r := sp.later h0
    refine ⟨r.keys, (r.perm.nodup_iff).2 List.nodup_range, ?_⟩
    intro v hv
    rw [r.nextPriority]
    exact List.mem_range.1 ((r.perm.mem_iff).1 hv)
  · obtain ⟨a, b, _, _⟩ := sp.first (Nat.eq_zero_of_not_pos h0)
    unfold Inv; rw [a, b]; exact hI

def rngPanic : String := "model: rng (gen_range)"

theorem newTaskStep_total {st : LoopState} (hI : MInv st.priorities st.nextPriority)
    (hlen : 0 < st.priorities.length) :
    (∃ st', newTaskStep st st.priorities.length = .ok st') ∨
    newTaskStep st st.priorities.length = .error rngPanic := by
  unfold newTaskStep
  rw [if_neg (Nat.ne_of_gt hlen)]
  cases hg : Rng.genRangeUsize 0 st.priorities.length st.rng with
  | none => right; rfl
  | some rg =>
    obtain ⟨r, g⟩ := rg
    left
    have hr : r < st.priorities.length := genRangeUsize_lt hg
    simp only
    by_cases ht : r + 1 = st.priorities.length
    · simp only [ht, if_true]
      rw [(mapGet_eq_none_iff hI.keys _).2 (Nat.le_refl _)]
      exact ⟨_, rfl⟩
    · simp only [ht, if_false]
      have htl : r + 1 < st.priorities.length := Nat.lt_of_le_of_ne hr ht
      obtain ⟨old, hold⟩ := hI.get_of_lt htl
      simp only [hold]
      rw [(mapGet_eq_none_iff (hI.insert_known htl).keys _).2
        (Nat.le_of_eq (length_insert_lt hI.keys htl st.nextPriority))]
      exact ⟨_, rfl⟩

theorem newTaskLoop_total : ∀ (count : Nat) (st : LoopState),
    MInv st.priorities st.nextPriority → 0 < st.priorities.length →
    (∃ st', newTaskLoop count st.priorities.length st = .ok st') ∨
    newTaskLoop count st.priorities.length st = .error rngPanic := by
  intro count
  induction count with
  | zero => intro st _ _; left; exact ⟨st, rfl⟩
  | succ n ih =>
    intro st hI hlen
    simp only [newTaskLoop]
    rcases newTaskStep_total hI hlen with ⟨st1, hs⟩ | hs
    · rw [hs]
      simp only
      obtain ⟨hI1, hl1, _, _⟩ := newTaskStep_spec hI hs
      have := ih st1 hI1 (hl1 ▸ Nat.succ_pos _)
      rwa [hl1] at this
    · rw [hs]; right; rfl

theorem nextTask_total {s : PctState} {runnable : List Nat} {current : Option Nat} {y : Bool}
    (hI : Inv s) (hlen : 0 < s.priorities.length) (hr : runnable ≠ [])
    (hcur : Demote s runnable y → ∃ cur, current = some cur ∧
      (cur < s.priorities.length ∨ ∃ t ∈ runnable, cur ≤ t)) :
    (∃ c s', nextTask s runnable current y = .ok c s') ∨ nextTask s runnable current y = .panic rngPanic := by
  unfold nextTask
  obtain ⟨mx, hmx⟩ := listMax_isSome hr
  obtain ⟨_, hle⟩ := listMax_spec hmx
  simp only [hmx]
  rcases newTaskLoop_total (1 + mx - s.priorities.length)
      { priorities := s.priorities, nextPriority := s.nextPriority, rng := s.rng } hI hlen with ⟨st, hl⟩ | hl
  · simp only at hl
    rw [hl]
    simp only
    obtain ⟨_, hI1, hl1, _⟩ := newTaskLoop_spec _
      { priorities := s.priorities, nextPriority := s.nextPriority, rng := s.rng } st hI hl
    simp only at hl1
    left
    obtain ⟨s1, hs1⟩ := changeStep_total (runnable := runnable) (current := current) (y := y)
      (s := { s with priorities := st.priorities, nextPriority := st.nextPriority, rng := st.rng }) fun hd => by
        obtain ⟨cur, hcur, hk⟩ := hcur hd
        refine ⟨cur, hcur, (mapGet_isSome_iff hI1.keys cur).2 ?_⟩
        rcases hk with hk | ⟨t, ht, hk⟩
        · exact hl1 ▸ Nat.lt_add_right _ hk
        · have := hle t ht; omega
    rw [hs1]
    simp only
    obtain ⟨c, hc⟩ := minByKey_isSome (key := mapGet s1.priorities) hr
    rw [hc]
    exact ⟨c, s1, rfl⟩
  · simp only at hl
    rw [hl]
    right; rfl

end ShuttleProofs.Pct

import ShuttleModel.Prim.Chan
/-
  C06 — the most general client of one mpsc channel, as a labelled transition system over the
  PURE atomic transitions of ShuttleModel/Prim/Chan.lean.

  * `sendSeg1/2`, `recvSeg1/2`: the atomic segments of `send_internal` / `recv_internal`, i.e. the
    pure transitions composed exactly as the `Prog` wrappers `Chan.sendInternal` /
    `Chan.recvInternal` sequence them between two `K.switch`es (the clocks the wrappers obtain
    from the kernel are parameters: the theorems hold for every clock value).
  * `Cfg`: channel state + ghost history (`sent`, `received`), the ghost set `ub` of tasks that
    received an `Eff.unblock` since they blocked, the value a blocked sender carries (`pv`), and the
    real number of live endpoints (`liveS`, `liveR`; they differ from `known_senders` /
    `known_receivers` only after a drop that was skipped because `should_stop()`).
  * `Label` / `enabled` / `fire` / `Reachable`: any task may start a `send(v)` / `try_send(v)` /
    `recv` / `try_recv`; a task sitting in a waiting queue may run its second segment once it has
    been unblocked; endpoints may be cloned / dropped at any time, subject only to Rust's
    ownership rules (see `enabled`).
  * `ASpec` / `AStep`: the abstract bounded FIFO.

  This file, `Lemmas/Chan*.lean` and `C06.lean` share the namespace of the property; `c` is a
  configuration in `enabled` / `fire` and the sender's clock in the segments and in `Label`.
-/
namespace ShuttleModel.C06
open ShuttleModel

/-- tasks unblocked by a list of effects -/
def ubOf (es : List Eff) : List Nat :=
  es.filterMap fun e => match e with | .unblock t => some t | _ => none

/-- sequencing of atomic transitions inside one segment (effects accumulate in order; a panic
keeps the effects already performed) -/
def bindStep {α β : Type} (x : ChanStep α) (f : ChanState → α → ChanStep β) : ChanStep β :=
  match x with
  | .error p => .error p
  | .ok (s, a, e) =>
    match f s a with
    | .error p => .error { p with effs := e ++ p.effs }
    | .ok (s', b, e') => .ok (s', b, e ++ e')

/-- a `send` segment: prefix `first`, then the push if the prefix says so.
Result `none` = the task is now blocked in `waiting_senders`. -/
def sendSeg (first : ChanStep SendStage) (v : Nat) (c : Clock) : ChanStep (Option SendRes) :=
  bindStep first fun s st =>
    match st with
    | .done r => .ok (s, some r, [])
    | .blocked => .ok (s, none, [])
    | .push => bindStep (s.sendPush v c) fun s _ => .ok (s, some .ok, [])

/-- first atomic segment of `send_internal(v, canBlock)` by task `me` (`c` = `increment_clock()`) -/
def sendSeg1 (s : ChanState) (me v : Nat) (canBlock : Bool) (c : Clock) : ChanStep (Option SendRes) :=
  sendSeg (s.sendStart me canBlock) v c

/-- second atomic segment of a blocking `send_internal` (after the sender was unblocked) -/
def sendSeg2 (s : ChanState) (me v : Nat) (c : Clock) : ChanStep (Option SendRes) :=
  sendSeg (s.sendWake me) v c

/-- a `recv` segment (`mine` = the receiver's clock pushed on `receiver_clock`) -/
def recvSeg (first : ChanStep RecvStage) (mine : Clock) : ChanStep (Option RecvRes) :=
  bindStep first fun s st =>
    match st with
    | .done r => .ok (s, some r, [])
    | .blocked => .ok (s, none, [])
    | .pop => bindStep s.recvPop fun s item =>
        bindStep (s.recvAck mine) fun s _ => .ok (s, some (.ok item.1), [])

def recvSeg1 (s : ChanState) (me : Nat) (canBlock : Bool) (mine : Clock) : ChanStep (Option RecvRes) :=
  recvSeg (s.recvStart me canBlock) mine

def recvSeg2 (s : ChanState) (me : Nat) (mine : Clock) : ChanStep (Option RecvRes) :=
  recvSeg (s.recvWake me) mine

structure Cfg where
  ch : ChanState
  /-- successful sends `(task, value)` in the order of their push -/
  sent : List (Nat × Nat) := []
  /-- values returned by `recv` / `try_recv`, in order -/
  received : List Nat := []
  /-- tasks that received an `Eff.unblock` since they blocked -/
  ub : List Nat := []
  /-- value carried by a blocked sender -/
  pv : Nat → Nat := fun _ => 0
  /-- endpoints that really exist -/
  liveS : Nat := 1
  liveR : Bool := true
  /-- some endpoint drop was skipped (`should_stop()`) -/
  skipped : Bool := false

def Cfg.init (bound : Option Nat) : Cfg := { ch := ChanState.new bound }

inductive Label where
  /-- `send(v)` (`canBlock`) / `try_send(v)` by task `t`, first segment -/
  | sendStart (t v : Nat) (canBlock : Bool) (c : Clock)
  /-- second segment of a blocked `send` -/
  | sendWake (t : Nat) (c : Clock)
  /-- `recv()` (`canBlock`) / `try_recv()` by task `t`, first segment -/
  | recvStart (t : Nat) (canBlock : Bool) (mine : Clock)
  | recvWake (t : Nat) (mine : Clock)
  | cloneS
  /-- `drop(sender)`; `stop` = `should_stop()` at that moment -/
  | dropS (stop : Bool)
  | dropR (stop : Bool)

/-- what the client may do.  Only ownership: an operation needs a live endpoint of its kind; a task
runs one operation at a time; there is one `Receiver` (`&self` methods, not `Clone`, not `Sync`), so
no `recv` starts while another is in flight and the `Receiver` is not dropped then; a `Sender`
borrowed by a blocked `send` is not dropped (at least one live sender remains while
`waiting_senders` is non-empty); second segments run only after an `unblock`. -/
def enabled (c : Cfg) : Label → Prop
  | .sendStart t _ _ _ => 1 ≤ c.liveS ∧ t ∉ c.ch.waitingSenders ∧ t ∉ c.ch.waitingReceivers
  | .sendWake t _ => t ∈ c.ch.waitingSenders ∧ t ∈ c.ub
  | .recvStart t _ _ => c.liveR = true ∧ c.ch.waitingReceivers = [] ∧ t ∉ c.ch.waitingSenders
  | .recvWake t _ => t ∈ c.ch.waitingReceivers ∧ t ∈ c.ub
  | .cloneS => 1 ≤ c.liveS
  | .dropS _ => 1 ≤ c.liveS ∧ (c.ch.waitingSenders ≠ [] → 2 ≤ c.liveS)
  | .dropR _ => c.liveR = true ∧ c.ch.waitingReceivers = []

instance (c : Cfg) (l : Label) : Decidable (enabled c l) := by
  cases l <;> unfold enabled <;> infer_instance

/-- ghost bookkeeping after a send segment of task `t` with value `v`; `x` = (new state, result
with `none` = blocked, effects) as the segment returned it, `wake` = it was the second segment -/
def Cfg.afterSend (c : Cfg) (t v : Nat) (x : ChanState × Option SendRes × List Eff) (wake : Bool) : Cfg :=
  { c with
    ch := x.1
    ub := (if wake then c.ub.filter (· != t) else c.ub) ++ ubOf x.2.2
    sent := if x.2.1 = some .ok then c.sent ++ [(t, v)] else c.sent
    pv := if x.2.1 = none then (fun y => if y = t then v else c.pv y) else c.pv }

def Cfg.afterRecv (c : Cfg) (t : Nat) (x : ChanState × Option RecvRes × List Eff) (wake : Bool) : Cfg :=
  { c with
    ch := x.1
    ub := (if wake then c.ub.filter (· != t) else c.ub) ++ ubOf x.2.2
    received := match x.2.1 with
      | some (.ok v) => c.received ++ [v]
      | _ => c.received }

/-- the transition function (`.error` = the Rust code panics) -/
def fire (c : Cfg) : Label → Except ChanPanic Cfg
  | .sendStart t v cb clk =>
    match sendSeg1 c.ch t v cb clk with
    | .error p => .error p
    | .ok x => .ok (c.afterSend t v x false)
  | .sendWake t clk =>
    match sendSeg2 c.ch t (c.pv t) clk with
    | .error p => .error p
    | .ok x => .ok (c.afterSend t (c.pv t) x true)
  | .recvStart t cb mine =>
    match recvSeg1 c.ch t cb mine with
    | .error p => .error p
    | .ok x => .ok (c.afterRecv t x false)
  | .recvWake t mine =>
    match recvSeg2 c.ch t mine with
    | .error p => .error p
    | .ok x => .ok (c.afterRecv t x true)
  | .cloneS =>
    match c.ch.cloneSenderStep with
    | .error p => .error p
    | .ok x => .ok { c with ch := x.1, ub := c.ub ++ ubOf x.2.2, liveS := c.liveS + 1 }
  | .dropS stop =>
    match c.ch.dropSenderStep stop with
    | .error p => .error p
    | .ok x => .ok { c with ch := x.1, ub := c.ub ++ ubOf x.2.2, liveS := c.liveS - 1,
                            skipped := c.skipped || stop }
  | .dropR stop =>
    match c.ch.dropReceiverStep stop with
    | .error p => .error p
    | .ok x => .ok { c with ch := x.1, ub := c.ub ++ ubOf x.2.2, liveR := false,
                            skipped := c.skipped || stop }

/-- all histories of the most general client of a channel created with `bound` -/
inductive Reachable (bound : Option Nat) : Cfg → Prop where
  | init : Reachable bound (Cfg.init bound)
  | step {c c' : Cfg} (l : Label) : Reachable bound c → enabled c l → fire c l = .ok c' →
      Reachable bound c'

/-- executable form, for concrete witnesses -/
def runLabels (c : Cfg) : List Label → Option Cfg
  | [] => some c
  | l :: ls =>
    if enabled c l then
      match fire c l with
      | .ok c' => runLabels c' ls
      | .error _ => none
    else none

theorem runLabels_reachable {b : Option Nat} {c c' : Cfg} (ls : List Label)
    (h : Reachable b c) (hr : runLabels c ls = some c') : Reachable b c' := by
  induction ls generalizing c with
  | nil => simp [runLabels] at hr; subst hr; exact h
  | cons l ls ih =>
    simp only [runLabels] at hr
    split at hr
    · rename_i hen
      split at hr
      · rename_i c1 hf
        exact ih (Reachable.step l h hen hf) hr
      · cases hr
    · cases hr

structure ASpec where
  queue : List Nat
  senders : Nat
  receiverAlive : Bool
deriving DecidableEq, Repr

/-- capacity of the buffer: `none` = unbounded; a rendezvous channel buffers the one message that
is being handed off -/
def capOf (bound : Option Nat) : Option Nat := bound.map (max · 1)

def hasRoom (cap : Option Nat) (n : Nat) : Prop :=
  match cap with
  | none => True
  | some k => n < k

inductive AStep (cap : Option Nat) : ASpec → ASpec → Prop where
  | stutter (a) : AStep cap a a
  | push (a v) : a.receiverAlive = true → hasRoom cap a.queue.length →
      AStep cap a { a with queue := a.queue ++ [v] }
  | pop (a v q) : a.queue = v :: q → AStep cap a { a with queue := q }
  | clone (a) : 1 ≤ a.senders → AStep cap a { a with senders := a.senders + 1 }
  | dropS (a) : 1 ≤ a.senders → AStep cap a { a with senders := a.senders - 1 }
  | dropR (a) : a.receiverAlive = true → AStep cap a { a with receiverAlive := false }

def abs (s : ChanState) : ASpec :=
  { queue := s.messages.map (·.1), senders := s.knownSenders, receiverAlive := s.knownReceivers != 0 }

end ShuttleModel.C06

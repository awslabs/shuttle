import ShuttleModel.Prim.Locks
import ShuttleProofs.Lemmas.SemStep
import ShuttleProofs.Lemmas.SemNFrame
/-
  Most-general-client transition systems for `Mutex` and `RwLock`
  (`ShuttleModel/Prim/Locks.lean`, transcription of shuttle-std/src/sync/{mutex,rwlock}.rs).

  One `MOp` / `ROp` is exactly the state update one of the `Prog` wrappers performs between two
  scheduling points (`K.switch`), composed from `SemLts.step` on the inner semaphore and the pure
  guard functions of `MutexState` / `RwLockState`:

  * `lockStart t`   — the first segment of `lock`: the `closed` test (enabling condition
                      `closed = false`), the re-entrancy test (`.error` with the deadlock message), and
                      `Sem.newAcquire` (`Acquire::new`, no scheduling point);
  * `lockPoll t wid`— one iteration of `Sem.blockOnAcquire`: `Sem.poll` after its (optional)
                      `K.switch`; when it is `Ready`, `Sem.dropAcquire` of the (completed) Acquire and,
                      for `Ready(Ok)`, the holder assertion + `takeGuard`, all in the same segment
                      (`pollDrop`);  a first poll that has no scheduling point of its own runs in the
                      segment of `lockStart`: that is the sequence `lockStart; lockPoll`, which the LTS
                      contains;
  * `lockPoisoned t`— `lock` on a closed semaphore after its `K.switch` (enabling condition
                      `closed = true`: the wrapper tested it before the switch and `closed` is never
                      reset, `step_closed_mono`);
  * `tryLock t`     — `try_lock` after the `K.switch` of `Sem.tryAcquire`;
  * `unlock t`      — `Drop for …Guard` after the `K.switch` of `Sem.release`: `releasePure` when the
                      thread is not panicking, `releasePoison` when it is (`relOp`), then `dropGuard`;
  * `tryGiveBack t` — (RwLock, `fixedF3 = true` only) the `Sem.release 1` of a re-entrant `try_read`
                      after its `K.switch`;
  * `write t v`     — the owner of a (write) guard stores through it.

  Parameters of every single step, arbitrary and independent from step to step:
  `fin : Nat → Bool` (finished tasks), `p : Bool` (`K.isPanicking`), clocks.

  `.error msg` = the wrapper panics with `msg` (the execution is aborted: no successor state).

  Client discipline (the enabling conditions `MEnabled` / `REnabled`, part of `MReach` / `RReach`):
  * a guard is dropped / written through only by a task that owns one (ghost lists `guards`,
    `rguards`, `wguards`; a successful lock pushes, `unlock` erases);
  * `lockPoll` polls an `Acquire` that asks for the permits of this lock operation (`w.n = 1` resp.
    `w.n = permits write`) — true for the Acquire `lockStart` created; *who* polls is not restricted;
  * `tryGiveBack t` only for a task that owes a permit (ghost list `owed`).
-/
namespace ShuttleModel
namespace LocksLts
open SemLts

/-- the semaphore op `Sem.release` performs after its `K.switch` (`p` = `K.isPanicking`) -/
def relOp (p : Bool) (t n : Nat) (clk : Clock) : SemOp :=
  if p then .poisonRelease t n else .release t n clk

/-- one iteration of `Sem.blockOnAcquire` up to the next scheduling point: `poll` (cx = the polling
task), and when it is `Ready` the `Drop` of the `Acquire`.  The `Drop` of a completed Acquire never
hands permits back (`step_drop_completed`: its output is `.dropped 0`), so the output of the second step
is not inspected. -/
def pollDrop (fin : Nat → Bool) (s : SemState) (t wid : Nat) (clk : Clock) :
    Except String (SemState × PollRes) :=
  match step fin s (.poll wid t t clk) with
  | .error e => .error e
  | .ok o1 =>
    match o1.out with
    | .polled .pending => .ok (o1.s, .pending)
    | .polled (.ready ok) =>
      match step fin o1.s (.dropAcquire t wid) with
      | .error e => .error e
      | .ok o2 => .ok (o2.s, .ready ok)
    | _ => .error "model: poll returns polled"

def unwrapErrMsg : String := "called `Result::unwrap()` on an `Err` value: AcquireError(())"
def holderNoneMsg : String := "assertion failed: state.holder.is_none()"

def mutexDeadlockMsg (t : Nat) : String :=
  s!"deadlock! task TaskId({t}) tried to acquire a Mutex it already holds"

/-- Mutex + ghost: the tasks owning a live `MutexGuard` -/
structure MG where
  m : MutexState := {}
  guards : List Nat := []

inductive MOp where
  | lockStart (t : Nat) (clk : Clock)
  | lockPoll (t wid : Nat) (clk : Clock)
  | lockPoisoned (t : Nat)
  | tryLock (t : Nat) (clk : Clock)
  | unlock (t : Nat) (clk : Clock)
  | write (t v : Nat)

inductive MOut where
  | started (wid : Nat)
  | pending
  /-- `lock` returned a guard (`Ok` / `Err(Poisoned)`) -/
  | locked (r : LockRes)
  /-- `try_lock` returned (`.wouldBlock` = no guard) -/
  | tried (r : LockRes)
  | unlocked
  | wrote
deriving DecidableEq

def MOp.task : MOp → Nat
  | .lockStart t _ => t
  | .lockPoll t _ _ => t
  | .lockPoisoned t => t
  | .tryLock t _ => t
  | .unlock t _ => t
  | .write t _ => t

/-- does the step hand a guard to its task -/
def MOut.guard : MOut → Bool
  | .locked _ => true
  | .tried r => r != .wouldBlock
  | _ => false

def mstep (fin : Nat → Bool) (p : Bool) (m : MutexState) : MOp → Except String (MutexState × MOut)
  | .lockStart t clk =>
    if m.holder == some t then .error (mutexDeadlockMsg t)
    else .ok ({ m with sem := (m.sem.newAcquire t 1 clk).2 }, .started (m.sem.newAcquire t 1 clk).1)
  | .lockPoll t wid clk =>
    match pollDrop fin m.sem t wid clk with
    | .error e => .error e
    | .ok (s', .pending) => .ok ({ m with sem := s' }, .pending)
    | .ok (_, .ready false) => .error unwrapErrMsg
    | .ok (s', .ready true) =>
      if m.holder.isSome then .error holderNoneMsg
      else .ok (({ m with sem := s' }).takeGuard t p, .locked ({ m with sem := s' }).result)
  | .lockPoisoned t =>
    if m.holder.isSome then .error holderNoneMsg
    else .ok (m.takeGuard t p, .locked m.result)
  | .tryLock t clk =>
    match step fin m.sem (.tryAcquire t 1 clk) with
    | .error e => .error e
    | .ok o =>
      match o.out with
      | .tried (.ok ()) =>
        .ok (({ m with sem := o.s }).takeGuard t p, .tried ({ m with sem := o.s }).result)
      | _ => .ok ({ m with sem := o.s }, .tried .wouldBlock)
  | .unlock t clk =>
    match step fin m.sem (relOp p t 1 clk) with
    | .error e => .error e
    | .ok o => .ok (({ m with sem := o.s }).dropGuard p, .unlocked)
  | .write _ v => .ok ({ m with value := v }, .wrote)

def MEnabled (g : MG) : MOp → Prop
  | .lockStart _ _ => g.m.sem.closed = false
  | .lockPoll _ wid _ => ∃ w, g.m.sem.getW wid = some w ∧ w.n = 1
  | .lockPoisoned _ => g.m.sem.closed = true
  | .tryLock _ _ => True
  | .unlock t _ => t ∈ g.guards
  | .write t _ => t ∈ g.guards

/-- ghost update: a step that returns a guard to `t` pushes `t`, `unlock t` erases it -/
def mghost (guards : List Nat) : MOp → MOut → List Nat
  | .lockPoll t _ _, .locked _ => guards ++ [t]
  | .lockPoisoned t, .locked _ => guards ++ [t]
  | .tryLock t _, .tried r => if r = .wouldBlock then guards else guards ++ [t]
  | .unlock t _, _ => guards.erase t
  | _, _ => guards

/-- states reachable by the most general (disciplined) client from a fresh `Mutex` -/
inductive MReach : MG → Prop
  | init : MReach {}
  | step {g : MG} {m' : MutexState} {out : MOut} (fin : Nat → Bool) (p : Bool) (op : MOp) :
      MReach g → MEnabled g op → mstep fin p g.m op = .ok (m', out) →
      MReach { m := m', guards := mghost g.guards op out }

def rwDeadlockMsg (t : Nat) : String :=
  s!"deadlock! task TaskId({t}) tried to acquire a RwLock it already holds"
def readersInsertMsg : String := "assertion failed: readers.insert(me)"
def incompatibleMsg : String := "resumed a waiting thread while the lock was in an incompatible state"

/-- RwLock + ghost: owners of live read / write guards, and the tasks whose re-entrant `try_read`
took a permit that they do not keep (`fixedF3 = true`: until their `tryGiveBack`; `false`: for ever) -/
structure RG where
  m : RwLockState := {}
  rguards : List Nat := []
  wguards : List Nat := []
  owed : List Nat := []

inductive ROp where
  | lockStart (t : Nat) (write : Bool) (clk : Clock)
  | lockPoll (t wid : Nat) (write : Bool) (clk : Clock)
  | lockPoisoned (t : Nat) (write : Bool)
  | tryLock (t : Nat) (write : Bool) (clk : Clock)
  | tryGiveBack (t : Nat) (clk : Clock)
  | unlock (t : Nat) (write : Bool) (clk : Clock)
  | write (t v : Nat)

inductive ROut where
  | started (wid : Nat)
  | pending
  | locked (r : LockRes)
  /-- `try_read`/`try_write` returned `r`; `owes` = it took a permit that it does not keep
  (re-entrant `try_read`) -/
  | tried (r : LockRes) (owes : Bool)
  | gaveBack
  | unlocked
  | wrote
deriving DecidableEq

def ROp.task : ROp → Nat
  | .lockStart t _ _ => t
  | .lockPoll t _ _ _ => t
  | .lockPoisoned t _ => t
  | .tryLock t _ _ => t
  | .tryGiveBack t _ => t
  | .unlock t _ _ => t
  | .write t _ => t

def ROp.isWrite : ROp → Bool
  | .lockStart _ w _ => w
  | .lockPoll _ _ w _ => w
  | .lockPoisoned _ w => w
  | .tryLock _ w _ => w
  | .tryGiveBack _ _ => false
  | .unlock _ w _ => w
  | .write _ _ => true

/-- does the step hand a guard to its task -/
def ROut.guard : ROut → Bool
  | .locked _ => true
  | .tried r _ => r != .wouldBlock
  | _ => false

/-- the end of `RwLock::lock` once the permits are held -/
def takeOrPanic (m : RwLockState) (t : Nat) (write p : Bool) : Except String (RwLockState × ROut) :=
  match m.takeGuard t write p with
  | .ok m' => .ok (m', .locked m.result)
  | .already => .error readersInsertMsg
  | .incompatible => .error incompatibleMsg

def rstep (fin : Nat → Bool) (p : Bool) (m : RwLockState) : ROp → Except String (RwLockState × ROut)
  | .lockStart t write clk =>
    if m.holds t then .error (rwDeadlockMsg t)
    else .ok ({ m with sem := (m.sem.newAcquire t (RwLock.permits write) clk).2 },
              .started (m.sem.newAcquire t (RwLock.permits write) clk).1)
  | .lockPoll t wid write clk =>
    match pollDrop fin m.sem t wid clk with
    | .error e => .error e
    | .ok (s', .pending) => .ok ({ m with sem := s' }, .pending)
    | .ok (_, .ready false) => .error unwrapErrMsg
    | .ok (s', .ready true) => takeOrPanic { m with sem := s' } t write p
  | .lockPoisoned t write => takeOrPanic m t write p
  | .tryLock t write clk =>
    match step fin m.sem (.tryAcquire t (RwLock.permits write) clk) with
    | .error e => .error e
    | .ok o =>
      match o.out with
      | .tried (.ok ()) =>
        match ({ m with sem := o.s } : RwLockState).takeGuard t write p with
        | .ok m' => .ok (m', .tried ({ m with sem := o.s } : RwLockState).result false)
        | .already => .ok ({ m with sem := o.s }, .tried .wouldBlock true)
        | .incompatible =>
          .ok ({ m with sem := o.s }, .tried ({ m with sem := o.s } : RwLockState).result false)
      | _ => .ok ({ m with sem := o.s }, .tried .wouldBlock false)
  | .tryGiveBack t clk =>
    match step fin m.sem (relOp p t 1 clk) with
    | .error e => .error e
    | .ok o => .ok ({ m with sem := o.s }, .gaveBack)
  | .unlock t write clk =>
    match step fin m.sem (relOp p t (RwLock.permits write) clk) with
    | .error e => .error e
    | .ok o =>
      match ({ m with sem := o.s } : RwLockState).dropGuard t write p with
      | (m', none) => .ok (m', .unlocked)
      | (_, some msg) => .error msg
  | .write _ v => .ok ({ m with value := v }, .wrote)

def REnabled (fixedF3 : Bool) (g : RG) : ROp → Prop
  | .lockStart _ _ _ => g.m.sem.closed = false
  | .lockPoll _ wid write _ => ∃ w, g.m.sem.getW wid = some w ∧ w.n = RwLock.permits write
  | .lockPoisoned _ _ => g.m.sem.closed = true
  | .tryLock _ _ _ => True
  | .tryGiveBack t _ => fixedF3 = true ∧ t ∈ g.owed
  | .unlock t write _ => if write then t ∈ g.wguards else t ∈ g.rguards
  | .write t _ => t ∈ g.wguards

def pushGuard (g : RG) (t : Nat) (write : Bool) : RG :=
  if write then { g with wguards := g.wguards ++ [t] } else { g with rguards := g.rguards ++ [t] }

/-- successor ghost state -/
def rnext (g : RG) (m' : RwLockState) : ROp → ROut → RG
  | .lockPoll t _ write _, .locked _ => pushGuard { g with m := m' } t write
  | .lockPoisoned t write, .locked _ => pushGuard { g with m := m' } t write
  | .tryLock t write _, .tried r owes =>
    if owes then { g with m := m', owed := g.owed ++ [t] }
    else if r = .wouldBlock then { g with m := m' }
    else pushGuard { g with m := m' } t write
  | .tryGiveBack t _, _ => { g with m := m', owed := g.owed.erase t }
  | .unlock t write _, _ =>
    if write then { g with m := m', wguards := g.wguards.erase t }
    else { g with m := m', rguards := g.rguards.erase t }
  | _, _ => { g with m := m' }

/-- states reachable by the most general (disciplined) client from a fresh `RwLock`;
`fixedF3` = the repaired `try_lock` (F3) -/
inductive RReach (fixedF3 : Bool) : RG → Prop
  | init : RReach fixedF3 {}
  | step {g : RG} {m' : RwLockState} {out : ROut} (fin : Nat → Bool) (p : Bool) (op : ROp) :
      RReach fixedF3 g → REnabled fixedF3 g op → rstep fin p g.m op = .ok (m', out) →
      RReach fixedF3 (rnext g m' op out)

open Sem (PollOut)

theorem releasePure_frame (fin : Nat → Bool) (s : SemState) (n : Nat) (clk : Clock) :
    (s.releasePure fin n clk).1.closed = s.closed ∧ (s.releasePure fin n clk).1.fair = s.fair := by
  unfold SemState.releasePure
  by_cases hfair : (s.paRelease n clk).fair = true
  · simp only [hfair, if_true]
    exact ⟨(unblockFront_spec fin _ _).closed, (unblockFront_spec fin _ _).fair⟩
  · simp only [hfair, Bool.false_eq_true, if_false]
    exact ⟨rfl, (Bool.eq_false_iff.mpr hfair).symm⟩

theorem step_closed_mono (fin : Nat → Bool) {s : SemState} {op : SemOp} {o : StepOut}
    (h : step fin s op = .ok o) (hc : s.closed = true) : o.s.closed = true := by
  -- a step either leaves `closed` alone or needs an open semaphore
  cases step_ok_iff.mp h with
  | tryErr | newAcq | dropGone | dropUnqueued | releaseZero | poisonZero => exact hc
  | tryOk hacq => rw [(acquirePermits_ok hacq).2.1] at hc; cases hc
  | poll hw _ hpp =>
    cases pollPure_cases hw hpp with
    | granted _ _ ho | closed _ _ _ ho => subst ho; exact hc
    | acquiredFresh _ hc' | acquiredQueued _ hc' | enqueued _ hc' | stillQueued _ hc' | fairWait _ hc' =>
      rw [hc] at hc'; cases hc'
  | dropQueued _ _ hrm =>
    obtain ⟨_, _, _, hnc, _⟩ := removeWaiterPure_pre hrm
    rw [hc] at hnc; cases hnc
  | @release _ n clk => exact (releasePure_frame fin s n clk).1.trans hc
  | close => simp [SemState.closePure, hc]
  | poison => rfl

theorem pollPure_fair {fin : Nat → Bool} {s : SemState} {wid me cx : Nat} {clk : Clock} {w0 : Waiter}
    {po : PollOut} (hi : Inv s) (hw : s.getW wid = some w0) (hnc : w0.completed = false)
    (hpp : s.pollPure wid me cx clk fin = .ok po) : po.s.fair = s.fair := by
  cases pollPure_cases hw hpp with
  | granted _ _ ho | closed _ _ _ ho | enqueued _ _ _ _ _ ho | stillQueued _ _ _ _ _ _ ho
  | fairWait _ _ _ _ _ ho =>
    subst ho; rfl
  | acquiredFresh _ _ _ s' pc hacq ho =>
    subst ho
    obtain ⟨_, _, _, _, _, hfair, _⟩ := acquirePermits_inv hi hacq
    exact hfair
  | acquiredQueued hp hc hq hf hwk s' s3 pc effs w4 hacq hrm hw4 ho =>
    subst ho
    obtain ⟨i1, _, ht, _, _, hfair, _⟩ := acquirePermits_inv hi hacq
    have hw1 : s'.getW (polled w0).wid = some w0 := by
      rw [getW_eq, ht, polled_wid, (tget_some_mem hw).2]; exact hw
    have hq0 := hi.tq.queuedOk w0 (tget_some_mem hw).1 hq
    obtain ⟨i2, _⟩ := i1.setW_same (w1 := polled w0) hw1 rfl rfl
      (by intro _; exact ⟨hp, hnc, hwk, hq0.2.2.2⟩) (wpend_zero (Or.inl hp)) (wpend_zero (Or.inl hp))
    obtain ⟨_, _, _, rs⟩ := removeWaiterPure_spec fin i2 hrm
    exact rs.fair.trans hfair

theorem step_drop_completed (fin : Nat → Bool) {s : SemState} {t wid : Nat} {w : Waiter}
    (hw : s.getW wid = some w) (hc : w.completed = true) (hq : w.isQueued = false) :
    step fin s (.dropAcquire t wid) = .ok { s := s.dropW wid, out := .dropped 0 } := by
  simp only [step, hw, hq, hc]
  simp

/-- a `pollDrop` that does not panic is a `pollPure` of an uncompleted `Acquire`, followed when the
result is `Ready` by dropping the waiter, which the poll has left completed and not queued -/
theorem pollDrop_cases {fin : Nat → Bool} {s s' : SemState} {t wid : Nat} {clk : Clock} {r : PollRes}
    (hi : Inv s) (h : pollDrop fin s t wid clk = .ok (s', r)) :
    ∃ w0 po, s.getW wid = some w0 ∧ w0.completed = false ∧ s.pollPure wid t t clk fin = .ok po ∧
      po.res = r ∧
      ((r = .pending ∧ s' = po.s) ∨
       (∃ w, po.s.getW wid = some w ∧ w.completed = true ∧ w.isQueued = false ∧
          s' = po.s.dropW wid)) := by
  unfold pollDrop at h
  cases h1 : step fin s (.poll wid t t clk) with
  | error e => rw [h1] at h; cases h
  | ok o1 =>
    rw [h1] at h
    cases step_ok_iff.mp h1 with | @poll _ _ _ _ w0 po hw hnc hpp => ?_
    refine ⟨w0, po, hw, hnc, hpp, ?_⟩
    cases hres : po.res with
    | pending =>
      simp only [hres, Except.ok.injEq, Prod.mk.injEq] at h
      obtain ⟨rfl, rfl⟩ := h
      exact ⟨rfl, Or.inl ⟨rfl, rfl⟩⟩
    | ready b =>
      obtain ⟨w, hw1, hq, hcm, _⟩ := (pollPure_spec hi hw hnc hpp).facts.ready b hres
      simp only [hres, step_drop_completed fin hw1 hcm hq, Except.ok.injEq, Prod.mk.injEq] at h
      obtain ⟨rfl, rfl⟩ := h
      exact ⟨rfl, Or.inr ⟨w, hw1, hcm, hq, rfl⟩⟩

/-- `pollDrop` keeps the semaphore invariant, never re-opens the semaphore, takes exactly the
requested permits when (and only when) it returns `Ready(Ok)`, and leaves `fair` alone -/
theorem pollDrop_spec {fin : Nat → Bool} {s s' : SemState} {t wid : Nat} {clk : Clock} {r : PollRes}
    {w0 : Waiter} (hi : Inv s) (hw : s.getW wid = some w0)
    (h : pollDrop fin s t wid clk = .ok (s', r)) :
    Inv s' ∧ (s.closed = true → s'.closed = true) ∧
      s'.avail + pend s'.table + (if r = .ready true then w0.n else 0) = s.avail + pend s.table ∧
      s'.fair = s.fair := by
  obtain ⟨w0', po, hw', hnc, hpp, rfl, hcases⟩ := pollDrop_cases hi h
  obtain rfl : w0' = w0 := Option.some.inj (hw'.symm.trans hw)
  have sp := pollPure_spec hi hw hnc hpp
  have hm := step_closed_mono fin (step_ok_iff.mpr (.poll hw hnc hpp))
  have hf := pollPure_fair hi hw hnc hpp
  rcases hcases with ⟨_, rfl⟩ | ⟨w, hw1, hcm, hq, rfl⟩
  · exact ⟨sp.inv, hm, sp.cons, hf⟩
  · -- the dropped waiter is completed: it holds no pending permits
    obtain ⟨i2, p2⟩ := sp.inv.dropW hw1 hq
    have e : wpend w = 0 := wpend_zero (Or.inr hcm)
    have c := sp.cons
    refine ⟨i2, hm, ?_, hf⟩
    simp only [dropW_avail]
    omega

theorem pollDrop_closed_mono {fin : Nat → Bool} {s s' : SemState} {t wid : Nat} {clk : Clock} {r : PollRes}
    {w0 : Waiter} (hi : Inv s) (hw : s.getW wid = some w0)
    (h : pollDrop fin s t wid clk = .ok (s', r)) (hc : s.closed = true) : s'.closed = true :=
  (pollDrop_spec hi hw h).2.1 hc

theorem relOp_spec {fin : Nat → Bool} {s : SemState} {p : Bool} {t n : Nat} {clk : Clock} {o : StepOut}
    (hi : Inv s) (hn : 0 < n) (h : step fin s (relOp p t n clk) = .ok o) :
    Inv o.s ∧ (s.closed = true → o.s.closed = true) ∧
      o.s.avail + pend o.s.table = s.avail + pend s.table + n ∧ o.s.fair = s.fair := by
  obtain ⟨i1, c1⟩ := step_spec fin hi h
  have hn0 : n ≠ 0 := by omega
  refine ⟨i1, step_closed_mono fin h, ?_, ?_⟩
  · -- either release takes no permits from the client and gives `n` back
    cases p
    all_goals
      simp only [relOp, Bool.false_eq_true, if_false, if_true, acquiredBy, releasedBy, permitsOf, hn0] at c1
      omega
  · cases p
    all_goals
      simp only [relOp, Bool.false_eq_true, if_false, if_true, step, hn0, Except.ok.injEq] at h
      subst h
    · exact (releasePure_frame fin s n clk).2
    · show (s.releasePoison n).fair = s.fair
      rw [releasePoison_eq]
      exact (clear_spec (fun w => { w with isQueued := false })
        (fun w => ⟨rfl, rfl, rfl⟩) (s.paRelease n Clock.new).queue (s.paRelease n Clock.new) s.nextWid
        hi.tq).fair

theorem relOp_poison {fin : Nat → Bool} {s : SemState} {t n : Nat} {clk : Clock} {o : StepOut}
    (hi : Inv s) (hn : 0 < n) (h : step fin s (relOp true t n clk) = .ok o) :
    o.s.closed = true ∧ o.s.queue = [] := by
  cases step_ok_iff.mp (show step fin s (.poisonRelease t n) = .ok o from h) with
  | poisonZero => cases hn
  | poison => exact (releasePoison_spec n hi).2.2

theorem eq_false_of_imp_true {a b : Bool} (hm : a = true → b = true) (hb : b = false) : a = false := by
  cases a with
  | false => rfl
  | true => rw [hm rfl] at hb; cases hb

/-- The share of both lock invariants that lives in the inner semaphore: it satisfies `Inv`, it is
unfair, and while it is open each of its `total` permits is available, granted to a waiter that has
yet to return from `lock`, or one of the `held` ones (those of the live guards; for the RwLock also
the leaked ones). A Mutex is the case `total = 1`, a RwLock the case `total = MAX_READS`. -/
structure SemBal (s : SemState) (total held : Nat) : Prop where
  sem : Inv s
  fair : s.fair = false
  bal : s.closed = false → s.avail + pend s.table + held = total

namespace SemBal
variable {s s' : SemState} {total held : Nat}

theorem held_eq {held' : Nat} (h : SemBal s total held) (e : held = held') : SemBal s total held' :=
  e ▸ h

theorem of_closed (hi : Inv s) (hf : s.fair = false) (hc : s.closed = true) : SemBal s total held :=
  ⟨hi, hf, fun h => by rw [hc] at h; cases h⟩

theorem newAcquire (h : SemBal s total held) (t n : Nat) (c : Clock) :
    SemBal (s.newAcquire t n c).2 total held := by
  obtain ⟨i1, hp, ha⟩ := h.sem.newAcquire t n c
  exact ⟨i1, h.fair, fun hc => by rw [hp, ha]; exact h.bal hc⟩

/-- a `Ready(Ok)` poll moves the permits of the polled `Acquire` to the held ones -/
theorem pollDrop {fin : Nat → Bool} {t wid : Nat} {clk : Clock} {r : PollRes} {w0 : Waiter}
    (h : SemBal s total held) (hw : s.getW wid = some w0)
    (hpd : pollDrop fin s t wid clk = .ok (s', r)) :
    SemBal s' total (held + if r = .ready true then w0.n else 0) := by
  obtain ⟨i1, hm, c1, hf1⟩ := pollDrop_spec h.sem hw hpd
  refine ⟨i1, hf1.trans h.fair, fun hc => ?_⟩
  have := h.bal (eq_false_of_imp_true hm hc)
  omega

theorem acquire {n : Nat} {clk pc : Clock} (h : SemBal s total held)
    (hacq : s.acquirePermits n clk = .ok (.ok (s', pc))) : SemBal s' total (held + n) := by
  obtain ⟨i1, hav, ht, _, _, hf1, _⟩ := acquirePermits_inv h.sem hacq
  have := h.bal (acquirePermits_ok hacq).2.1
  exact ⟨i1, hf1.trans h.fair, fun _ => by rw [ht]; omega⟩

theorem release {fin : Nat → Bool} {p : Bool} {t n : Nat} {clk : Clock} {o : StepOut}
    (h : SemBal s total (held + n)) (hn : 0 < n) (h1 : step fin s (relOp p t n clk) = .ok o) :
    SemBal o.s total held := by
  obtain ⟨i1, hm, c1, hf1⟩ := relOp_spec h.sem hn h1
  refine ⟨i1, hf1.trans h.fair, fun hc => ?_⟩
  have := h.bal (eq_false_of_imp_true hm hc)
  omega

end SemBal

theorem acquirePermits_unfair_ok_iff {s : SemState} {n : Nat} {c : Clock} (hf : s.fair = false)
    (hn : 0 < n) :
    (∃ s' pc, s.acquirePermits n c = .ok (.ok (s', pc))) ↔ (s.closed = false ∧ n ≤ s.avail) := by
  rw [acquirePermits_ok_iff]
  exact ⟨fun ⟨_, hc, _, hle⟩ => ⟨hc, hle⟩, fun ⟨hc, hle⟩ => ⟨hn, hc, Or.inr hf, hle⟩⟩

/- The semaphore moves of a lock step keep any property `P` of the amounts the waiters ask for. -/

theorem pollDrop_allN (P : Nat → Prop) {fin : Nat → Bool} {s s' : SemState} {t wid : Nat}
    {clk : Clock} {r : PollRes} (hi : Inv s) (h : AllN P s.table)
    (hp : pollDrop fin s t wid clk = .ok (s', r)) : AllN P s'.table := by
  -- a poll, possibly followed by the `Drop` of the completed Acquire: two semaphore steps
  obtain ⟨w0, po, hw, hnc, hpp, _, hcases⟩ := pollDrop_cases hi hp
  have h1 := step_ok_iff.mpr (StepCase.poll (fin := fin) hw hnc hpp)
  have ha1 := step_allN P fin hi h (fun _ _ _ e => by cases e) h1
  rcases hcases with ⟨_, rfl⟩ | ⟨w, hw1, hcm, hq, rfl⟩
  · exact ha1
  · exact step_allN P fin (step_spec fin hi h1).1 ha1 (fun _ _ _ e => by cases e)
      (step_drop_completed fin (t := t) hw1 hcm hq)

theorem newAcquire_allN (P : Nat → Prop) {s : SemState} (h : AllN P s.table) (t n : Nat) (c : Clock)
    (hn : P n) : AllN P (s.newAcquire t n c).2.table := by
  intro w hw
  have hw' : w ∈ s.table ++ [{ wid := s.nextWid, taskId := t, n := n, clock := c }] := hw
  rcases List.mem_append.mp hw' with h1 | h1
  · exact h w h1
  · simp only [List.mem_singleton] at h1
    subst h1; exact hn

theorem relOp_allN (P : Nat → Prop) {fin : Nat → Bool} {s : SemState} {p : Bool} {t n : Nat}
    {clk : Clock} {o : StepOut} (hi : Inv s) (h : AllN P s.table)
    (hs : step fin s (relOp p t n clk) = .ok o) : AllN P o.s.table := by
  refine step_allN P fin hi h (fun _ _ _ e => ?_) hs
  unfold relOp at e
  cases p <;> simp at e

end LocksLts
end ShuttleModel

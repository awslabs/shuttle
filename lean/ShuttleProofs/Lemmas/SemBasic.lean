import ShuttleModel.Prim.Sem
/-
  The waiter table (`getW` / `setW` / `dropW` as list operations `tget` / `tset` / `tdrop`), the
  batch list of `PermitsAvailable`, and the ghost quantity `pend` (permits granted to waiters whose
  `Acquire` has not completed yet).

  Then the well-formedness invariant `TQ` of table and queue (source invariants (2) and (3) of
  batch_semaphore.rs plus the model's bookkeeping: distinct waiter ids, queue ⊆ table). Every
  update of one table entry goes through `TQ.update`; popping, erasing and pushing are its cases.
-/
namespace ShuttleModel
namespace SemLts

def tget (T : List Waiter) (wid : Nat) : Option Waiter := T.find? (·.wid == wid)
def tset (T : List Waiter) (w : Waiter) : List Waiter := T.map (fun x => if x.wid == w.wid then w else x)
def tdrop (T : List Waiter) (wid : Nat) : List Waiter := T.filter (·.wid != wid)

theorem getW_eq (s : SemState) (wid : Nat) : s.getW wid = tget s.table wid := rfl
theorem setW_eq (s : SemState) (w : Waiter) : s.setW w = { s with table := tset s.table w } := rfl
theorem dropW_eq (s : SemState) (wid : Nat) : s.dropW wid = { s with table := tdrop s.table wid } := rfl

@[simp] theorem setW_table (s : SemState) (w : Waiter) : (s.setW w).table = tset s.table w := rfl
@[simp] theorem setW_queue (s : SemState) (w : Waiter) : (s.setW w).queue = s.queue := rfl
@[simp] theorem setW_avail (s : SemState) (w : Waiter) : (s.setW w).avail = s.avail := rfl
@[simp] theorem setW_fair (s : SemState) (w : Waiter) : (s.setW w).fair = s.fair := rfl
@[simp] theorem setW_closed (s : SemState) (w : Waiter) : (s.setW w).closed = s.closed := rfl
@[simp] theorem setW_batches (s : SemState) (w : Waiter) : (s.setW w).batches = s.batches := rfl
@[simp] theorem setW_nextWid (s : SemState) (w : Waiter) : (s.setW w).nextWid = s.nextWid := rfl
@[simp] theorem setW_lastAcquire (s : SemState) (w : Waiter) : (s.setW w).lastAcquire = s.lastAcquire := rfl
@[simp] theorem dropW_table (s : SemState) (wid : Nat) : (s.dropW wid).table = tdrop s.table wid := rfl
@[simp] theorem dropW_queue (s : SemState) (wid : Nat) : (s.dropW wid).queue = s.queue := rfl
@[simp] theorem dropW_avail (s : SemState) (wid : Nat) : (s.dropW wid).avail = s.avail := rfl
@[simp] theorem dropW_fair (s : SemState) (wid : Nat) : (s.dropW wid).fair = s.fair := rfl
@[simp] theorem dropW_closed (s : SemState) (wid : Nat) : (s.dropW wid).closed = s.closed := rfl
@[simp] theorem dropW_batches (s : SemState) (wid : Nat) : (s.dropW wid).batches = s.batches := rfl
@[simp] theorem dropW_nextWid (s : SemState) (wid : Nat) : (s.dropW wid).nextWid = s.nextWid := rfl

@[simp] theorem tget_nil (wid : Nat) : tget [] wid = none := rfl
@[simp] theorem tget_cons (x : Waiter) (T : List Waiter) (wid : Nat) :
    tget (x :: T) wid = if x.wid = wid then some x else tget T wid := by
  by_cases h : x.wid = wid
  · simp [tget, h]
  · have h' : (x.wid == wid) = false := by simpa using h
    simp [tget, h, h']
@[simp] theorem tset_nil (w : Waiter) : tset [] w = [] := rfl
@[simp] theorem tset_cons (x : Waiter) (T : List Waiter) (w : Waiter) :
    tset (x :: T) w = (if x.wid = w.wid then w else x) :: tset T w := by
  simp only [tset, List.map_cons]; by_cases h : x.wid = w.wid <;> simp [h]
@[simp] theorem tdrop_nil (w : Nat) : tdrop [] w = [] := rfl
@[simp] theorem tdrop_cons (x : Waiter) (T : List Waiter) (wid : Nat) :
    tdrop (x :: T) wid = if x.wid = wid then tdrop T wid else x :: tdrop T wid := by
  simp only [tdrop, List.filter_cons]; by_cases h : x.wid = wid <;> simp [h]

def WidsNodup (T : List Waiter) : Prop := (T.map (·.wid)).Nodup

@[simp] theorem widsNodup_nil : WidsNodup [] := by simp [WidsNodup]
@[simp] theorem widsNodup_cons (x : Waiter) (T : List Waiter) :
    WidsNodup (x :: T) ↔ (∀ y ∈ T, y.wid ≠ x.wid) ∧ WidsNodup T := by
  simp only [WidsNodup, List.map_cons, List.nodup_cons, List.mem_map, not_exists, not_and]

theorem tget_some_mem {T : List Waiter} {wid : Nat} {w : Waiter} (h : tget T wid = some w) :
    w ∈ T ∧ w.wid = wid :=
  ⟨List.mem_of_find?_eq_some h, by simpa using List.find?_some h⟩

theorem tget_of_mem {T : List Waiter} (hnd : WidsNodup T) {w : Waiter} (hw : w ∈ T) :
    tget T w.wid = some w := by
  induction T with
  | nil => cases hw
  | cons x T ih =>
    obtain ⟨hx, hT⟩ := (widsNodup_cons x T).mp hnd
    rw [tget_cons]
    rcases List.mem_cons.mp hw with rfl | hw'
    · rw [if_pos rfl]
    · rw [if_neg (fun e => hx w hw' e.symm), ih hT hw']

theorem tget_iff {T : List Waiter} (hnd : WidsNodup T) {wid : Nat} {w : Waiter} :
    tget T wid = some w ↔ w ∈ T ∧ w.wid = wid := by
  constructor
  · exact tget_some_mem
  · rintro ⟨h, rfl⟩; exact tget_of_mem hnd h

theorem tget_none_iff {T : List Waiter} {wid : Nat} : tget T wid = none ↔ ∀ w ∈ T, w.wid ≠ wid := by
  simp [tget]

theorem tset_map_wid (T : List Waiter) (w : Waiter) : (tset T w).map (·.wid) = T.map (·.wid) := by
  simp only [tset, List.map_map]
  refine List.map_congr_left (fun x _ => ?_)
  simp only [Function.comp]
  split
  · next e => exact (beq_iff_eq.mp e).symm
  · rfl

theorem tset_nodup {T : List Waiter} (w : Waiter) (h : WidsNodup T) : WidsNodup (tset T w) := by
  unfold WidsNodup; rw [tset_map_wid]; exact h

theorem mem_tset {T : List Waiter} {w x : Waiter} :
    x ∈ tset T w ↔ (x ∈ T ∧ x.wid ≠ w.wid) ∨ (x = w ∧ ∃ y ∈ T, y.wid = w.wid) := by
  simp only [tset, List.mem_map]
  constructor
  · rintro ⟨y, hy, rfl⟩
    by_cases e : y.wid = w.wid
    · exact .inr ⟨by simp [e], y, hy, e⟩
    · exact .inl ⟨by simpa [e] using hy, by simp [e]⟩
  · rintro (⟨hx, hne⟩ | ⟨rfl, y, hy, e⟩)
    · exact ⟨x, hx, by simp [hne]⟩
    · exact ⟨y, hy, by simp [e]⟩

theorem tget_tset (T : List Waiter) (w : Waiter) (wid : Nat) :
    tget (tset T w) wid =
      if wid = w.wid then (if (tget T w.wid).isSome then some w else none) else tget T wid := by
  induction T with
  | nil => simp
  | cons x T ih => grind [tget_cons, tset_cons]

theorem tget_tset_self {T : List Waiter} {w old : Waiter} (h : tget T w.wid = some old) :
    tget (tset T w) w.wid = some w := by
  rw [tget_tset]; simp [h]

theorem tget_tset_ne {T : List Waiter} {w : Waiter} {wid : Nat} (h : wid ≠ w.wid) :
    tget (tset T w) wid = tget T wid := by
  rw [tget_tset]; simp [h]

theorem getW_setW_of {s : SemState} {w0 w1 : Waiter} {wid : Nat} (hw : s.getW wid = some w0)
    (hwid : w1.wid = wid) : (s.setW w1).getW wid = some w1 := by
  subst hwid; exact tget_tset_self hw

theorem getW_setW_ne {s : SemState} {w1 : Waiter} {wid : Nat} (h : wid ≠ w1.wid) :
    (s.setW w1).getW wid = s.getW wid := tget_tset_ne h

theorem mem_tdrop {T : List Waiter} {wid : Nat} {x : Waiter} : x ∈ tdrop T wid ↔ x ∈ T ∧ x.wid ≠ wid := by
  simp [tdrop]

theorem tdrop_nodup {T : List Waiter} (wid : Nat) (h : WidsNodup T) : WidsNodup (tdrop T wid) := by
  unfold WidsNodup tdrop at *
  exact (List.filter_sublist.map _).nodup h

theorem tget_tdrop (T : List Waiter) (wid wid' : Nat) :
    tget (tdrop T wid) wid' = if wid' = wid then none else tget T wid' := by
  induction T with
  | nil => simp
  | cons x T ih => grind [tget_cons, tdrop_cons]

theorem getW_dropW_self (s : SemState) (wid : Nat) : (s.dropW wid).getW wid = none :=
  (tget_tdrop ..).trans (if_pos rfl)

theorem getW_dropW_ne (s : SemState) {wid wid' : Nat} (h : wid' ≠ wid) :
    (s.dropW wid).getW wid' = s.getW wid' :=
  (tget_tdrop ..).trans (if_neg h)

theorem tset_of_not_mem {T : List Waiter} {w : Waiter} (h : ∀ x ∈ T, x.wid ≠ w.wid) :
    tset T w = T := by
  unfold tset
  conv => rhs; rw [← List.map_id T]
  exact List.map_congr_left (fun x hx => by simp [h x hx])

theorem tdrop_of_not_mem {T : List Waiter} {wid : Nat} (h : ∀ x ∈ T, x.wid ≠ wid) :
    tdrop T wid = T :=
  List.filter_eq_self.mpr (fun x hx => by simpa using h x hx)

theorem tdrop_of_tget_none {T : List Waiter} {wid : Nat} (h : tget T wid = none) : tdrop T wid = T :=
  tdrop_of_not_mem (tget_none_iff.mp h)

theorem tget_append_of_some {T B : List Waiter} {wid : Nat} {x : Waiter} (h : tget T wid = some x) :
    tget (T ++ B) wid = some x := by
  unfold tget at h ⊢
  rw [List.find?_append, h]; rfl

theorem tget_append_new {T : List Waiter} {w : Waiter} (h : ∀ x ∈ T, x.wid ≠ w.wid) :
    tget (T ++ [w]) w.wid = some w := by
  have h0 := tget_none_iff.mpr h
  unfold tget at h0 ⊢
  rw [List.find?_append, h0]; simp

/-- permits a waiter holds on behalf of an `Acquire` that has not completed yet -/
def wpend (w : Waiter) : Nat := if w.hasPermits && !w.completed then w.n else 0

/-- `Σ` over the table of the permits granted to not yet completed acquisitions -/
def pend : List Waiter → Nat
  | [] => 0
  | w :: T => wpend w + pend T

@[simp] theorem pend_nil : pend [] = 0 := rfl
@[simp] theorem pend_cons (w : Waiter) (T : List Waiter) : pend (w :: T) = wpend w + pend T := rfl

theorem pend_append (A B : List Waiter) : pend (A ++ B) = pend A + pend B := by
  induction A with
  | nil => simp
  | cons x A ih => simp [ih]; omega

theorem pend_tset {T : List Waiter} (hnd : WidsNodup T) {w old : Waiter}
    (h : tget T w.wid = some old) : pend (tset T w) + wpend old = pend T + wpend w := by
  induction T with
  | nil => simp at h
  | cons x T ih =>
    obtain ⟨hx, hT⟩ := (widsNodup_cons x T).mp hnd
    rw [tget_cons] at h
    rw [tset_cons]
    by_cases e : x.wid = w.wid
    · rw [if_pos e] at h ⊢
      cases h
      rw [tset_of_not_mem (fun y hy => e ▸ hx y hy)]
      simp only [pend_cons]; omega
    · rw [if_neg e] at h ⊢
      have := ih hT h
      simp only [pend_cons]; omega

theorem pend_tdrop {T : List Waiter} (hnd : WidsNodup T) {wid : Nat} {old : Waiter}
    (h : tget T wid = some old) : pend (tdrop T wid) + wpend old = pend T := by
  induction T with
  | nil => simp at h
  | cons x T ih =>
    obtain ⟨hx, hT⟩ := (widsNodup_cons x T).mp hnd
    rw [tget_cons] at h
    rw [tdrop_cons]
    by_cases e : x.wid = wid
    · rw [if_pos e] at h ⊢
      cases h
      rw [tdrop_of_not_mem (fun y hy => e ▸ hx y hy)]
      simp only [pend_cons]; omega
    · rw [if_neg e] at h ⊢
      have := ih hT h
      simp only [pend_cons]; omega

/-- the permits in a batch list of `PermitsAvailable` -/
def bsum : List (Nat × Clock) → Nat
  | [] => 0
  | (b, _) :: rest => b + bsum rest

theorem bsum_append (A B : List (Nat × Clock)) : bsum (A ++ B) = bsum A + bsum B := by
  induction A with
  | nil => simp [bsum]
  | cons x A ih => obtain ⟨b, c⟩ := x; simp [bsum, ih]; omega

theorem takeBatches_sum (n : Nat) (bs : List (Nat × Clock)) (acc : Clock) (h : n ≤ bsum bs) :
    bsum (SemState.takeBatches n bs acc).1 + n = bsum bs := by
  fun_induction SemState.takeBatches n bs acc
  case case1 | case2 | case3 => simp only [bsum] at h ⊢; omega
  case case4 ih =>
    simp only [bsum] at h ⊢
    have := ih (by omega)
    omega

structure TQ (q : List Nat) (T : List Waiter) (nx : Nat) : Prop where
  nodupT : WidsNodup T
  ltNext : ∀ w ∈ T, w.wid < nx
  nodupQ : q.Nodup
  /-- source invariant (2): `W` is in `waiters` iff `W.is_queued` -/
  queued_iff : ∀ w ∈ T, (w.isQueued = true ↔ w.wid ∈ q)
  sub : ∀ wid ∈ q, ∃ w ∈ T, w.wid = wid
  /-- source invariant (3) `W.is_queued ⟹ !W.has_permits`, and what `Acquire::poll` asserts /
  `acquire_permits` guarantees about a queued waiter -/
  queuedOk : ∀ w ∈ T, w.isQueued = true →
    w.hasPermits = false ∧ w.completed = false ∧ w.waker.isSome = true ∧ 0 < w.n

/-- what `TQ.queuedOk` says of a queued waiter -/
abbrev QueuedOk (w : Waiter) : Prop :=
  w.hasPermits = false ∧ w.completed = false ∧ w.waker.isSome = true ∧ 0 < w.n

theorem TQ.tget_of_mem_queue {q T nx} (h : TQ q T nx) {wid : Nat} (hq : wid ∈ q) :
    ∃ w, tget T wid = some w ∧ w.isQueued = true := by
  obtain ⟨w, hw, rfl⟩ := h.sub wid hq
  exact ⟨w, tget_of_mem h.nodupT hw, (h.queued_iff w hw).mpr hq⟩

theorem TQ.queued_of_tget {q T nx} (h : TQ q T nx) {wid : Nat} {w : Waiter}
    (hw : tget T wid = some w) : w.isQueued = true ↔ wid ∈ q := by
  obtain ⟨hm, rfl⟩ := tget_some_mem hw
  exact h.queued_iff w hm

theorem TQ.not_mem_of_tget {q T nx} (h : TQ q T nx) {wid : Nat} {w : Waiter}
    (hw : tget T wid = some w) (hq : w.isQueued = false) : wid ∉ q :=
  fun hin => by simp [(h.queued_of_tget hw).mpr hin] at hq

/-- overwrite the entry of `w'.wid`; the new queue `q'` holds `w'.wid` exactly when `w'` is marked
queued and agrees with `q` on every other id -/
theorem TQ.update {q q' T nx} (h : TQ q T nx) {w w' : Waiter} (hw : tget T w'.wid = some w)
    (hnd : q'.Nodup) (hq : ∀ v, v ∈ q' ↔ if v = w'.wid then w'.isQueued = true else v ∈ q)
    (hok : w'.isQueued = true → QueuedOk w') :
    TQ q' (tset T w') nx := by
  obtain ⟨hm, hwid⟩ := tget_some_mem hw
  refine ⟨tset_nodup _ h.nodupT, ?_, hnd, ?_, ?_, ?_⟩
  · intro x hx
    rcases mem_tset.mp hx with ⟨hx, _⟩ | ⟨rfl, _⟩
    · exact h.ltNext x hx
    · rw [← hwid]; exact h.ltNext w hm
  · intro x hx
    rcases mem_tset.mp hx with ⟨hx, hne⟩ | ⟨rfl, _⟩
    · rw [hq, if_neg hne]; exact h.queued_iff x hx
    · rw [hq, if_pos rfl]
  · intro v hv
    rw [hq] at hv
    by_cases e : v = w'.wid
    · exact ⟨w', mem_tset.mpr (Or.inr ⟨rfl, w, hm, hwid⟩), e.symm⟩
    · rw [if_neg e] at hv
      obtain ⟨y, hy, rfl⟩ := h.sub v hv
      exact ⟨y, mem_tset.mpr (Or.inl ⟨hy, e⟩), rfl⟩
  · intro x hx hxq
    rcases mem_tset.mp hx with ⟨hx, _⟩ | ⟨rfl, _⟩
    · exact h.queuedOk x hx hxq
    · exact hok hxq

theorem TQ.tset_same {q T nx} (h : TQ q T nx) {w w' : Waiter} (hw : tget T w'.wid = some w)
    (hq : w'.isQueued = w.isQueued)
    (hok : w'.isQueued = true → QueuedOk w') :
    TQ q (tset T w') nx := by
  refine h.update hw h.nodupQ (fun v => ?_) hok
  split
  · next e => rw [e, hq]; exact (h.queued_of_tget hw).symm
  · rfl

theorem TQ.erase {q T nx} (h : TQ q T nx) {w w' : Waiter} (hw : tget T w'.wid = some w)
    (hq : w'.isQueued = false) : TQ (q.erase w'.wid) (tset T w') nx := by
  refine h.update hw (h.nodupQ.erase _) (fun v => ?_) (by simp [hq])
  rw [h.nodupQ.mem_erase_iff]
  split
  · next e => simp [e, hq]
  · next e => simp [e]

theorem TQ.pop {wid rest T nx} (h : TQ (wid :: rest) T nx) {w w' : Waiter}
    (hw : tget T wid = some w) (hwid : w'.wid = wid) (hq : w'.isQueued = false) :
    TQ rest (tset T w') nx := by
  have := h.erase (w' := w') (by rw [hwid]; exact hw) hq
  simpa [hwid] using this

theorem TQ.push {q T nx} (h : TQ q T nx) {w w' : Waiter} (hw : tget T w'.wid = some w)
    (hnq : w.isQueued = false) (hq : w'.isQueued = true)
    (hok : QueuedOk w') :
    TQ (q ++ [w'.wid]) (tset T w') nx := by
  have hnot : w'.wid ∉ q := h.not_mem_of_tget hw hnq
  refine h.update hw ?_ (fun v => ?_) (fun _ => hok)
  · rw [List.nodup_append]
    refine ⟨h.nodupQ, by simp, ?_⟩
    intro a ha b hb; simp at hb; subst hb; intro e; exact hnot (e ▸ ha)
  · split
    · next e => simp [e, hq]
    · next e => simp [e]

/-- forget a waiter that is not queued (`Drop for Acquire`) -/
theorem TQ.drop {q T nx} (h : TQ q T nx) {wid : Nat} (hnq : wid ∉ q) : TQ q (tdrop T wid) nx := by
  refine ⟨tdrop_nodup _ h.nodupT, ?_, h.nodupQ, ?_, ?_, ?_⟩
  · intro x hx; exact h.ltNext x (mem_tdrop.mp hx).1
  · intro x hx; exact h.queued_iff x (mem_tdrop.mp hx).1
  · intro v hv
    obtain ⟨y, hy, rfl⟩ := h.sub v hv
    exact ⟨y, mem_tdrop.mpr ⟨hy, fun e => hnq (e ▸ hv)⟩, rfl⟩
  · intro x hx; exact h.queuedOk x (mem_tdrop.mp hx).1

/-- `Acquire::new` -/
theorem TQ.new {q T nx} (h : TQ q T nx) {w : Waiter} (hwid : w.wid = nx) (hq : w.isQueued = false) :
    TQ q (T ++ [w]) (nx + 1) := by
  have hnq : w.wid ∉ q := fun hin => by
    obtain ⟨y, hy, e⟩ := h.sub _ hin
    have := h.ltNext y hy; omega
  refine ⟨?_, ?_, h.nodupQ, ?_, fun v hv => ?_, ?_⟩
  · unfold WidsNodup
    rw [List.map_append, List.nodup_append]
    refine ⟨h.nodupT, by simp, fun a ha b hb => ?_⟩
    obtain ⟨y, hy, rfl⟩ := List.mem_map.mp ha
    have := h.ltNext y hy
    simp at hb; omega
  · exact List.forall_mem_append.mpr ⟨fun x hx => Nat.lt_succ_of_lt (h.ltNext x hx),
      List.forall_mem_singleton.mpr (by omega)⟩
  · exact List.forall_mem_append.mpr ⟨h.queued_iff, List.forall_mem_singleton.mpr (by simp [hq, hnq])⟩
  · obtain ⟨y, hy, rfl⟩ := h.sub v hv
    exact ⟨y, List.mem_append_left _ hy, rfl⟩
  · exact List.forall_mem_append.mpr ⟨h.queuedOk, List.forall_mem_singleton.mpr (by simp [hq])⟩

theorem TQ.init (nx : Nat) : TQ [] [] nx :=
  ⟨by simp, by simp, by simp, by simp, by simp, by simp⟩

end SemLts
end ShuttleModel

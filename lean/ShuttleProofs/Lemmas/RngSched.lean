/-
  Helper definitions and lemmas for C10 `iteration_reproducible`:
  a deterministic "program" driven by the `RandomScheduler` model, and the fact that an execution
  depends only on the two generators that `new_execution` re-seeds.
-/
import ShuttleModel.Rng

namespace ShuttleProofs.Rng
open ShuttleModel.Rng

/-- What the scheduler answered so far in the current execution. -/
inductive Event
  | chose (id : Nat)    -- answer of `next_task`
  | drew (v : Nat)      -- answer of `next_u64`
  deriving DecidableEq, Repr

/-- What the program under test asks next. -/
inductive Request
  | offer (ids : List Nat)   -- a scheduling point with these runnable task ids
  | draw                     -- a `shuttle::rand` draw
  | stop                     -- the execution is over
  deriving Repr

/-- An arbitrary deterministic program: the next request is a function of the answers received
    so far in this execution (the abstract offered-list oracle). -/
abbrev Program := List Event → Request

/-- One execution (after `new_execution`): serve at most `k` requests. Returns the history of
    answers and the final scheduler state. A `next_task` panic (empty offer) ends the execution. -/
def runExec (prog : Program) : Nat → RandomScheduler → List Event → List Event × RandomScheduler
  | 0, s, h => (h, s)
  | k + 1, s, h =>
    match prog h with
    | .stop => (h, s)
    | .draw => runExec prog k (s.nextU64).2 (h ++ [.drew (s.nextU64).1])
    | .offer ids =>
      match s.nextTask ids with
      | (some id, s') => runExec prog k s' (h ++ [.chose id])
      | (none, _) => (h, s)

/-- The whole test: up to `n` rounds of `new_execution` followed by one execution; returns, per
    execution, the schedule seed handed out by `new_execution` and the history of answers. -/
def runAll (prog : Program) (k : Nat) : Nat → RandomScheduler → List (Nat × List Event)
  | 0, _ => []
  | n + 1, s =>
    match s.newExecution with
    | none => []
    | some (seed, s') => (seed, (runExec prog k s' []).1) :: runAll prog k n (runExec prog k s' []).2

-- The PCG arithmetic is never unfolded in this file (unfolding it makes definitional-equality checks explode).
attribute [local irreducible] seedFromU64 ShuttleModel.Rng.nextU64 ShuttleModel.Rng.choose

/-- The part of the scheduler state an execution can observe. -/
def Sim (s t : RandomScheduler) : Prop := s.rng = t.rng ∧ s.dataSource = t.dataSource

theorem Sim.refl (s : RandomScheduler) : Sim s s := ⟨rfl, rfl⟩

theorem nextU64_sim {s t : RandomScheduler} (h : Sim s t) :
    (s.nextU64).1 = (t.nextU64).1 ∧ Sim (s.nextU64).2 (t.nextU64).2 := by
  obtain ⟨h1, h2⟩ := h
  unfold RandomScheduler.nextU64 Sim
  rw [h2]
  generalize t.dataSource.nextU64 = X
  cases X with
  | mk v ds => exact ⟨rfl, h1, rfl⟩

/-- `next_task` reads the choice rng and nothing else. -/
theorem nextTask_of_rng_eq (s t : RandomScheduler) (ids : List Nat) (h : s.rng = t.rng) :
    (s.nextTask ids).1 = (t.nextTask ids).1 ∧ (s.nextTask ids).2.rng = (t.nextTask ids).2.rng := by
  unfold RandomScheduler.nextTask
  rw [h]
  generalize choose t.rng ids = X
  match X with
  | some (some id, g) => exact ⟨rfl, rfl⟩
  | some (none, g) => exact ⟨rfl, h⟩
  | none => exact ⟨rfl, h⟩

theorem nextTask_dataSource (s : RandomScheduler) (ids : List Nat) :
    (s.nextTask ids).2.dataSource = s.dataSource := by
  unfold RandomScheduler.nextTask
  split <;> rfl

theorem nextTask_sim {s t : RandomScheduler} (h : Sim s t) (ids : List Nat) :
    (s.nextTask ids).1 = (t.nextTask ids).1 ∧ Sim (s.nextTask ids).2 (t.nextTask ids).2 :=
  have hr := nextTask_of_rng_eq s t ids h.1
  ⟨hr.1, hr.2, by rw [nextTask_dataSource, nextTask_dataSource]; exact h.2⟩

/-- An execution is a function of the choice rng and the data source only. -/
theorem runExec_sim (prog : Program) (k : Nat) :
    ∀ (s t : RandomScheduler) (h : List Event), Sim s t →
      (runExec prog k s h).1 = (runExec prog k t h).1 ∧
      Sim (runExec prog k s h).2 (runExec prog k t h).2 := by
  induction k with
  | zero => intro s t h hs; exact ⟨rfl, hs⟩
  | succ k ih =>
    intro s t h hs
    unfold runExec
    cases hp : prog h with
    | stop => exact ⟨rfl, hs⟩
    | draw =>
      obtain ⟨e1, e2⟩ := nextU64_sim hs
      simp only [e1]
      exact ih _ _ _ e2
    | offer ids =>
      obtain ⟨e1, e2⟩ := nextTask_sim hs ids
      simp only
      cases hs1 : s.nextTask ids with
      | mk o1 s1 =>
        cases ht1 : t.nextTask ids with
        | mk o2 t1 =>
          rw [hs1, ht1] at e1 e2
          simp only at e1 e2
          subst e1
          cases o1 with
          | none => exact ⟨rfl, hs⟩
          | some id => exact ih _ _ _ e2

theorem newExecution_spec {s s' : RandomScheduler} {seed : Nat}
    (h : s.newExecution = some (seed, s')) :
    s'.rng = seedFromU64 seed ∧ s'.dataSource = { rng := seedFromU64 seed, nextSeed := none } := by
  unfold RandomScheduler.newExecution at h
  split at h
  · cases h
  · simp only [RandomDataSource.reinitialize, Option.some.injEq, Prod.mk.injEq] at h
    obtain ⟨h1, h2⟩ := h
    subst h2
    subst h1
    exact ⟨rfl, rfl⟩

theorem newFromSeed_newExecution (seed : Nat) :
    ∃ t, (RandomScheduler.newFromSeed seed 1).newExecution = some (seed, t) := by
  simp [RandomScheduler.newFromSeed, RandomScheduler.newExecution, RandomDataSource.initialize,
    RandomDataSource.reinitialize]

theorem newExecution_replay (prog : Program) (k : Nat) {s s' : RandomScheduler} {seed : Nat}
    (h : s.newExecution = some (seed, s')) :
    runAll prog k 1 (RandomScheduler.newFromSeed seed 1) = [(seed, (runExec prog k s' []).1)] := by
  obtain ⟨t, ht⟩ := newFromSeed_newExecution seed
  obtain ⟨a1, a2⟩ := newExecution_spec h
  obtain ⟨b1, b2⟩ := newExecution_spec ht
  simp only [runAll, ht, (runExec_sim prog k t s' [] ⟨b1.trans a1.symm, b2.trans a2.symm⟩).1]

theorem runAll_getElem_replay (prog : Program) (k : Nat) :
    ∀ (n : Nat) (s : RandomScheduler) (i seed : Nat) (trace : List Event),
      (runAll prog k n s)[i]? = some (seed, trace) →
      runAll prog k 1 (RandomScheduler.newFromSeed seed 1) = [(seed, trace)] := by
  intro n s
  fun_induction runAll prog k n s <;> intro i seed trace h
  case case3 hexec ih =>
    cases i with
    | zero => cases h; exact newExecution_replay prog k hexec
    | succ i => exact ih i seed trace h
  all_goals cases h

end ShuttleProofs.Rng

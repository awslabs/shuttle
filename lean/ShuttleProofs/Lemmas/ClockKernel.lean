import ShuttleModel.Kernel
import ShuttleProofs.Lemmas.ClockBasic
/-!
# Vector-clock lemmas: the kernel never lowers a clock

`ClockMono k k'` : every task of `k` is still there in `k'` with a pointwise larger-or-equal clock.
`runSegment_clockMono` : one task segment (any program, any fuel, whatever way it ends) is `ClockMono`;
`schedule`, `advance`, `finish` do not touch clocks. The four requests that write a clock are
`updateClock`, `incClock`, `joinClockOf` and `spawn` (`spawnTask`): each replaces a clock by
`increment` / `update` / `extend` of itself — see `ClockBasic`.
Beside the `Kernel*` chain, not on it (see `ClockEdges`); twin: `SegEnd.kernel e` = `(SegEnd.st e).k`.
-/

namespace ShuttleProofs.Clock
open ShuttleModel

def ClockMono (k k' : Kernel) : Prop :=
  ∀ t tk, k.getTask? t = some tk → ∃ tk', k'.getTask? t = some tk' ∧ ple tk.clock tk'.clock

theorem ClockMono.refl (k : Kernel) : ClockMono k k := fun _ tk h => ⟨tk, h, ple_refl _⟩

theorem ClockMono.trans {a b c : Kernel} (h1 : ClockMono a b) (h2 : ClockMono b c) : ClockMono a c := by
  intro t tk h
  obtain ⟨tk', h', p1⟩ := h1 t tk h
  obtain ⟨tk'', h'', p2⟩ := h2 t tk' h'
  exact ⟨tk'', h'', ple_trans p1 p2⟩

theorem ClockMono.of_tasks_eq {k k' : Kernel} (h : k'.tasks = k.tasks) : ClockMono k k' :=
  fun _ tk ht => ⟨tk, by unfold Kernel.getTask? at *; rw [h]; exact ht, ple_refl _⟩

theorem getTask?_setTask_self {k : Kernel} {t : Nat} {tk : Task} (tk' : Task) (h : k.getTask? t = some tk) :
    (k.setTask t tk').getTask? t = some tk' :=
  List.getElem?_set_self (List.getElem?_eq_some_iff.mp h).1

theorem setTask_mono {k : Kernel} {t : Nat} {tk tk' : Task} (hg : k.getTask? t = some tk)
    (h : ple tk.clock tk'.clock) : ClockMono k (k.setTask t tk') := by
  intro u tku hu
  by_cases hut : t = u
  · subst hut
    cases hg.symm.trans hu
    exact ⟨tk', getTask?_setTask_self tk' hg, h⟩
  · exact ⟨tku, (List.getElem?_set_ne hut).trans hu, ple_refl _⟩

theorem modTask_mono {k k' : Kernel} {t : Nat} {f : Task → Except String Task}
    (h : k.modTask t f = .ok k') (hf : ∀ tk tk', f tk = .ok tk' → ple tk.clock tk'.clock) :
    ClockMono k k' := by
  unfold Kernel.modTask at h
  split at h
  · cases h
  · split at h <;> cases h
    exact setTask_mono ‹_› (hf _ _ ‹_›)

theorem Task.block_clock {t t' : Task} {sp : Bool} (h : t.block sp = .ok t') : t'.clock = t.clock := by
  unfold Task.block at h; split at h <;> cases h; rfl

theorem Task.sleep_clock {t t' : Task} (h : t.sleep = .ok t') : t'.clock = t.clock := by
  unfold Task.sleep at h; split at h <;> cases h; rfl

theorem Task.unblock_clock {t t' : Task} (h : t.unblock = .ok t') : t'.clock = t.clock := by
  unfold Task.unblock at h; split at h <;> cases h; rfl

theorem Task.finish_clock {t t' : Task} (h : t.finish = .ok t') : t'.clock = t.clock := by
  unfold Task.finish at h; split at h <;> cases h; rfl

theorem Task.sleepUnlessWoken_clock {t t' : Task} (h : t.sleepUnlessWoken = .ok t') : t'.clock = t.clock := by
  unfold Task.sleepUnlessWoken at h; split at h
  · cases h; rfl
  · exact Task.sleep_clock (t := { t with woken := false }) h

theorem Task.wake_clock {t t' : Task} (h : t.wake = .ok t') : t'.clock = t.clock := by
  unfold Task.wake at h; dsimp only at h; split at h
  · exact Task.unblock_clock (t := { t with woken := true }) h
  · cases h; rfl

theorem Task.unpark_clock {t t' : Task} (h : t.unpark = .ok t') : t'.clock = t.clock := by
  revert h
  fun_cases Task.unpark t <;> intro h
  · cases h
  · cases h
  · exact Task.unblock_clock h
  · cases h; rfl

theorem Task.park_clock {t t' : Task} {b : Bool} (h : t.park = .ok (b, t')) : t'.clock = t.clock := by
  revert h
  fun_cases Task.park t <;> intro h <;> cases h
  · rfl
  · exact Task.block_clock (t := { t with blockedInPark := true }) ‹_›

theorem Task.setWaiter_clock {t t' : Task} {w : Nat} {b : Bool} (h : t.setWaiter w = .ok (b, t')) :
    t'.clock = t.clock := by
  revert h
  fun_cases Task.setWaiter t w <;> intro h <;> cases h <;> rfl

theorem ple_of_clock_eq {a b : Task} (h : b.clock = a.clock) : ple a.clock b.clock := by
  rw [h]; exact ple_refl _

theorem append_mono (k : Kernel) (extra : List Task) : ClockMono k { k with tasks := k.tasks ++ extra } :=
  fun _ tk h => ⟨tk, (List.getElem?_append_left (List.getElem?_eq_some_iff.mp h).1).trans h, ple_refl _⟩

theorem spawnTask_mono (k : Kernel) (parent : Option Nat) : ClockMono k (k.spawnTask parent).2 := by
  unfold Kernel.spawnTask
  cases parent with
  | none => exact append_mono k _
  | some p =>
    dsimp only
    split
    · exact .refl k
    · refine .trans (setTask_mono (t := p) ‹_› ?_) (append_mono (k.setTask p _) _)
      exact ple_trans (ple_increment _ _) (ple_extend _ _)

variable {P : Program} {σ : Type}

def _root_.ShuttleModel.SegEnd.kernel : SegEnd P σ → Kernel
  | .atSwitch st => st.k
  | .returned st => st.k
  | .panicked _ st => st.k
  | .schedPanic _ st => st.k
  | .outOfFuel st => st.k
  | .aborted _ st => st.k

/-- the shape of every request that goes through `runSegment`'s local `onTask`, i.e. through `modTask` -/
theorem onTask_mono {S : Scheduler σ} {me fuel : Nat} {st : ExecState P σ} {t : Nat}
    {f : Task → Except String Task} {cont : Prog P.U Unit}
    (hf : ∀ tk tk', f tk = .ok tk' → ple tk.clock tk'.clock)
    (ih : ∀ k', ClockMono k' (runSegment S me fuel { st with k := k' } cont).kernel) :
    ClockMono st.k
      (match st.k.modTask t f with
        | .ok k' => runSegment S me fuel { st with k := k' } cont
        | .error e => SegEnd.panicked e st).kernel := by
  split
  · exact (modTask_mono ‹_› hf).trans (ih _)
  · exact .refl _

/-- **`own_clock_monotone` (kernel part).** Whatever a task does in one segment — any program over the
kernel API, any fuel, and however the segment ends — every task's clock afterwards dominates its clock
before. -/
theorem runSegment_clockMono (S : Scheduler σ) (me : Nat) :
    ∀ (fuel : Nat) (st : ExecState P σ) (p : Prog P.U Unit),
      ClockMono st.k (runSegment S me fuel st p).kernel := by
  intro fuel st p
  -- one goal per leaf of `runSegment` in the order of its text (1 no fuel, 2–5 `.pure`, 6–8 `.panic`, from 9 the requests)
  fun_induction runSegment S me fuel st p
  -- the clock is kept
  case case14 ih | case15 ih =>  -- block, blockTask
    exact onTask_mono (fun _ _ h => ple_of_clock_eq (Task.block_clock h)) (ih _)
  case case16 ih =>  -- sleepUnlessWoken
    exact onTask_mono (fun _ _ h => ple_of_clock_eq (Task.sleepUnlessWoken_clock h)) (ih _)
  case case17 ih =>  -- unblock
    exact onTask_mono (fun _ _ h => ple_of_clock_eq (Task.unblock_clock h)) (ih _)
  case case21 ih =>  -- wake
    exact onTask_mono (fun _ _ h => ple_of_clock_eq (Task.wake_clock h)) (ih _)
  case case30 ih =>  -- unpark
    exact onTask_mono (fun _ _ h => ple_of_clock_eq (Task.unpark_clock h)) (ih _)
  case case36 ih =>  -- detach
    exact onTask_mono (fun _ _ h => by cases h; exact ple_refl _) (ih _)
  case case28 hg _ _ hp _ _ ih =>  -- park
    exact .trans (setTask_mono hg (ple_of_clock_eq (Task.park_clock hp))) ih
  case case32 hg _ _ hp _ _ ih =>  -- setWaiter
    exact .trans (setTask_mono hg (ple_of_clock_eq (Task.setWaiter_clock hp))) ih
  case case35 hg _ _ ih =>  -- takeWaiter
    refine .trans ?_ ih; exact setTask_mono hg (ple_refl _)
  -- the clock is replaced by one that dominates it
  case case26 hsp _ _ ih =>  -- spawn
    exact .trans (hsp ▸ spawnTask_mono _ (some me) :) ih
  case case39 ih =>  -- updateClock
    exact onTask_mono (fun tk _ h => by cases h; exact ple_updateClock_self tk.clock _ me) (ih _)
  case case41 hg _ _ _ ih =>  -- incClock
    exact .trans (setTask_mono hg (ple_increment _ _)) ih
  case case42 ih =>  -- joinClockOf
    exact onTask_mono (fun tk _ h => by cases h; exact ple_update_left tk.clock _) (ih _)
  -- every other leaf goes on with the same task table, or ends the segment where it stands
  all_goals try assumption
  all_goals try (rename_i ih; exact .trans (.of_tasks_eq rfl) ih)
  all_goals exact .refl _

theorem advance_mono (k : Kernel) : ClockMono k k.advance := by
  fun_cases Kernel.advance k <;> exact .of_tasks_eq rfl

theorem finish_mono {k k' : Kernel} {t : Nat} (h : k.modTask t (·.finish) = .ok k') : ClockMono k k' :=
  modTask_mono h (fun _ _ hh => ple_of_clock_eq (Task.finish_clock hh))

def _root_.ShuttleModel.Kernel.SchedStep.kernel : Kernel.SchedStep σ → Kernel
  | .ok k _ _ => k
  | .err _ k _ => k
  | .schedPanic _ k _ => k

/-- `schedule()` may unblock the chosen task; it never touches a clock, whatever its outcome -/
theorem schedule_mono_all (k : Kernel) (S : Scheduler σ) (s : σ) : ClockMono k (k.schedule S s).kernel := by
  fun_cases Kernel.schedule k S s
  case case10 hg _ _ _ _ hub =>
    exact (setTask_mono hg (ple_of_clock_eq (Task.unblock_clock hub))).trans (.of_tasks_eq rfl)
  all_goals exact .of_tasks_eq rfl

theorem schedule_mono {σ : Type} (k : Kernel) (S : Scheduler σ) (s : σ) (k' : Kernel) (s' : σ) (ev : Option Ev)
    (h : k.schedule S s = .ok k' s' ev) : ClockMono k k' := by
  have := schedule_mono_all k S s
  rwa [h] at this

theorem seg_end_mono {S : Scheduler σ} {me fuel : Nat} {st : ExecState P σ} {p : Prog P.U Unit} {e : SegEnd P σ}
    (h : runSegment S me fuel st p = e) : ClockMono st.k e.kernel := h ▸ runSegment_clockMono S me fuel st p

/-- **`own_clock_monotone` for a whole execution**: from any state of the run loop to its result, every
task's clock only grows (scheduling decisions, task segments, task exits). -/
theorem runLoop_clockMono (S : Scheduler σ) (segFuel : Nat) :
    ∀ (fuel : Nat) (st : ExecState P σ), ClockMono st.k (runLoop S segFuel fuel st).st.k := by
  intro fuel st
  fun_induction runLoop S segFuel fuel st
  case case1 => exact .refl _
  -- `schedule` did not answer `.ok`: the run ends with the kernel it left
  case case2 hs _ | case3 _ hs | case4 hs => exact (hs ▸ schedule_mono_all _ S _ :)
  all_goals
    have hadv := (schedule_mono _ S _ _ _ _ ‹_ = Kernel.SchedStep.ok _ _ _›).trans (advance_mono _)
  -- a segment ran: the loop goes on after a switch, or after the task returned and was finished …
  case case10 he ih => exact hadv.trans ((seg_end_mono he).trans ih)
  case case11 he _ hf ih => exact hadv.trans ((seg_end_mono he).trans ((finish_mono hf).trans ih))
  -- … or the run ends with the segment's kernel
  case case12 he _ _ | case13 he | case14 he | case15 he | case16 he => exact hadv.trans (seg_end_mono he)
  -- no segment ran (nothing current, stopped, all finished, no continuation)
  all_goals exact hadv

end ShuttleProofs.Clock

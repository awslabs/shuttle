import ShuttleProofs.Lemmas.LocksAtomic
/-
  Granularity of the `Prog` wrappers of the semaphore: where their scheduling points are.
  Each wrapper is ONE `thread::switch()` followed by a switch-free body (`tryAcquire`, `release`,
  `close`), or a read-only prefix, at most one `thread::switch()`, and a switch-free body (`poll`).
  Hence the bodies run inside a single segment of `runSegment` (`runSegment_switchFree`), which is
  what the atomic steps of `Lemmas/SemLts.lean` describe.
-/
namespace ShuttleModel
open Prog (SwitchFree)

namespace K
variable {U : Type}
theorem me_switchFree : (K.me : Prog U Nat).SwitchFree := SwitchFree.lift _ rfl
theorem clock_switchFree : (K.clock : Prog U Clock).SwitchFree := SwitchFree.lift _ rfl
theorem isFinished_switchFree (t : Nat) : (K.isFinished t : Prog U Bool).SwitchFree := SwitchFree.lift _ rfl
theorem isPanicking_switchFree : (K.isPanicking : Prog U Bool).SwitchFree := SwitchFree.lift _ rfl
theorem panic_switchFree {α : Type} (m : String) : (K.panic m : Prog U α).SwitchFree := SwitchFree.panic m
end K

theorem Eff.run_switchFree {U : Type} (e : Eff) : (e.run : Prog U Unit).SwitchFree := by
  cases e <;> exact SwitchFree.lift _ rfl

theorem runEffs_switchFree {U : Type} (es : List Eff) : (runEffs es : Prog U Unit).SwitchFree := by
  induction es with
  | nil => exact SwitchFree.pure ()
  | cons e es ih => exact SwitchFree.bind (Eff.run_switchFree e) (fun _ => ih)

namespace Sem
variable {U : Type}

theorem finSnapshot_go_switchFree (ts : List Nat) (acc : List (Nat × Bool)) :
    (finSnapshot.go (U := U) ts acc).SwitchFree := by
  induction ts generalizing acc with
  | nil => exact SwitchFree.pure _
  | cons t ts ih => exact SwitchFree.bind (K.isFinished_switchFree t) (fun _ => ih _)

theorem finSnapshot_switchFree (L : Lens U SemState) : (finSnapshot L).SwitchFree :=
  SwitchFree.bind (K.getL_switchFree L) (fun _ =>
    SwitchFree.bind (finSnapshot_go_switchFree _ _) (fun _ => SwitchFree.pure _))

theorem reblockIfUnfair_switchFree (L : Lens U SemState) : (reblockIfUnfair L).SwitchFree :=
  SwitchFree.bind (finSnapshot_switchFree L) (fun _ =>
    SwitchFree.bind (K.getL_switchFree L) (fun _ => runEffs_switchFree _))

/-- `try_acquire` after its scheduling point -/
def tryAcquireBody (L : Lens U SemState) (n : Nat) : Prog U (Except TryErr Unit) := do
  let s ← K.getL L
  let c ← K.clock
  match s.acquirePermits n c with
  | .error msg => K.panic msg
  | .ok (.ok (s', pc)) =>
    K.setL L s'
    K.updateClock pc
    reblockIfUnfair L
    pure (.ok ())
  | .ok (.error e) =>
    K.updateClock s.lastAcquire
    pure (.error e)

theorem tryAcquire_eq (L : Lens U SemState) (n : Nat) :
    tryAcquire L n = Prog.op .switch (fun _ => tryAcquireBody L n) := rfl

theorem tryAcquireBody_switchFree (L : Lens U SemState) (n : Nat) : (tryAcquireBody L n).SwitchFree := by
  refine SwitchFree.bind (K.getL_switchFree L) (fun s => SwitchFree.bind K.clock_switchFree (fun c => ?_))
  cases h : s.acquirePermits n c with
  | error msg => exact K.panic_switchFree msg
  | ok r =>
    cases r with
    | ok p =>
      exact SwitchFree.bind (K.setL_switchFree L _) (fun _ =>
        SwitchFree.bind (K.updateClock_switchFree _) (fun _ =>
          SwitchFree.bind (reblockIfUnfair_switchFree L) (fun _ => SwitchFree.pure _)))
    | error e =>
      exact SwitchFree.bind (K.updateClock_switchFree _) (fun _ => SwitchFree.pure _)

/-- `release` after its scheduling point -/
def releaseBody (L : Lens U SemState) (n : Nat) : Prog U Unit :=
  if n = 0 then pure () else do
    let stopping ← K.isPanicking
    if stopping then do
      let s ← K.getL L
      K.setL L (s.releasePoison n)
    else do
    let c ← K.incClock
    let fin ← finSnapshot L
    let s ← K.getL L
    let (s', effs) := s.releasePure fin n c
    K.setL L s'
    runEffs effs

theorem release_eq (L : Lens U SemState) (n : Nat) :
    release L n = Prog.op .switch (fun _ => releaseBody L n) := rfl

theorem releaseBody_switchFree (L : Lens U SemState) (n : Nat) : (releaseBody L n).SwitchFree := by
  unfold releaseBody
  by_cases hn : n = 0
  · rw [if_pos hn]; exact SwitchFree.pure ()
  · rw [if_neg hn]
    refine SwitchFree.bind K.isPanicking_switchFree (fun stopping => ?_)
    cases stopping with
    | true =>
      exact SwitchFree.bind (K.getL_switchFree L) (fun _ => K.setL_switchFree L _)
    | false =>
      exact SwitchFree.bind K.incClock_switchFree (fun _ =>
        SwitchFree.bind (finSnapshot_switchFree L) (fun _ =>
          SwitchFree.bind (K.getL_switchFree L) (fun _ =>
            SwitchFree.bind (K.setL_switchFree L _) (fun _ => runEffs_switchFree _))))

theorem closeNoSwitch_switchFree (L : Lens U SemState) : (closeNoSwitch L).SwitchFree :=
  SwitchFree.bind (finSnapshot_switchFree L) (fun _ =>
    SwitchFree.bind (K.getL_switchFree L) (fun _ =>
      SwitchFree.bind (K.setL_switchFree L _) (fun _ => runEffs_switchFree _)))

theorem close_eq (L : Lens U SemState) : close L = Prog.op .switch (fun _ => closeNoSwitch L) := rfl

theorem newAcquire_switchFree (L : Lens U SemState) (n : Nat) : (newAcquire L n).SwitchFree :=
  SwitchFree.bind K.me_switchFree (fun _ => SwitchFree.bind K.clock_switchFree (fun _ =>
    SwitchFree.bind (K.getL_switchFree L) (fun _ =>
      SwitchFree.bind (K.setL_switchFree L _) (fun _ => SwitchFree.pure _))))

/-- `Acquire::poll` after its optional scheduling point: exactly `SemState.pollPure` -/
def pollBody (L : Lens U SemState) (wid cxTask : Nat) : Prog U PollRes := do
  let s ← K.getL L
  let me ← K.me
  let c ← K.clock
  let fin ← finSnapshot L
  match s.pollPure wid me cxTask c fin with
  | .error msg => K.panic msg
  | .ok o => do
    K.setL L o.s
    match o.pc with
    | some pc => K.updateClock pc
    | none => pure ()
    runEffs o.effs
    pure o.res

/-- `poll` = a read of the state that only decides whether to yield, at most one
`thread::switch()`, then `pollBody` -/
theorem poll_eq (L : Lens U SemState) (wid cxTask : Nat) :
    poll L wid cxTask = (do
      let s ← K.getL L
      match s.getW wid with
      | none => K.panic "poll: unknown Acquire"
      | some w =>
        if w.completed then K.panic "assertion failed: !self.completed"
        else if w.neverPolled && ((w.hasPermits || s.closed || s.avail ≥ w.n) || s.fair)
          then Prog.op .switch (fun _ => pollBody L wid cxTask)
          else pollBody L wid cxTask) := by
  unfold poll pollBody
  rfl

theorem pollBody_switchFree (L : Lens U SemState) (wid cxTask : Nat) :
    (pollBody L wid cxTask).SwitchFree := by
  refine SwitchFree.bind (K.getL_switchFree L) (fun s => SwitchFree.bind K.me_switchFree (fun me =>
    SwitchFree.bind K.clock_switchFree (fun c => SwitchFree.bind (finSnapshot_switchFree L) (fun fin => ?_))))
  cases h : s.pollPure wid me cxTask c fin with
  | error msg => exact K.panic_switchFree msg
  | ok o =>
    refine SwitchFree.bind (K.setL_switchFree L _) (fun _ => ?_)
    cases o.pc with
    | some pc =>
      exact SwitchFree.bind (K.updateClock_switchFree pc) (fun _ =>
        SwitchFree.bind (runEffs_switchFree _) (fun _ => SwitchFree.pure _))
    | none =>
      exact SwitchFree.bind (runEffs_switchFree _) (fun _ => SwitchFree.pure _)

/-- `Drop for Acquire`: no scheduling point, except that a granted, uncompleted acquisition ends
with a full `release` (one `thread::switch()`, then `releaseBody`) -/
theorem dropAcquire_eq (L : Lens U SemState) (wid : Nat) :
    dropAcquire L wid = (do
      let s ← K.getL L
      match s.getW wid with
      | none => pure ()
      | some w =>
        if w.isQueued then do
          let fin ← finSnapshot L
          match s.removeWaiterPure fin wid with
          | .error msg => K.panic msg
          | .ok (s', effs) => do K.setL L (s'.dropW wid); runEffs effs
        else if w.hasPermits && !w.completed then do
          K.setL L (s.dropW wid)
          Prog.op .switch (fun _ => releaseBody L w.n)
        else K.setL L (s.dropW wid)) := rfl

end Sem
end ShuttleModel

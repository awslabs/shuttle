import ShuttleProofs.Lemmas.KernelExamples
/-!
# C17 helpers, part 1: a task-precise relational semantics of `runSegment`

The relational semantics of `Lemmas/KernelSegment.lean` (`SegStep`) abstracts every update of the task table
to "some task's fields changed".  The properties of the async layer are about exactly those fields (`state`,
`woken`), so this file gives a second, finer view of the same function: `TaskEffect me i live r tk tk'` says what an
executed request labelled `r`, issued by task `me`, does to the record of task `i` (`live`: `current_task` is
neither `Stopped` nor `Finished`), `KStep` lifts it to the task table, and `runSegment_ktrace` gives every segment
the list of its `KStep`s.
-/

namespace ShuttleProofs.C17
open ShuttleModel ShuttleProofs.Kernel

theorem Task.wake_sleeping (t : Task) (h : t.state = .sleeping) :
    t.wake = .ok { t with woken := true, state := .runnable, blockedInPark := false } := by
  simp [Task.wake, Task.sleeping, Task.unblock, Task.finished, h]

theorem Task.wake_not_sleeping (t : Task) (h : t.state ≠ .sleeping) :
    t.wake = .ok { t with woken := true } := by
  simp [Task.wake, Task.sleeping, h]

theorem Task.sleepUnlessWoken_woken (t : Task) (h : t.woken = true) :
    t.sleepUnlessWoken = .ok { t with woken := false } := by
  simp [Task.sleepUnlessWoken, h]

theorem Task.sleepUnlessWoken_not_woken (t : Task) (h : t.woken = false) (hf : t.state ≠ .finished) :
    t.sleepUnlessWoken = .ok { t with woken := false, state := .sleeping } := by
  simp [Task.sleepUnlessWoken, h, Task.sleep, Task.finished, hf]

theorem Task.sleepUnlessWoken_finished (t : Task) (h : t.woken = false) (hf : t.state = .finished) :
    ∃ e, t.sleepUnlessWoken = .error e := by
  simp [Task.sleepUnlessWoken, h, Task.sleep, Task.finished, hf]

theorem Task.setWaiter_ok {tk tk' : Task} {w : Nat} {b : Bool} (h : tk.setWaiter w = .ok (b, tk')) :
    tk'.state = tk.state ∧ tk'.woken = tk.woken ∧ tk'.detached = tk.detached := by
  revert h
  fun_cases Task.setWaiter tk w <;> intro h <;> cases h <;> exact ⟨rfl, rfl, rfl⟩

/-- what a kernel request is, as far as the `state` and `woken` fields of tasks are concerned -/
inductive Req where
  | wake (t : Nat)
  | unblock (t : Nat)
  | blockTask (t : Nat)
  | block
  | sleepUnlessWoken
  | park
  | unpark (t : Nat)
  | other
deriving DecidableEq, Repr

def req {U : Type} : {β : Type} → KOp U β → Req
  | _, .wake t => .wake t
  | _, .unblock t => .unblock t
  | _, .blockTask t => .blockTask t
  | _, .block _ => .block
  | _, .sleepUnlessWoken => .sleepUnlessWoken
  | _, .park => .park
  | _, .unpark t => .unpark t
  | _, _ => .other

/-- `!ExecutionState::is_finished()` -/
def liveCur (c : Cur) : Bool := !(c == .stopped || c == .finished)

def TaskEffect (me i : Nat) (live : Bool) : Req → Task → Task → Prop
  | .wake t, tk, tk' =>
    if t = i ∧ live = true ∧ tk.finished = false then tk.wake = .ok tk' else tk' = tk
  | .unblock t, tk, tk' => if t = i then tk.unblock = .ok tk' else tk' = tk
  | .blockTask t, tk, tk' => if t = i then tk.block false = .ok tk' else tk' = tk
  | .block, tk, tk' => if me = i then ∃ sp, tk.block sp = .ok tk' else tk' = tk
  | .sleepUnlessWoken, tk, tk' => if me = i then tk.sleepUnlessWoken = .ok tk' else tk' = tk
  | .park, tk, tk' => if me = i then ∃ b, tk.park = .ok (b, tk') else tk' = tk
  | .unpark t, tk, tk' => if t = i then tk.unpark = .ok tk' else tk' = tk
  | .other, tk, tk' =>
    tk'.state = tk.state ∧ tk'.woken = tk.woken ∧ (tk.detached = true → tk'.detached = true)

variable {P : Program} {σ : Type}

/-- one executed request (issued by `me`, labelled `r`) after which the segment continues -/
structure KStep (me : Nat) (r : Req) (st st' : ExecState P σ) : Prop where
  current : st'.k.current = st.k.current
  len : st.k.tasks.length ≤ st'.k.tasks.length
  old : ∀ i tk, st.k.tasks[i]? = some tk →
    ∃ tk', st'.k.tasks[i]? = some tk' ∧ TaskEffect me i (liveCur st.k.current) r tk tk'
  /-- tasks created by the request are fresh -/
  fresh : ∀ i tk', st.k.tasks.length ≤ i → st'.k.tasks[i]? = some tk' →
    tk'.state = .runnable ∧ tk'.woken = false ∧ tk'.detached = false
  /-- an effective `wake` is for a known task (`get_mut` panics otherwise) -/
  wakeKnown : ∀ t, r = .wake t → liveCur st.k.current = true → t < st.k.tasks.length

/-- the way a segment ends: the task table and `current_task` are those of the last state -/
def KEnd (st : ExecState P σ) (e : SegEnd P σ) : Prop :=
  e.st.k.tasks = st.k.tasks ∧ e.st.k.current = st.k.current

theorem TaskEffect.other_refl (me i : Nat) (live : Bool) (tk : Task) : TaskEffect me i live .other tk tk :=
  ⟨rfl, rfl, fun h => h⟩

theorem KStep.of_tasks_eq (me : Nat) (r : Req) {st st' : ExecState P σ} (ht : st'.k.tasks = st.k.tasks)
    (hc : st'.k.current = st.k.current)
    (he : ∀ i tk, st.k.tasks[i]? = some tk → TaskEffect me i (liveCur st.k.current) r tk tk)
    (hw : ∀ t, r = .wake t → liveCur st.k.current = true → t < st.k.tasks.length) : KStep me r st st' where
  current := hc
  len := by rw [ht]; exact Nat.le_refl _
  old := fun i tk h => ⟨tk, by rw [ht]; exact h, he i tk h⟩
  fresh := fun i tk' hi h => by
    rw [ht] at h
    have := (List.getElem?_eq_some_iff.mp h).1
    omega
  wakeKnown := hw

theorem KStep.same (me : Nat) {st st' : ExecState P σ} (ht : st'.k.tasks = st.k.tasks)
    (hc : st'.k.current = st.k.current) : KStep me .other st st' :=
  .of_tasks_eq me _ ht hc (fun i tk _ => .other_refl me i _ tk) (fun _ h => nomatch h)

theorem KStep.of_setTask (me : Nat) (r : Req) {st : ExecState P σ} {t : Nat} {tk0 tk0' : Task}
    (hk : st.k.tasks[t]? = some tk0)
    (hself : TaskEffect me t (liveCur st.k.current) r tk0 tk0')
    (hoth : ∀ i tk, i ≠ t → st.k.tasks[i]? = some tk → TaskEffect me i (liveCur st.k.current) r tk tk)
    (hw : ∀ t', r = .wake t' → t' = t) :
    KStep me r st { st with k := st.k.setTask t tk0' } where
  current := rfl
  len := by simp [Kernel.setTask]
  old := fun i tk h => by
    simp only [Kernel.setTask]
    by_cases hi : i = t
    · subst hi
      rw [hk] at h
      cases h
      exact ⟨tk0', List.getElem?_set_self (List.getElem?_eq_some_iff.mp hk).1, hself⟩
    · exact ⟨tk, by rw [List.getElem?_set_ne (Ne.symm hi)]; exact h, hoth i tk hi h⟩
  fresh := fun i tk' hi h => by
    have := (List.getElem?_eq_some_iff.mp h).1
    simp only [Kernel.setTask, List.length_set] at this
    omega
  wakeKnown := fun t' h _ => by
    rw [hw t' h]
    exact (List.getElem?_eq_some_iff.mp hk).1

def KSound (me : Nat) (r : Req) (st : ExecState P σ) {β : Type} : OpRes P σ β → Prop
  | .next st' _ => KStep me r st st'
  | .stop e => KEnd st e

theorem taskOp_ksound (me : Nat) (r : Req) (st : ExecState P σ) {β : Type} (t : Nat) (missing : String)
    (f : Task → Except String (β × Task))
    (hself : ∀ tk b tk', st.k.tasks[t]? = some tk → f tk = .ok (b, tk') →
      TaskEffect me t (liveCur st.k.current) r tk tk')
    (hoth : ∀ i tk, i ≠ t → TaskEffect me i (liveCur st.k.current) r tk tk)
    (hw : ∀ t', r = .wake t' → t' = t) : KSound me r st (taskOp st t missing f) := by
  unfold taskOp
  cases hk : st.k.tasks[t]? with
  | none => exact ⟨rfl, rfl⟩
  | some tk =>
    simp only
    cases hf : f tk with
    | error e => exact ⟨rfl, rfl⟩
    | ok x => exact .of_setTask me r hk (hself tk x.1 x.2 hk hf) (fun i tk hi _ => hoth i tk hi) hw

theorem modOp_ksound (me : Nat) (r : Req) (st : ExecState P σ) (t : Nat) (f : Task → Except String Task)
    {missing : String}
    (hself : ∀ tk tk', st.k.tasks[t]? = some tk → f tk = .ok tk' → TaskEffect me t (liveCur st.k.current) r tk tk')
    (hoth : ∀ i tk, i ≠ t → TaskEffect me i (liveCur st.k.current) r tk tk)
    (hw : ∀ t', r = .wake t' → t' = t) : KSound me r st (modOp st t f missing) := by
  refine taskOp_ksound me r st t _ _ (fun tk b tk' hk h => hself tk tk' hk ?_) hoth hw
  cases hf : f tk with
  | error e => rw [hf] at h; cases h
  | ok x => rw [hf] at h; cases h; rfl

theorem taskOp_other (me : Nat) (st : ExecState P σ) {β : Type} (t : Nat) (missing : String)
    (f : Task → Except String (β × Task))
    (hf : ∀ tk b tk', f tk = .ok (b, tk') →
      tk'.state = tk.state ∧ tk'.woken = tk.woken ∧ (tk.detached = true → tk'.detached = true)) :
    KSound me .other st (taskOp st t missing f) :=
  taskOp_ksound me .other st t missing f (fun tk b tk' _ h => hf tk b tk' h)
    (fun i tk _ => .other_refl me i _ tk) nofun

theorem spawn_kstep (me : Nat) (st : ExecState P σ) (body : Nat) :
    KStep me .other st
      { st with k := (st.k.spawnTask (some me)).2, conts := st.conts ++ [P.bodies body] } := by
  simp only [Kernel.spawnTask, Kernel.getTask?]
  cases h : st.k.tasks[me]? with
  | none => exact .same me rfl rfl
  | some ptk =>
    -- the parent's clock is updated in place (`inPlace`), the child is appended
    have inPlace := KStep.of_setTask me .other h
      (tk0' := { ptk with clock := (ptk.clock.increment me).extend st.k.tasks.length }) ⟨rfl, rfl, id⟩
      (fun i tk _ _ => .other_refl me i _ tk) nofun
    refine ⟨rfl, by simp [Kernel.setTask], fun i tk hi => ?old, fun i tk' hi hg => ?fresh, fun t h => nomatch h⟩
    case old =>
      obtain ⟨tk', h1, h2⟩ := inPlace.old i tk hi
      exact ⟨tk', (List.getElem?_append_left (List.getElem?_eq_some_iff.mp h1).1).trans h1, h2⟩
    case fresh =>
      simp only [Kernel.setTask] at hg
      rw [List.getElem?_append_right (by simpa using hi)] at hg
      cases List.mem_singleton.mp (List.mem_of_getElem? hg)
      exact ⟨rfl, rfl, rfl⟩

theorem stepOp_ksound (S : Scheduler σ) (me : Nat) (st : ExecState P σ) {β : Type} (o : KOp P.U β)
    (kont : β → Prog P.U Unit) : KSound me (req o) st (stepOp S me st o kont) := by
  cases o with
  | switch => exact ⟨rfl, rfl⟩
  | me | getU | setU | emit | isFinished | requestYield | clock | clockOf | exitTruncates | resetSteps
  | ctxSwitches | isPanicking => exact .same me rfl rfl
  | rand =>
    show KSound me .other st (match S.nextU64 st.sch with | (.ok v, s') => _ | (.error e, s') => _)
    rcases S.nextU64 st.sch with ⟨r, s'⟩
    cases r with
    | ok v => exact .same me rfl rfl
    | error e => exact ⟨rfl, rfl⟩
  | spawn fut body => exact spawn_kstep me st body
  -- the requests whose label stands for one `Task` transition on one record
  | blockTask | unblock | unpark | sleepUnlessWoken =>
    exact modOp_ksound me _ st _ _ (fun _ _ _ h => (if_pos rfl).mpr h)
      (fun i _ hi => (if_neg (Ne.symm hi)).mpr rfl) nofun
  | block sp =>
    exact modOp_ksound me _ st _ _ (fun _ _ _ h => (if_pos rfl).mpr ⟨sp, h⟩)
      (fun i _ hi => (if_neg (Ne.symm hi)).mpr rfl) nofun
  | park =>
    exact taskOp_ksound me _ st _ _ _ (fun _ b _ _ h => (if_pos rfl).mpr ⟨b, h⟩)
      (fun i _ hi => (if_neg (Ne.symm hi)).mpr rfl) nofun
  | wake t =>
    -- `wake` returns at once if the execution is over or task `t` has finished; otherwise `Task::wake` on `t`
    have hs : wakeSkips st.k t = false ↔
        liveCur st.k.current = true ∧ ∀ tk, st.k.tasks[t]? = some tk → tk.finished = false := by
      unfold wakeSkips liveCur Kernel.getTask?
      cases st.k.tasks[t]? <;> simp
    show KSound me (.wake t) st (if wakeSkips st.k t then _ else _)
    split
    · rename_i h
      refine .of_tasks_eq me _ rfl rfl (fun i tk hi => (if_neg ?_).mpr rfl) (fun _ ht hl => ?_)
      · rintro ⟨rfl, hl, hf⟩
        rw [hs.mpr ⟨hl, fun tk' hk' => Option.some.inj (hk'.symm.trans hi) ▸ hf⟩] at h
        cases h
      · cases ht
        cases hk : st.k.tasks[t]? with
        | some tk => exact (List.getElem?_eq_some_iff.mp hk).1
        | none =>
          rw [hs.mpr ⟨hl, fun tk' hk' => nomatch hk.symm.trans hk'⟩] at h
          cases h
    · rename_i h
      obtain ⟨hl, hf⟩ := hs.mp (Bool.not_eq_true _ |>.mp h)
      exact modOp_ksound me _ st t _ (fun tk' _ hk' h => (if_pos ⟨rfl, hl, hf tk' hk'⟩).mpr h)
        (fun i _ hi => (if_neg fun h => hi h.1.symm).mpr rfl) (fun _ h => by cases h; rfl)
  -- the requests that leave `state` and `woken` of every task alone
  | setWaiter target =>
    exact taskOp_other me st _ _ _ fun tk b tk' h =>
      have ⟨h1, h2, h3⟩ := Task.setWaiter_ok h
      ⟨h1, h2, fun h => h3 ▸ h⟩
  | detach t =>
    exact taskOp_other me st _ _ _ fun tk b tk' h => by cases h; exact ⟨rfl, rfl, fun _ => rfl⟩
  | takeWaiter | incClock | updateClock | joinClockOf =>
    exact taskOp_other me st _ _ _ fun tk b tk' h => by cases h; exact ⟨rfl, rfl, id⟩

/-- `KTrace S me st p l e`: the segment of task `me` that runs `p` from `st` executes the requests `l` (each
paired with the state it produced) and ends with `e`, whose task table is that of the last state. -/
inductive KTrace (S : Scheduler σ) (me : Nat) :
    ExecState P σ → Prog P.U Unit → List (Req × ExecState P σ) → SegEnd P σ → Prop
  /-- the segment ends here: `switch`, the closure returned, a panic reached the run loop, fuel … -/
  | done (st : ExecState P σ) (p : Prog P.U Unit) (e : SegEnd P σ) : KEnd st e → KTrace S me st p [] e
  /-- a panic starts unwinding (only the panic bookkeeping changes) and the task goes on with its destructors -/
  | unwind (st : ExecState P σ) (msg : String) (pk : Option (Nat × String)) (apk : List (Nat × String))
      (l : List (Req × ExecState P σ)) (e : SegEnd P σ) :
      KTrace S me { st with k := { st.k with panicking := pk, alsoPanicking := apk } } (P.unwind me) l e →
      KTrace S me st (.panic msg) l e
  | step {β : Type} (o : KOp P.U β) (kont : β → Prog P.U Unit) (st st' : ExecState P σ) (b : β)
      (l : List (Req × ExecState P σ)) (e : SegEnd P σ) :
      KStep me (req o) st st' → KTrace S me st' (kont b) l e →
      KTrace S me st (.op o kont) ((req o, st') :: l) e

theorem runSegment_ktrace (S : Scheduler σ) (me : Nat) :
    ∀ (fuel : Nat) (st : ExecState P σ) (p : Prog P.U Unit),
      ∃ l, KTrace S me st p l (runSegment S me fuel st p)
  | 0, st, p => ⟨[], .done st p _ (by rw [runSegment_zero]; exact ⟨rfl, rfl⟩)⟩
  | fuel + 1, st, .pure () => by
    refine ⟨[], .done st _ _ ?_⟩
    rw [runSegment_pure]
    repeat' split
    all_goals exact ⟨rfl, rfl⟩
  | fuel + 1, st, .panic msg => by
    rw [runSegment_panic]
    split
    · split
      · exact ⟨[], .done st _ _ ⟨rfl, rfl⟩⟩
      · obtain ⟨l, h⟩ := runSegment_ktrace S me fuel
          { st with k := { st.k with alsoPanicking := st.k.alsoPanicking ++ [(me, msg)] } } (P.unwind me)
        exact ⟨l, .unwind st msg st.k.panicking _ l _ h⟩
    · obtain ⟨l, h⟩ := runSegment_ktrace S me fuel
        { st with k := { st.k with panicking := some (me, msg) } } (P.unwind me)
      exact ⟨l, .unwind st msg _ st.k.alsoPanicking l _ h⟩
  | fuel + 1, st, .op o kont => by
    have hs := stepOp_ksound S me st o kont
    rw [runSegment_op_eq]
    cases hr : stepOp S me st o kont with
    | stop e => rw [hr] at hs; exact ⟨[], .done st _ _ hs⟩
    | next st' b =>
      rw [hr] at hs
      obtain ⟨l, h⟩ := runSegment_ktrace S me fuel st' (kont b)
      exact ⟨_, .step o kont st st' b l _ hs h⟩

end ShuttleProofs.C17

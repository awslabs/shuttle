import ShuttleModel.Sched.Replay
/-!
# Replay lemmas: `next_task` of the replay scheduler with a target clock

`skipRandoms_spec` states the effect of the skipping loop with `leadingRandoms` and `advanceData`.

Cases of `fun_induction nextTaskLoop`, in the order of its branches: 1 no fuel; 2, 3 schedule exhausted
(`allow_incomplete` / not); 4 the step is `Random`; the step's task is runnable: 5 clock `≤` target, 6 concurrent
(skip and loop), 7 no target; 8, 9 it is not runnable (`allow_incomplete` / not).
-/

namespace ShuttleProofs.Replay
open ShuttleModel ShuttleModel.Replay

def leadingRandoms : List ScheduleStep → Nat
  | .random :: rest => leadingRandoms rest + 1
  | _ => 0

def advanceData (d : Rng.RandomDataSource) : Nat → Rng.RandomDataSource
  | 0 => d
  | n + 1 => advanceData d.nextU64.2 n

/-- **The skipping loop consumes exactly the `Random` steps that follow the skipped task step, and one draw of
the data source for each of them.** -/
theorem skipRandoms_spec : ∀ (rest : List ScheduleStep) (k : Nat) (s : ReplayState),
    skipRandoms rest k s =
      (k + leadingRandoms rest,
        { s with steps := s.steps + leadingRandoms rest, data := advanceData s.data (leadingRandoms rest) })
  | [], k, s => rfl
  | .task t :: rest, k, s => rfl
  | .random :: rest, k, s => by
    rw [skipRandoms, skipRandoms_spec rest]
    simp only [leadingRandoms, advanceData]
    have h1 : k + 1 + leadingRandoms rest = k + (leadingRandoms rest + 1) := by omega
    have h2 : s.steps + 1 + leadingRandoms rest = s.steps + (leadingRandoms rest + 1) := by omega
    rw [h1, h2]

theorem leadingRandoms_le (l : List ScheduleStep) : leadingRandoms l ≤ l.length := by
  induction l with
  | nil => exact Nat.le_refl _
  | cons x xs ih => cases x <;> simp [leadingRandoms] <;> omega

theorem nextTask_step (s : ReplayState) (views : List TaskView) (cur : Option Nat) (y : Bool) (t : Nat)
    (task : TaskView) (hstep : s.schedule.steps[s.steps]? = some (.task t))
    (hfind : views.find? (fun v => v.id == t) = some task)
    (hle : ∀ c, s.targetClock = some c → task.clock.le c = true) :
    Replay.nextTask s views cur y = (.choose (some t), { s with steps := s.steps + 1 }) := by
  unfold Replay.nextTask
  have hlt : s.steps < s.schedule.steps.length := (List.getElem?_eq_some_iff.mp hstep).1
  have hf : s.schedule.steps.length + 1 - s.steps = (s.schedule.steps.length - s.steps) + 1 := by omega
  rw [hf, nextTaskLoop, hstep]
  simp only [hfind]
  cases ht : s.targetClock with
  | none => rfl
  | some c => simp only [hle c ht, if_true]

/-- one iteration of the loop on a step that is concurrent with the target: the step and the `Random` steps
after it are skipped (cursor, data source and `steps_skipped` advance accordingly) and the loop goes on -/
theorem nextTaskLoop_skips_concurrent (fuel : Nat) (s : ReplayState) (views : List TaskView)
    (c : Clock) (t : Nat) (task : TaskView)
    (htarget : s.targetClock = some c) (hstep : s.schedule.steps[s.steps]? = some (.task t))
    (hfind : views.find? (fun v => v.id == t) = some task) (hle : task.clock.le c = false) :
    nextTaskLoop (fuel + 1) s views =
      nextTaskLoop fuel
        { s with steps := s.steps + 1 + leadingRandoms (s.schedule.steps.drop (s.steps + 1)),
                 data := advanceData s.data (leadingRandoms (s.schedule.steps.drop (s.steps + 1))),
                 stepsSkipped := s.stepsSkipped + (1 + leadingRandoms (s.schedule.steps.drop (s.steps + 1))) }
        views := by
  rw [nextTaskLoop, hstep]
  simp only [hfind, htarget, hle, Bool.false_eq_true, if_false, skipRandoms_spec]

/-- whatever `next_task` returns under a target clock is a task it was shown whose clock is `≤` the target -/
theorem nextTaskLoop_choice_le (c : Clock) (fuel : Nat) (s : ReplayState) (views : List TaskView) (t : Nat)
    (s' : ReplayState) (htarget : s.targetClock = some c) (h : nextTaskLoop fuel s views = (.choose (some t), s')) :
    ∃ task, views.find? (fun v => v.id == t) = some task ∧ task.clock.le c = true := by
  fun_induction nextTaskLoop fuel s views
  case case5 s _ next _ task hfind s1 target ht hle =>
    cases (Prod.mk.inj h).1
    cases htarget.symm.trans ht
    exact ⟨task, hfind, hle⟩
  case case6 s _ _ _ _ _ s1 _ _ _ skipped s2 hskip ih =>
    rw [skipRandoms_spec] at hskip
    cases hskip
    exact ih htarget h
  case case7 s _ _ _ _ _ s1 hnone => cases htarget.symm.trans hnone
  -- the other branches answer with a panic or with `None`
  all_goals cases h

theorem msgFuel_ne : msgEndedEarly ≠ msgFuel ∧ msgExpectedSwitch ≠ msgFuel ∧ msgNotRunnable ≠ msgFuel := by
  decide +kernel

/-- the fuel given to the loop by `next_task` always suffices -/
theorem nextTaskLoop_fuel (fuel : Nat) (s : ReplayState) (views : List TaskView)
    (hle : s.steps ≤ s.schedule.steps.length) (h : s.schedule.steps.length + 1 - s.steps ≤ fuel) :
    (nextTaskLoop fuel s views).1 ≠ .panic msgFuel := by
  fun_induction nextTaskLoop fuel s views
  case case1 => omega
  case case3 => exact fun hh => msgFuel_ne.1 (SchedAns.panic.inj hh)
  case case4 => exact fun hh => msgFuel_ne.2.1 (SchedAns.panic.inj hh)
  case case9 => exact fun hh => msgFuel_ne.2.2 (SchedAns.panic.inj hh)
  case case6 s _ _ hstep _ _ s1 _ _ _ skipped s2 hskip ih =>
    -- the skipped step and the `Random` steps after it lie within the schedule, and each of them pays for fuel
    rw [skipRandoms_spec] at hskip
    cases hskip
    have hlt := (List.getElem?_eq_some_iff.mp hstep).1
    have hl := leadingRandoms_le (List.drop (s.steps + 1) s.schedule.steps)
    rw [List.length_drop] at hl
    exact ih (by simp only [s1]; omega) (by simp only [s1]; omega)
  -- the other branches answer with a choice
  all_goals exact fun hh => nomatch hh

end ShuttleProofs.Replay

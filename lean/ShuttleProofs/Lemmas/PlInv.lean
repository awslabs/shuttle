import ShuttleProofs.Lemmas.PlSem
/-
  The permit-accounting invariant of the parking_lot `RawRwLock` model and its preservation by
  every atomic step of the most-general client (`PlCfg.step`).

  The invariant is the same statement about each of the two semaphores (`SemInv`), so it is proved
  once for a semaphore `s`, the number `own p` of its permits a client in phase `p` holds and the
  request `w p` such a client is queued with.  A step of the lock calls one semaphore; for the other
  one the phases it passes through look the same (`Keeps`), which is all that semaphore's half of
  the invariant needs.
-/
namespace ShuttleProofs.Pl
open ShuttleModel

section
variable {w : PlPhase → Option Nat} {q gs : List (Nat × Nat)} {ph : List PlPhase} {t : Nat} {p : PlPhase}
  {g : PlPhase → PlPhase}

theorem QOk_append {n : Nat} (h : QOk w q ph) (ht : t < ph.length) (hw : w (phAt ph t) = some n) :
    QOk w (q ++ [(t, n)]) ph := by
  intro e he
  rcases List.mem_append.mp he with he | he
  · exact h e he
  · cases List.mem_singleton.mp he; exact ⟨ht, hw⟩

theorem not_mem_queue (h : QOk w q ph) (hw : w (phAt ph t) = none) : t ∉ q.map (·.1) := by
  intro hm
  obtain ⟨e, he, rfl⟩ := List.mem_map.mp hm
  exact nomatch hw ▸ (h e he).2

/-- the entries left in the queue are not touched by the grants -/
theorem QOk_advance_rest (h : QOk w (gs ++ q) ph) (hd : ∀ a ∈ gs.map (·.1), ∀ b ∈ q.map (·.1), a ≠ b) :
    QOk w q (PlCfg.advance g gs ph) := by
  intro e he
  rw [advance_length, advance_not_mem fun hm => hd _ hm _ (List.mem_map_of_mem he) rfl]
  exact h e (List.mem_append_right _ he)

theorem QOk_advance_keeps (hg : ∀ p, w (g p) = w p) (h : QOk w q ph) : QOk w q (PlCfg.advance g gs ph) := by
  intro e he
  rw [advance_length, advance_pointwise w hg]
  exact h e he

end

/-- permit accounting for one semaphore with `cap` permits: what it has left plus what the clients
own is `cap`; queued requests belong to clients waiting for exactly that; a client is queued at
most once -/
structure SemInv (cap : Nat) (own : PlPhase → Nat) (w : PlPhase → Option Nat) (s : FSem)
    (ph : List PlPhase) : Prop where
  acct : s.avail + total own ph = cap
  queued : QOk w s.queue ph
  nodup : (s.queue.map (·.1)).Nodup

/-- the phases `p` and `q` hold the same permits of a semaphore and wait for the same request: one
equation of pairs, so that `rfl` decides an instance -/
def Keeps (own : PlPhase → Nat) (w : PlPhase → Option Nat) (p q : PlPhase) : Prop :=
  (own q, w q) = (own p, w p)

section
variable {cap : Nat} {own : PlPhase → Nat} {w : PlPhase → Option Nat} {s : FSem} {ph : List PlPhase}
  {t : Nat} {p q : PlPhase}

/-- task `t` moves from phase `p` to `q`; the difference in what it owns comes out of, or goes
into, the available permits -/
theorem SemInv.move (h : SemInv cap own w s ph) (ht : t < ph.length) (hp : phAt ph t = p)
    (hw : t ∈ s.queue.map (·.1) → w q = w p) {a : Nat} (ha : a + own q = s.avail + own p) :
    SemInv cap own w { s with avail := a } (ph.set t q) := by
  refine ⟨?_, QOk_set h.queued (hp ▸ hw), h.nodup⟩
  have := total_set own ph t q ht
  have := h.acct
  rw [hp] at *
  show a + total own (ph.set t q) = cap
  omega

theorem SemInv.keep (h : SemInv cap own w s ph) (ht : t < ph.length) (hp : phAt ph t = p)
    (k : Keeps own w p q) : SemInv cap own w s (ph.set t q) :=
  h.move ht hp (fun _ => congrArg Prod.snd k) (congrArg (_ + ·.1) k)

theorem SemInv.tryAcq (h : SemInv cap own w s ph) (ht : t < ph.length) (hp : phAt ph t = p)
    {n : Nat} {s' : FSem} (hs : s.tryAcq n = some s') (ho : own q = n + own p) (hw : w q = w p) :
    SemInv cap own w s' (ph.set t q) := by
  obtain ⟨_, hn, rfl⟩ := tryAcq_eq_some.mp hs
  exact h.move ht hp (fun _ => hw) (by omega)

theorem SemInv.enqueue (h : SemInv cap own w s ph) (ht : t < ph.length) (hp : phAt ph t = p)
    {n : Nat} (hn : w p = none) (ho : own q = own p) (hw : w q = some n) :
    SemInv cap own w { s with queue := s.queue ++ [(t, n)] } (ph.set t q) := by
  have hnm := not_mem_queue h.queued (hp ▸ hn)
  have h' := h.move ht hp (q := q) (fun hm => absurd hm hnm) (congrArg _ ho)
  refine ⟨h'.acct, QOk_append h'.queued (by rwa [List.length_set]) (by rwa [phAt_set_eq ht]), ?_⟩
  show ((s.queue ++ [(t, n)]).map (·.1)).Nodup
  rw [List.map_append]
  exact (List.perm_append_singleton _ _).nodup_iff.mpr (List.nodup_cons.mpr ⟨hnm, h.nodup⟩)

theorem SemInv.acq (h : SemInv cap own w s ph) (ht : t < ph.length) (hp : phAt ph t = p)
    {n : Nat} {ok wait : PlPhase} (hn : w p = none)
    (hok : own ok = n + own p) (hokw : w ok = none) (hwait : own wait = own p) (hwaitw : w wait = some n) :
    SemInv cap own w (s.acq t n).2 (ph.set t (if (s.acq t n).1 then ok else wait)) := by
  unfold FSem.acq
  cases hs : s.tryAcq n with
  | some s' => exact h.tryAcq ht hp hs hok (hokw.trans hn.symm)
  | none => exact h.enqueue ht hp hn hwait hwaitw

/-- the second half of `FSem.rel`: the queue is served from what is available, and every client
served advances by `g` -/
theorem SemInv.grant (h : SemInv cap own w s ph) {g : PlPhase → PlPhase}
    (hg : ∀ p n, w p = some n → own (g p) = n + own p) :
    SemInv cap own w { avail := (FSem.grant s.queue s.avail).2.2, queue := (FSem.grant s.queue s.avail).2.1 }
      (PlCfg.advance g (FSem.grant s.queue s.avail).1 ph) := by
  have hs := grant_spec s.queue s.avail
  have hq := h.queued
  have hnd := h.nodup
  rw [hs.1] at hq
  rw [hs.1, List.map_append, List.nodup_append] at hnd
  refine ⟨?_, QOk_advance_rest hq hnd.2.2, hnd.2.1⟩
  have := advance_total (g := g) hg (fun e he => hq e (List.mem_append_left _ he)) hnd.1
  have := h.acct
  show (FSem.grant s.queue s.avail).2.2 + total own (PlCfg.advance g _ ph) = cap
  omega

/-- a task in no queue is not among those a release wakes: it is in the phase it moved to -/
theorem SemInv.phase_after_grant (h : SemInv cap own w s ph) (ht : t < ph.length) (hp : phAt ph t = p)
    (hn : w p = none) (g : PlPhase → PlPhase) (a : Nat) :
    phAt (PlCfg.advance g (FSem.grant s.queue a).1 (ph.set t q)) t = q := by
  rw [advance_not_mem fun hm => not_mem_queue h.queued (hp ▸ hn) (by
    rw [(grant_spec s.queue a).1, List.map_append]; exact List.mem_append_left _ hm)]
  exact phAt_set_eq ht

/-- grants made by the other semaphore -/
theorem SemInv.advance_keeps (h : SemInv cap own w s ph) {g : PlPhase → PlPhase}
    (hg : ∀ p, Keeps own w p (g p)) (gs : List (Nat × Nat)) :
    SemInv cap own w s (PlCfg.advance g gs ph) :=
  ⟨by rw [total, advance_map_eq own fun p => congrArg Prod.fst (hg p)]; exact h.acct,
   QOk_advance_keeps (fun p => congrArg Prod.snd (hg p)) h.queued, h.nodup⟩

theorem SemInv.two_le (h : SemInv cap own w s ph) (h0 : own .idle = 0) {u : Nat} (hne : t ≠ u) :
    own (phAt ph t) + own (phAt ph u) ≤ cap :=
  h.acct ▸ Nat.le_trans (total_ge_two own h0 ph t u hne) (Nat.le_add_left ..)

theorem SemInv.le (h : SemInv cap own w s ph) (h0 : own .idle = 0) : own (phAt ph t) ≤ cap :=
  h.acct ▸ Nat.le_trans (total_ge own h0 ph t) (Nat.le_add_left ..)

end

structure Inv (M : Nat) (c : PlCfg) : Prop where
  sem : SemInv M (PlPhase.semPermits M) (PlPhase.waitsSem M) c.sem c.ph
  up : SemInv 1 PlPhase.upPermits PlPhase.waitsUp c.up c.ph

theorem sem_grantSem (M : Nat) (p : PlPhase) (n : Nat) :
    p.waitsSem M = some n → p.grantSem.semPermits M = n + p.semPermits M := by
  fun_cases PlPhase.waitsSem M p <;> rintro ⟨⟩ <;> rfl

theorem up_grantUp (p : PlPhase) (n : Nat) :
    p.waitsUp = some n → p.grantUp.upPermits = n + p.upPermits := by
  fun_cases PlPhase.waitsUp p <;> rintro ⟨⟩ <;> rfl

/-- phase changes that `sem`, resp. `upgradable_sem`, does not see -/
abbrev KeepsSem (M : Nat) := Keeps (PlPhase.semPermits M) (PlPhase.waitsSem M)
abbrev KeepsUp := Keeps PlPhase.upPermits PlPhase.waitsUp

theorem keepsUp_grantSem (p : PlPhase) : KeepsUp p p.grantSem := by
  fun_cases PlPhase.grantSem p <;> rfl

theorem keepsSem_grantUp (M : Nat) (p : PlPhase) : KeepsSem M p p.grantUp := by
  fun_cases PlPhase.grantUp p <;> rfl

section
variable {M : Nat} {c : PlCfg} {t : Nat} {p q : PlPhase}

theorem inv_relSem (h : Inv M c) (ht : t < c.ph.length) (hp : c.phase t = p) {n : Nat}
    (hs : p.semPermits M = n + q.semPermits M) (hw : q.waitsSem M = p.waitsSem M) (ku : KeepsUp p q) :
    Inv M (c.relSem t q n) :=
  ⟨(h.sem.move ht hp (fun _ => hw) (a := c.sem.avail + n) (by omega)).grant (sem_grantSem M),
   (h.up.keep ht hp ku).advance_keeps keepsUp_grantSem _⟩

theorem inv_relUp (h : Inv M c) (ht : t < c.ph.length) (hp : c.phase t = p)
    (hu : p.upPermits = 1 + q.upPermits) (hw : q.waitsUp = p.waitsUp) (ks : KeepsSem M p q) :
    Inv M (c.relUp t q) :=
  ⟨(h.sem.keep ht hp ks).advance_keeps (keepsSem_grantUp M) _,
   (h.up.move ht hp (fun _ => hw) (a := c.up.avail + 1) (by omega)).grant up_grantUp⟩

theorem inv_trySem (h : Inv M c) (ht : t < c.ph.length) (hp : c.phase t = p) {n : Nat} {s : FSem}
    (hty : c.sem.tryAcq n = some s)
    (hs : q.semPermits M = n + p.semPermits M) (hw : q.waitsSem M = p.waitsSem M) (ku : KeepsUp p q) :
    Inv M { c with sem := s, ph := c.ph.set t q } :=
  ⟨h.sem.tryAcq ht hp hty hs hw, h.up.keep ht hp ku⟩

theorem inv_tryUp (h : Inv M c) (ht : t < c.ph.length) (hp : c.phase t = p) {s : FSem}
    (hty : c.up.tryAcq 1 = some s)
    (hu : q.upPermits = 1 + p.upPermits) (hw : q.waitsUp = p.waitsUp) (ks : KeepsSem M p q) :
    Inv M { c with up := s, ph := c.ph.set t q } :=
  ⟨h.sem.keep ht hp ks, h.up.tryAcq ht hp hty hu hw⟩

theorem inv_setPh (h : Inv M c) (ht : t < c.ph.length) (hp : c.phase t = p)
    (ks : KeepsSem M p q) (ku : KeepsUp p q) : Inv M (c.setPh t q) :=
  ⟨h.sem.keep ht hp ks, h.up.keep ht hp ku⟩

theorem inv_acqSem (h : Inv M c) (ht : t < c.ph.length) (hp : c.phase t = p) {n : Nat} {ok wait : PlPhase}
    (hn : p.waitsSem M = none)
    (hok : ok.semPermits M = n + p.semPermits M) (hokw : ok.waitsSem M = none)
    (hwait : wait.semPermits M = p.semPermits M) (hwaitw : wait.waitsSem M = some n)
    (kok : KeepsUp p ok) (kwait : KeepsUp p wait) :
    Inv M (c.acqSem t n ok wait) :=
  ⟨h.sem.acq ht hp hn hok hokw hwait hwaitw, h.up.keep ht hp (by split <;> assumption)⟩

theorem inv_acqUp (h : Inv M c) (ht : t < c.ph.length) (hp : c.phase t = p) {ok wait : PlPhase}
    (hn : p.waitsUp = none)
    (hok : ok.upPermits = 1 + p.upPermits) (hokw : ok.waitsUp = none)
    (hwait : wait.upPermits = p.upPermits) (hwaitw : wait.waitsUp = some 1)
    (kok : KeepsSem M p ok) (kwait : KeepsSem M p wait) :
    Inv M (c.acqUp t ok wait) :=
  ⟨h.sem.keep ht hp (by split <;> assumption), h.up.acq ht hp hn hok hokw hwait hwaitw⟩

end

theorem inv_init (M n : Nat) : Inv M (PlCfg.init M n) := by
  have hz : ∀ (f : PlPhase → Nat), f .idle = 0 → total f (List.replicate n PlPhase.idle) = 0 := by
    intro f hf
    induction n with
    | zero => rfl
    | succ n ih => rw [List.replicate_succ, total_cons, hf, ih]
  exact ⟨⟨congrArg _ (hz _ rfl), nofun, List.nodup_nil⟩, ⟨congrArg _ (hz _ rfl), nofun, List.nodup_nil⟩⟩

theorem step_lt {M : Nat} {c c' : PlCfg} {t : Nat} {a : PlAct} (hs : PlCfg.step M c t a = some c') :
    t < c.ph.length :=
  Nat.lt_of_not_ge fun h => by
    unfold PlCfg.step at hs
    rw [if_pos h] at hs
    cases hs

/-- Row by row through `PlCfg.step`: which semaphore is called with how many permits, and that the
phases before and after own and wait for what that call assumes and delivers (all by computation on
the phases; `MAX - 1` permits plus one make `MAX` because `1 ≤ M`). -/
theorem inv_step {M : Nat} (hM : 1 ≤ M) (c c' : PlCfg) (t : Nat) (a : PlAct) (h : Inv M c)
    (hs : PlCfg.step M c t a = some c') : Inv M c' := by
  have hM' : M = M - 1 + 1 := (Nat.sub_add_cancel hM).symm
  have ht := step_lt hs
  revert hs
  fun_cases PlCfg.step M c t a <;> rintro ⟨⟩
  -- lock_shared, try_lock_shared (taken / refused), unlock_shared
  · next hp => exact inv_acqSem h ht hp rfl rfl rfl rfl rfl rfl rfl
  · next hp s hty => exact inv_trySem h ht hp hty rfl rfl rfl
  · exact h
  · next hp => exact inv_relSem h ht hp rfl rfl rfl
  -- lock_exclusive, try_lock_exclusive, unlock_exclusive, downgrade
  · next hp => exact inv_acqSem h ht hp rfl rfl rfl rfl rfl rfl rfl
  · next hp s hty => exact inv_trySem h ht hp hty rfl rfl rfl
  · exact h
  · next hp => exact inv_relSem h ht hp rfl rfl rfl
  · next hp => exact inv_relSem h ht hp hM' rfl rfl
  -- lock_upgradable: the slot, then a shared permit
  · next hp => exact inv_acqUp h ht hp rfl rfl rfl rfl rfl rfl rfl
  · next hp => exact inv_acqSem h ht hp rfl rfl rfl rfl rfl rfl rfl
  -- try_lock_upgradable: the slot (taken / refused), `sem` (taken / refused), the rollback
  · next hp s hty => exact inv_tryUp h ht hp hty rfl rfl rfl
  · exact h
  · next hp s hty => exact inv_trySem h ht hp hty rfl rfl rfl
  · next hp _ => exact inv_setPh h ht hp rfl rfl
  · next hp => exact inv_relUp h ht hp rfl rfl rfl
  -- unlock_upgradable
  · next hp => exact inv_relSem h ht hp rfl rfl rfl
  · next hp => exact inv_relUp h ht hp rfl rfl rfl
  -- upgrade: the poll, the release of the read permit, the release of the slot
  · next hp => exact inv_acqSem h ht hp rfl rfl rfl rfl rfl rfl rfl
  · next hp => exact inv_relSem h ht hp rfl rfl rfl
  · next hp => exact inv_relUp h ht hp rfl rfl rfl
  -- try_upgrade (taken / refused), then the release of the slot
  · next hp s hty => exact inv_trySem h ht hp hty hM' rfl rfl
  · exact h
  · next hp => exact inv_relUp h ht hp rfl rfl rfl
  -- downgrade_upgradable
  · next hp => exact inv_relUp h ht hp rfl rfl rfl
  -- downgrade_to_upgradable
  · next hp => exact inv_acqUp h ht hp rfl rfl rfl rfl rfl rfl rfl
  · next hp => exact inv_relSem h ht hp hM' rfl rfl

/-- the configurations a most-general client can reach from the initial lock with `n` tasks -/
def Reachable (M n : Nat) (c : PlCfg) : Prop := ∃ acts, PlCfg.run M (PlCfg.init M n) acts = some c

theorem inv_run {M : Nat} (hM : 1 ≤ M) (c c' : PlCfg) (acts : List (Nat × PlAct)) (h : Inv M c)
    (hr : PlCfg.run M c acts = some c') : Inv M c' := by
  fun_induction PlCfg.run M c acts
  · cases hr; exact h
  · next hs ih => exact ih (inv_step hM _ _ _ _ h hs) hr
  · cases hr

theorem inv_reachable {M n : Nat} (hM : 1 ≤ M) (c : PlCfg) (h : Reachable M n c) : Inv M c := by
  obtain ⟨acts, hr⟩ := h
  exact inv_run hM _ c acts (inv_init M n) hr

end ShuttleProofs.Pl

import ShuttleProofs.Lemmas.SemBasic
/-
  The most-general client of the BatchSemaphore, over the PURE transition layer of
  `ShuttleModel/Prim/Sem.lean`.

  One `SemOp` is exactly the state update one of the `Prog` wrappers performs between two
  scheduling points:

  * `tryAcquire`     — `Sem.tryAcquire` after its `K.switch`: `acquirePermits`, then
                       `reblockEffs` on success;
  * `newAcq`         — `Sem.newAcquire` (`Acquire::new`, no scheduling point);
  * `poll`           — `Sem.poll` after its optional `K.switch`: the `!completed` assertion the
                       wrapper makes, then `SemState.pollPure`;  a *first* poll is `newAcq` followed
                       by `poll` (`stepPollNew`); both happen in the segment(s) of one task, but other
                       tasks may run in between, which the split covers;
  * `dropAcquire`    — `Sem.dropAcquire` (`Drop for Acquire`) up to its scheduling point: remove a
                       queued waiter / forget the waiter; when the waiter had been granted permits
                       that no completed poll consumed, the wrapper goes on with a full
                       `Sem.release w.n` (a scheduling point, hence a separate `release` op): the
                       step reports `dropped w.n`;
  * `release`        — `Sem.release` after its `K.switch`, not panicking: `releasePure`;
  * `poisonRelease`  — `Sem.release` after its `K.switch` while `should_stop()`: `releasePoison`;
  * `close`          — `Sem.close` after its `K.switch`: `closePure`.

  `fin : Nat → Bool` (which tasks have finished) is a parameter of every single step and may
  change arbitrarily from step to step.  Clocks are arbitrary parameters.  `step` ignores the
  `task` arguments; the ghost (`acquiredBy`, `releasedBy`) records them.

  Each pure transition preserves the invariant `Inv` and changes the conserved quantity
  `avail + pend` by exactly the permits it hands to / takes from the client.
-/
namespace ShuttleModel
namespace SemLts

inductive SemOp where
  | tryAcquire (task n : Nat) (clk : Clock)
  | newAcq (task n : Nat) (clk : Clock)
  | poll (wid me cxTask : Nat) (clk : Clock)
  | dropAcquire (task wid : Nat)
  | release (task n : Nat) (clk : Clock)
  | close
  | poisonRelease (task n : Nat)
deriving Repr

inductive Out where
  | tried (r : Except TryErr Unit)
  | created (wid : Nat)
  | polled (r : PollRes)
  /-- `toRelease` permits are handed to a full `release` by the wrapper -/
  | dropped (toRelease : Nat)
  | done

structure StepOut where
  s : SemState
  out : Out
  effs : List Eff := []

/-- the atomic state update of each wrapper; `.error msg` = the wrapper panics with `msg`
(no state update has been performed at that point) -/
def step (fin : Nat → Bool) (s : SemState) : SemOp → Except String StepOut
  | .tryAcquire _ n clk =>
    match s.acquirePermits n clk with
    | .error msg => .error msg
    | .ok (.ok (s', _)) => .ok { s := s', out := .tried (.ok ()), effs := s'.reblockEffs fin }
    | .ok (.error e) => .ok { s := s, out := .tried (.error e) }
  | .newAcq task n clk =>
    let (wid, s') := s.newAcquire task n clk
    .ok { s := s', out := .created wid }
  | .poll wid me cxTask clk =>
    match s.getW wid with
    | none => .error "poll: unknown Acquire"
    | some w =>
      if w.completed then .error "assertion failed: !self.completed"
      else match s.pollPure wid me cxTask clk fin with
        | .error msg => .error msg
        | .ok o => .ok { s := o.s, out := .polled o.res, effs := o.effs }
  | .dropAcquire _ wid =>
    match s.getW wid with
    | none => .ok { s := s, out := .dropped 0 }
    | some w =>
      if w.isQueued then
        match s.removeWaiterPure fin wid with
        | .error msg => .error msg
        | .ok (s', effs) => .ok { s := s'.dropW wid, out := .dropped 0, effs := effs }
      else if w.hasPermits && !w.completed then .ok { s := s.dropW wid, out := .dropped w.n }
      else .ok { s := s.dropW wid, out := .dropped 0 }
  | .release _ n clk =>
    if n = 0 then .ok { s := s, out := .done }
    else
      let (s', effs) := s.releasePure fin n clk
      .ok { s := s', out := .done, effs := effs }
  | .close =>
    let (s', effs) := s.closePure fin
    .ok { s := s', out := .done, effs := effs }
  | .poisonRelease _ n =>
    if n = 0 then .ok { s := s, out := .done }
    else .ok { s := s.releasePoison n, out := .done }

/-- `acquire(n)` polled once by its creator: `newAcq`, then `poll` of the new waiter -/
def stepPollNew (fin : Nat → Bool) (s : SemState) (task n : Nat) (clk : Clock) : Except String StepOut :=
  step fin (s.newAcquire task n clk).2 (.poll s.nextWid task task clk)

/-- semaphore state + ghost: `held` = the completed (`Ok`) acquisitions whose permits have not been
given back yet, as `(task, permits)`; `added` = permits released that were not held -/
structure G where
  s : SemState
  held : List (Nat × Nat) := []
  added : Nat := 0

def heldSum : List (Nat × Nat) → Nat
  | [] => 0
  | (_, n) :: rest => n + heldSum rest

/-- permits the step hands over to the client -/
def acquiredBy (s : SemState) : SemOp → Out → Option (Nat × Nat)
  | .tryAcquire task n _, .tried (.ok ()) => some (task, n)
  | .poll wid me _ _, .polled (.ready true) => (s.getW wid).map (fun w => (me, w.n))
  | .dropAcquire task _, .dropped (k + 1) => some (task, k + 1)
  | _, _ => none

/-- permits the step takes back from the client -/
def releasedBy : SemOp → Option (Nat × Nat)
  | .release task n _ => if n = 0 then none else some (task, n)
  | .poisonRelease task n => if n = 0 then none else some (task, n)
  | _ => none

/-- how many permits `acquiredBy` / `releasedBy` report -/
def permitsOf : Option (Nat × Nat) → Nat
  | none => 0
  | some (_, n) => n

/-- a release gives back a matching held acquisition when there is one, otherwise it adds permits -/
def giveBack (g : G) : Option (Nat × Nat) → G
  | none => g
  | some (task, n) =>
    if (task, n) ∈ g.held then { g with held := g.held.erase (task, n) }
    else { g with added := g.added + n }

/-- a completed acquisition enters `held` -/
def take (g : G) : Option (Nat × Nat) → G
  | none => g
  | some p => { g with held := p :: g.held }

def gstep (fin : Nat → Bool) (g : G) (op : SemOp) : Except String (G × Out × List Eff) :=
  match step fin g.s op with
  | .error msg => .error msg
  | .ok o =>
    let g1 := giveBack g (releasedBy op)
    let g2 := take g1 (acquiredBy g.s op o.out)
    .ok ({ g2 with s := o.s }, o.out, o.effs)

/-- states reachable by the most general client from `s0` -/
inductive Reach (s0 : SemState) : G → Prop
  | init : Reach s0 { s := s0 }
  | step {g g' : G} {fin : Nat → Bool} {op : SemOp} {out : Out} {effs : List Eff} :
      Reach s0 g → gstep fin g op = .ok (g', out, effs) → Reach s0 g'

/-- invariant of `PermitsAvailable`: the batch sizes add up to `num_available` (once the lazily
initialised deque exists) -/
def BatchOk (s : SemState) : Prop := ∀ b, s.batches = some b → bsum b = s.avail

/-- source invariant (1): the head waiter does not fit -/
def HeadBlocked (s : SemState) : Prop :=
  ∀ wid rest w, s.queue = wid :: rest → s.getW wid = some w → s.avail < w.n

structure Inv (s : SemState) : Prop where
  tq : TQ s.queue s.table s.nextWid
  batch : BatchOk s
  /-- source invariant (4) -/
  closedEmpty : s.closed = true → s.queue = []
  /-- source invariant (1) — holds for strictly fair semaphores only -/
  headBlocked : s.fair = true → HeadBlocked s

theorem Inv.open_of_queued {s : SemState} (hi : Inv s) {wid : Nat} {w : Waiter}
    (hw : s.getW wid = some w) (hq : w.isQueued = true) : s.closed = false :=
  Bool.eq_false_iff.mpr fun hc => by
    have hin := (hi.tq.queued_of_tget hw).mp hq
    rw [hi.closedEmpty hc] at hin; cases hin

theorem Inv.new (n : Nat) (fair : Bool) (c : Clock) : Inv (SemState.new n fair c) := by
  refine ⟨TQ.init _, ?_, by simp [SemState.new], ?_⟩
  · intro b hb
    simp only [SemState.new] at hb ⊢
    by_cases h : n > 0
    · simp only [h, if_true] at hb; cases hb; simp [bsum]
    · simp only [h, if_false] at hb; cases hb; simp [bsum]; omega
  · intro _ wid rest w hq; simp [SemState.new] at hq

theorem Inv.constNew (n : Nat) (fair : Bool) : Inv (SemState.constNew n fair) := by
  refine ⟨TQ.init _, ?_, by simp [SemState.constNew], ?_⟩
  · intro b hb; simp [SemState.constNew] at hb
  · intro _ wid rest w hq; simp [SemState.constNew] at hq

theorem bsum_initBatches {s : SemState} (h : BatchOk s) : bsum s.initBatches = s.avail := by
  unfold SemState.initBatches
  cases hb : s.batches with
  | some b => exact h b hb
  | none =>
    by_cases h0 : s.avail > 0
    · simp [h0, bsum]
    · simp [h0, bsum]; omega

theorem paAcquire_isSome (s : SemState) (n : Nat) (clk : Clock) :
    (s.paAcquire n clk).isSome = true ↔ n ≤ s.avail := by
  unfold SemState.paAcquire
  by_cases h0 : n = 0
  · simp [h0]
  · by_cases h1 : n ≤ s.avail
    · simp [h0, h1]
    · simp [h0, h1]

theorem paAcquire_none {s : SemState} {n : Nat} {clk : Clock} (h : s.paAcquire n clk = none) :
    s.avail < n := by
  have := paAcquire_isSome s n clk
  rw [h] at this
  simp at this; omega

structure PaFrame (s s' : SemState) : Prop where
  queue : s'.queue = s.queue
  table : s'.table = s.table
  nextWid : s'.nextWid = s.nextWid
  closed : s'.closed = s.closed
  fair : s'.fair = s.fair

theorem paAcquire_some {s s' : SemState} {n : Nat} {clk c : Clock}
    (h : s.paAcquire n clk = some (s', c)) :
    PaFrame s s' ∧ s'.avail + n = s.avail ∧ (BatchOk s → BatchOk s') := by
  revert h
  fun_cases SemState.paAcquire s n clk
  -- `n = 0`; `n ≤ avail`; otherwise `none`
  case case1 h0 => rintro ⟨⟩; exact ⟨⟨rfl, rfl, rfl, rfl, rfl⟩, by omega, id⟩
  case case2 h0 h1 bs _ htb =>
    rintro ⟨⟩
    refine ⟨⟨rfl, rfl, rfl, rfl, rfl⟩, Nat.sub_add_cancel h1, fun hb b hbb => ?_⟩
    cases hbb
    have h2 := takeBatches_sum n s.initBatches Clock.new (by rw [bsum_initBatches hb]; exact h1)
    rw [bsum_initBatches hb, htb] at h2
    exact Nat.eq_sub_of_add_eq h2
  case case3 => nofun

theorem paRelease_batchOk {s : SemState} (n : Nat) (c : Clock) (h : BatchOk s) :
    BatchOk (s.paRelease n c) := by
  intro b hb
  simp only [SemState.paRelease, Option.some.injEq] at hb ⊢
  subst hb
  rw [bsum_append, bsum_initBatches h]; simp [bsum]

/-- What `r = SemState.unblockFront fin q s` guarantees. `tq` and `cons` (conservation) assume
`TQ q s.table nx`, because the scan steps over a queue entry that has no table entry. -/
structure UFSpec (q : List Nat) (s : SemState) (r : SemState × List Eff) : Prop where
  fair : r.1.fair = s.fair
  closed : r.1.closed = s.closed
  nextWid : r.1.nextWid = s.nextWid
  tq : ∀ nx, TQ q s.table nx → TQ r.1.queue r.1.table nx
  batch : BatchOk s → BatchOk r.1
  cons : ∀ nx, TQ q s.table nx → r.1.avail + pend r.1.table = s.avail + pend s.table
  head : HeadBlocked r.1
  suffix : ∃ pre, q = pre ++ r.1.queue
  availLe : r.1.avail ≤ s.avail
  other : ∀ wid', wid' ∉ q → tget r.1.table wid' = tget s.table wid'

theorem wpend_of_queued {q T nx} (h : TQ q T nx) {w : Waiter} {wid : Nat}
    (hw : tget T wid = some w) (hq : wid ∈ q) : wpend w = 0 := by
  obtain ⟨hm, rfl⟩ := tget_some_mem hw
  have := h.queuedOk w hm ((h.queued_iff w hm).mpr hq)
  simp [wpend, this.1]

/-- the waiter as `unblock_waiters_from_front` leaves it when it grants the permits -/
def grantedW (w : Waiter) : Waiter := { w with isQueued := false, hasPermits := true, waker := none }
/-- … when it discards it as stale -/
def staleW (w : Waiter) : Waiter := { w with isQueued := false, waker := none }

/-- Induction along `unblock_waiters_from_front`. The scan ends with the queue or at the first live
waiter that does not fit; on its way it discards the waiters of finished tasks and grants the
others (`PermitsAvailable::acquire` cannot fail for a request that fits). -/
theorem unblockFront_induct (fin : Nat → Bool)
    {motive : List Nat → SemState → SemState × List Eff → Prop}
    (nil : ∀ s, motive [] s ({ s with queue := [] }, []))
    (skip : ∀ wid rest s r, s.getW wid = none → motive rest s r → motive (wid :: rest) s r)
    (stale : ∀ wid rest s w r, s.getW wid = some w → fin w.taskId = true →
      motive rest (s.setW (staleW w)) r → motive (wid :: rest) s r)
    (grant : ∀ wid rest s w s' c r, s.getW wid = some w → fin w.taskId = false →
      s.paAcquire w.n w.clock = some (s', c) → motive rest (s'.setW (grantedW w)) r →
      motive (wid :: rest) s (r.1, ([Eff.joinClock w.taskId c, Eff.unblock w.taskId] ++
        (match w.waker with | some t => [Eff.wake t] | none => [])) ++ r.2))
    (stop : ∀ wid rest s w, s.getW wid = some w → fin w.taskId = false → s.avail < w.n →
      motive (wid :: rest) s ({ s with queue := wid :: rest }, []))
    (q : List Nat) (s : SemState) : motive q s (SemState.unblockFront fin q s) := by
  fun_induction SemState.unblockFront fin q s
  -- `case4`: `paAcquire` returns `none` for a request that fits
  case case1 s => exact nil s
  case case2 hw ih => exact skip _ _ _ _ hw ih
  case case3 hw hf ih => exact stale _ _ _ _ _ hw hf ih
  case case4 hfit hpa => exact absurd (paAcquire_none hpa) (by omega)
  case case5 hw hf _ _ _ hpa _ _ _ _ hr ih =>
    have := grant _ _ _ _ _ _ _ hw (Bool.eq_false_iff.mpr hf) hpa ih
    rwa [hr] at this
  case case6 hw hf hfit => exact stop _ _ _ _ hw (Bool.eq_false_iff.mpr hf) (by omega)

theorem UFSpec.stop {q : List Nat} {s : SemState} (h : HeadBlocked { s with queue := q }) :
    UFSpec q s ({ s with queue := q }, []) where
  fair := rfl
  closed := rfl
  nextWid := rfl
  tq := fun _ h => h
  batch := id
  cons := fun _ _ => rfl
  head := h
  suffix := ⟨[], rfl⟩
  availLe := Nat.le_refl _
  other := fun _ _ => rfl

/-- one round of the scan: the head `w` is replaced by the unqueued `w'`, the permits that leave
`avail` (none, or `w.n`) are those `w'` now holds -/
theorem UFSpec.round {wid : Nat} {rest : List Nat} {s s1 : SemState} {w w' : Waiter}
    {r : SemState × List Eff} {effs : List Eff} (hw : s.getW wid = some w) (fr : PaFrame s s1)
    (hb : BatchOk s → BatchOk s1) (hwid : w'.wid = w.wid) (hq : w'.isQueued = false)
    (hav : w.hasPermits = false → w.completed = false → s1.avail + wpend w' = s.avail)
    (hle : s1.avail ≤ s.avail) (hi : UFSpec rest (s1.setW w') r) :
    UFSpec (wid :: rest) s (r.1, effs) := by
  have hwid' : w'.wid = wid := hwid.trans (tget_some_mem hw).2
  have hw1 : tget s1.table wid = some w := by rw [fr.table]; exact hw
  have hpop : ∀ nx, TQ (wid :: rest) s.table nx → TQ rest (s1.setW w').table nx := fun nx h => by
    rw [← fr.table] at h; exact h.pop hw1 hwid' hq
  obtain ⟨pre, hp⟩ := hi.suffix
  refine {
    fair := hi.fair.trans fr.fair
    closed := hi.closed.trans fr.closed
    nextWid := hi.nextWid.trans fr.nextWid
    tq := fun nx h => hi.tq nx (hpop nx h)
    batch := fun h => hi.batch (hb h)
    cons := ?_
    head := hi.head
    suffix := ⟨wid :: pre, congrArg (List.cons wid) hp⟩
    availLe := Nat.le_trans hi.availLe hle
    other := ?_ }
  · intro nx h
    have h1 := hi.cons nx (hpop nx h)
    have hq0 := h.queuedOk w (tget_some_mem hw).1 ((h.queued_of_tget hw).mpr (List.mem_cons_self ..))
    have h2 := pend_tset h.nodupT (w := w') (old := w) (by rw [hwid']; exact hw)
    have h3 := wpend_of_queued h hw (List.mem_cons_self ..)
    have h4 := hav hq0.1 hq0.2.1
    simp only [setW_table, setW_avail, fr.table] at h1 ⊢
    omega
  · intro wid' h'
    rw [hi.other wid' (fun hm => h' (List.mem_cons_of_mem _ hm))]
    simp only [setW_table, fr.table]
    exact tget_tset_ne (by rw [hwid']; exact fun e => h' (e ▸ List.mem_cons_self ..))

theorem unblockFront_spec (fin : Nat → Bool) (q : List Nat) (s : SemState) :
    UFSpec q s (SemState.unblockFront fin q s) := by
  refine unblockFront_induct fin (motive := UFSpec) ?_ ?_ ?_ ?_ ?_ q s
  · exact fun s => .stop fun _ _ _ hq => nomatch hq
  · intro wid rest s r hw hi
    -- the queue is a part of the table, so this does not happen where `TQ` holds
    have hno : ∀ nx, ¬ TQ (wid :: rest) s.table nx := fun nx h => by
      obtain ⟨w, hw', _⟩ := h.tget_of_mem_queue (List.mem_cons_self ..)
      cases hw.symm.trans hw'
    obtain ⟨pre, hp⟩ := hi.suffix
    exact { hi with
      tq := fun nx h => (hno nx h).elim
      cons := fun nx h => (hno nx h).elim
      suffix := ⟨wid :: pre, congrArg (List.cons wid) hp⟩
      other := fun wid' h' => hi.other wid' (fun hm => h' (List.mem_cons_of_mem _ hm)) }
  · intro wid rest s w r hw _ hi
    exact .round (w' := staleW w) (effs := r.2) hw ⟨rfl, rfl, rfl, rfl, rfl⟩ id rfl rfl
      (fun hp _ => by simp [wpend, staleW, hp]) (Nat.le_refl _) hi
  · intro wid rest s w s' c r hw _ hpa hi
    obtain ⟨fr, hav, hbo⟩ := paAcquire_some hpa
    exact .round (w' := grantedW w) hw fr hbo rfl rfl
      (fun _ hc => by simp [wpend, grantedW, hc]; exact hav) (by omega) hi
  · intro wid rest s w hw _ hlt
    refine .stop fun wid' rest' w' hq hg => ?_
    obtain ⟨rfl, _⟩ := List.cons.inj hq
    cases hw.symm.trans hg
    exact hlt

/-- a scan of the whole queue re-establishes source invariant (1): from a state that satisfies the
other clauses of `Inv` it ends in one that satisfies `Inv` -/
theorem UFSpec.inv {s : SemState} {r : SemState × List Eff} (sp : UFSpec s.queue s r)
    (htq : TQ s.queue s.table s.nextWid) (hb : BatchOk s) (hc : s.closed = true → s.queue = []) :
    Inv r.1 ∧ r.1.avail + pend r.1.table = s.avail + pend s.table := by
  refine ⟨⟨sp.nextWid ▸ sp.tq _ htq, sp.batch hb, fun hcl => ?_, fun _ => sp.head⟩, sp.cons _ htq⟩
  obtain ⟨pre, hp⟩ := sp.suffix
  rw [hc (sp.closed ▸ hcl)] at hp
  exact (List.append_eq_nil_iff.mp hp.symm).2

theorem acquirePermits_spec (s : SemState) (n : Nat) (c : Clock) :
    match s.acquirePermits n c with
    | .error _ => n = 0
    | .ok (.error .closed) => 0 < n ∧ s.closed = true
    | .ok (.ok r) =>
      0 < n ∧ s.closed = false ∧ (s.queue = [] ∨ s.fair = false) ∧ s.paAcquire n c = some r
    | .ok (.error .noPermits) =>
      0 < n ∧ s.closed = false ∧ ((s.queue ≠ [] ∧ s.fair = true) ∨ s.avail < n) := by
  fun_cases SemState.acquirePermits s n c
  -- `n = 0`; closed; `paAcquire` gives `some` / `none`; fair and somebody queued
  case case1 h => exact h
  case case2 h0 hc => exact ⟨Nat.pos_of_ne_zero h0, hc⟩
  case case3 h0 hc hq r hpa =>
    exact ⟨Nat.pos_of_ne_zero h0, Bool.eq_false_iff.mpr hc, by simpa using hq, hpa⟩
  case case4 h0 hc hq hpa =>
    exact ⟨Nat.pos_of_ne_zero h0, Bool.eq_false_iff.mpr hc, .inr (paAcquire_none hpa)⟩
  case case5 h0 hc hq =>
    exact ⟨Nat.pos_of_ne_zero h0, Bool.eq_false_iff.mpr hc, .inl (by simpa using hq)⟩

theorem acquirePermits_ok {s s' : SemState} {n : Nat} {c pc : Clock}
    (h : s.acquirePermits n c = .ok (.ok (s', pc))) :
    0 < n ∧ s.closed = false ∧ (s.queue = [] ∨ s.fair = false) ∧ s.paAcquire n c = some (s', pc) := by
  have := acquirePermits_spec s n c
  rwa [h] at this

theorem acquirePermits_noPermits {s : SemState} {n : Nat} {c : Clock}
    (h : s.acquirePermits n c = .ok (.error .noPermits)) :
    0 < n ∧ s.closed = false ∧
      ((s.queue ≠ [] ∧ s.fair = true) ∨ s.avail < n) := by
  have := acquirePermits_spec s n c
  rwa [h] at this

theorem acquirePermits_closed {s : SemState} {n : Nat} {c : Clock}
    (h : s.acquirePermits n c = .ok (.error .closed)) : s.closed = true := by
  have := acquirePermits_spec s n c
  rw [h] at this
  exact this.2

theorem acquirePermits_defined (s : SemState) {n : Nat} (c : Clock) (hn : 0 < n) :
    ∃ r, s.acquirePermits n c = .ok r := by
  have := acquirePermits_spec s n c
  cases h : s.acquirePermits n c with
  | ok r => exact ⟨r, rfl⟩
  | error => rw [h] at this; exact absurd this (Nat.ne_of_gt hn)

theorem acquirePermits_ok_iff (s : SemState) (n : Nat) (c : Clock) :
    (∃ s' pc, s.acquirePermits n c = .ok (.ok (s', pc))) ↔
      0 < n ∧ s.closed = false ∧ (s.queue = [] ∨ s.fair = false) ∧ n ≤ s.avail := by
  constructor
  · rintro ⟨s', pc, h⟩
    obtain ⟨h1, h2, h3, h4⟩ := acquirePermits_ok h
    exact ⟨h1, h2, h3, (paAcquire_isSome s n c).mp (by rw [h4]; rfl)⟩
  · rintro ⟨h1, h2, h3, h4⟩
    have := acquirePermits_spec s n c
    split at this
    · exact absurd this (Nat.ne_of_gt h1)
    · rw [h2] at this; cases this.2
    · next r e => exact ⟨r.1, r.2, e⟩
    · rcases this.2.2 with ⟨hq, hf⟩ | hlt
      · exact (h3.elim hq (fun h => by rw [hf] at h; cases h)).elim
      · exact absurd h4 (Nat.not_le_of_gt hlt)

theorem acquirePermits_frame {s s' : SemState} {n : Nat} {c pc : Clock}
    (h : s.acquirePermits n c = .ok (.ok (s', pc))) : PaFrame s s' ∧ s'.avail + n = s.avail :=
  let ⟨fr, hav, _⟩ := paAcquire_some (acquirePermits_ok h).2.2.2
  ⟨fr, hav⟩

theorem acquirePermits_inv {s s' : SemState} {n : Nat} {c pc : Clock} (hi : Inv s)
    (h : s.acquirePermits n c = .ok (.ok (s', pc))) :
    Inv s' ∧ s'.avail + n = s.avail ∧ s'.table = s.table ∧ s'.queue = s.queue ∧
      s'.closed = s.closed ∧ s'.fair = s.fair ∧ s'.nextWid = s.nextWid := by
  obtain ⟨_, _, hq, hpa⟩ := acquirePermits_ok h
  obtain ⟨fr, hav, hb⟩ := paAcquire_some hpa
  refine ⟨⟨?_, hb hi.batch, ?_, ?_⟩, hav, fr.table, fr.queue, fr.closed, fr.fair, fr.nextWid⟩
  · rw [fr.queue, fr.table, fr.nextWid]; exact hi.tq
  · rw [fr.queue, fr.closed]; exact hi.closedEmpty
  · -- in fair mode the permits were taken from an empty queue
    intro hf wid rest w hqq
    rw [fr.fair] at hf
    rw [fr.queue] at hqq
    rcases hq with hq | hq
    · rw [hq] at hqq; cases hqq
    · rw [hq] at hf; cases hf

def clearStep (f : Waiter → Waiter) (s : SemState) (wid : Nat) : SemState :=
  match s.getW wid with
  | some w => s.setW (f w)
  | none => s

structure ClearSpec (s r : SemState) (nx : Nat) : Prop where
  tq : TQ [] r.table nx
  pend : pend r.table = pend s.table
  avail : r.avail = s.avail
  batches : r.batches = s.batches
  fair : r.fair = s.fair
  nextWid : r.nextWid = s.nextWid
  closed : r.closed = s.closed

theorem clear_spec (f : Waiter → Waiter)
    (hf : ∀ w, (f w).wid = w.wid ∧ (f w).isQueued = false ∧ wpend (f w) = wpend w)
    (q : List Nat) (s : SemState) (nx : Nat) (h : TQ q s.table nx) :
    ClearSpec s (q.foldl (clearStep f) s) nx := by
  induction q generalizing s with
  | nil => exact ⟨h, rfl, rfl, rfl, rfl, rfl, rfl⟩
  | cons wid rest ih =>
    simp only [List.foldl_cons]
    obtain ⟨w, hw, _⟩ := h.tget_of_mem_queue (List.mem_cons_self ..)
    have hstep : clearStep f s wid = s.setW (f w) := by
      simp only [clearStep, getW_eq, hw]
    rw [hstep]
    have h1 := ih (s.setW (f w)) (by
      simp only [setW_table]
      exact h.pop hw (by rw [(hf w).1]; exact (tget_some_mem hw).2) (hf w).2.1)
    have h2 := pend_tset h.nodupT (w := f w) (old := w) (by
      rw [(hf w).1, (tget_some_mem hw).2]; exact hw)
    refine { h1 with pend := ?_ }
    rw [h1.pend]; simp only [setW_table]
    have := (hf w).2.2
    omega

theorem paRelease_frame (s : SemState) (n : Nat) (c : Clock) :
    PaFrame s (s.paRelease n c) ∧ (s.paRelease n c).avail = s.avail + n :=
  ⟨⟨rfl, rfl, rfl, rfl, rfl⟩, rfl⟩

theorem releasePure_fair (fin : Nat → Bool) {s : SemState} (n : Nat) (c : Clock) (hf : s.fair = true) :
    s.releasePure fin n c = SemState.unblockFront fin s.queue (s.paRelease n c) :=
  if_pos (c := (s.paRelease n c).fair = true) hf

theorem releasePure_unfair_state (fin : Nat → Bool) {s : SemState} (n : Nat) (c : Clock)
    (hf : s.fair = false) : (s.releasePure fin n c).1 = s.paRelease n c :=
  congrArg Prod.fst (if_neg (c := (s.paRelease n c).fair = true) (Bool.eq_false_iff.mp hf))

theorem releasePure_spec (fin : Nat → Bool) {s : SemState} (n : Nat) (c : Clock) (hi : Inv s) :
    Inv (s.releasePure fin n c).1 ∧
      (s.releasePure fin n c).1.avail + pend (s.releasePure fin n c).1.table
        = s.avail + pend s.table + n := by
  cases hf : s.fair with
  | true =>
    rw [releasePure_fair fin n c hf]
    obtain ⟨i, hc⟩ := (unblockFront_spec fin _ (s.paRelease n c)).inv hi.tq
      (paRelease_batchOk n c hi.batch) hi.closedEmpty
    exact ⟨i, hc.trans (Nat.add_right_comm ..)⟩
  | false =>
    rw [releasePure_unfair_state fin n c hf]
    exact ⟨⟨hi.tq, paRelease_batchOk n c hi.batch, hi.closedEmpty, fun h => absurd (h.symm.trans hf) nofun⟩,
      Nat.add_right_comm ..⟩

theorem releasePoison_eq (s : SemState) (n : Nat) :
    s.releasePoison n =
      { ((s.paRelease n Clock.new).queue.foldl (clearStep (fun w => { w with isQueued := false }))
          (s.paRelease n Clock.new)) with queue := [], closed := true } := rfl

theorem closePure_eq (fin : Nat → Bool) (s : SemState) (h : s.closed = false) :
    (s.closePure fin).1 =
      { (s.queue.foldl (clearStep (fun w => { w with isQueued := false, waker := none })) s)
          with closed := true, queue := [] } := by
  simp only [SemState.closePure, h, Bool.false_eq_true, if_false]
  rfl

theorem ClearSpec.inv {s r : SemState} (cs : ClearSpec s r s.nextWid) (hb : BatchOk s) :
    Inv { r with queue := [], closed := true } :=
  ⟨cs.nextWid ▸ cs.tq, fun b h => (hb b (cs.batches ▸ h)).trans cs.avail.symm, fun _ => rfl,
    fun _ _ _ _ hq => nomatch hq⟩

theorem releasePoison_spec {s : SemState} (n : Nat) (hi : Inv s) :
    Inv (s.releasePoison n) ∧
      (s.releasePoison n).avail + pend (s.releasePoison n).table = s.avail + pend s.table + n ∧
      (s.releasePoison n).closed = true ∧ (s.releasePoison n).queue = [] := by
  rw [releasePoison_eq]
  have cs := clear_spec (fun w => { w with isQueued := false }) (fun w => ⟨rfl, rfl, rfl⟩)
    (s.paRelease n Clock.new).queue (s.paRelease n Clock.new) s.nextWid hi.tq
  refine ⟨cs.inv (paRelease_batchOk n Clock.new hi.batch), ?_, rfl, rfl⟩
  simp only
  rw [cs.avail, cs.pend]; exact Nat.add_right_comm ..

theorem closePure_spec (fin : Nat → Bool) {s : SemState} (hi : Inv s) :
    Inv (s.closePure fin).1 ∧ (s.closePure fin).1.avail = s.avail ∧
      pend (s.closePure fin).1.table = pend s.table ∧
      (s.closePure fin).1.closed = true ∧ (s.closePure fin).1.queue = [] := by
  cases hc : s.closed with
  | true =>
    rw [show s.closePure fin = (s, []) from if_pos hc]
    exact ⟨hi, rfl, rfl, hc, hi.closedEmpty hc⟩
  | false =>
    rw [closePure_eq fin s hc]
    have cs := clear_spec (fun w => { w with isQueued := false, waker := none })
      (fun w => ⟨rfl, rfl, rfl⟩) s.queue s s.nextWid hi.tq
    exact ⟨cs.inv hi.batch, cs.avail, cs.pend, rfl, rfl⟩

theorem findIdx_wid_spec {q : List Nat} {wid idx : Nat} (h : q.findIdx? (· == wid) = some idx) :
    q.eraseIdx idx = q.erase wid ∧ wid ∈ q ∧ (idx ≠ 0 → ∃ hd rest, q = hd :: rest ∧ hd ≠ wid) := by
  induction q generalizing idx with
  | nil => simp at h
  | cons x xs ih =>
    rw [List.findIdx?_cons] at h
    by_cases hx : x = wid
    · subst hx
      simp only [beq_self_eq_true, if_true, Option.some.injEq] at h
      subst h
      exact ⟨by simp, by simp, fun h => absurd rfl h⟩
    · have hx' : (x == wid) = false := by simpa using hx
      simp only [hx', Bool.false_eq_true, if_false, Option.map_eq_some_iff] at h
      obtain ⟨j, hj, rfl⟩ := h
      obtain ⟨h1, h2, _⟩ := ih hj
      refine ⟨?_, List.mem_cons_of_mem _ h2, fun _ => ⟨x, xs, rfl, hx⟩⟩
      rw [List.eraseIdx_cons_succ, h1, List.erase_cons_tail (by simpa using hx)]

/-- the state of `remove_waiter` after taking the waiter out of the queue -/
def rmState (s : SemState) (w : Waiter) (idx : Nat) : SemState :=
  ({ s with queue := s.queue.eraseIdx idx }).setW { w with isQueued := false }

theorem removeWaiterPure_eq (fin : Nat → Bool) {s : SemState} {wid idx : Nat} {w : Waiter}
    (hw : s.getW wid = some w) (hc : s.closed = false) (hp : w.hasPermits = false)
    (hidx : s.queue.findIdx? (· == wid) = some idx) :
    s.removeWaiterPure fin wid =
      if (s.fair && idx == 0) = true then
        .ok (SemState.unblockFront fin (rmState s w idx).queue (rmState s w idx))
      else .ok (rmState s w idx, []) := by
  unfold SemState.removeWaiterPure
  rw [hw]
  simp only
  rw [if_neg (by simp [hc]), if_neg (by simp [hp]), hidx]
  rfl

theorem rmState_tq {s : SemState} {wid idx : Nat} {w : Waiter} (hi : Inv s)
    (hw : s.getW wid = some w) (hidx : s.queue.findIdx? (· == wid) = some idx) :
    TQ (rmState s w idx).queue (rmState s w idx).table s.nextWid ∧
      (rmState s w idx).queue = s.queue.erase wid := by
  obtain ⟨he, _, _⟩ := findIdx_wid_spec hidx
  have hwid : w.wid = wid := (tget_some_mem hw).2
  have r_queue : (rmState s w idx).queue = s.queue.erase wid := by rw [← he]; rfl
  have r_table : (rmState s w idx).table = tset s.table { w with isQueued := false } := rfl
  refine ⟨?_, r_queue⟩
  have := hi.tq.erase (w := w) (w' := { w with isQueued := false })
    (by rw [← getW_eq]; simpa [hwid] using hw) rfl
  rw [r_queue, r_table]
  simpa [hwid] using this

structure RemoveSpec (s s' : SemState) (wid : Nat) (w : Waiter) : Prop where
  inv : Inv s'
  cons : s'.avail + pend s'.table = s.avail + pend s.table
  getW : s'.getW wid = some { w with isQueued := false }
  notQueued : wid ∉ s'.queue
  fair : s'.fair = s.fair
  nextWid : s'.nextWid = s.nextWid
  closed : s'.closed = false
  availLe : s'.avail ≤ s.avail
  queueSub : s'.queue.Sublist s.queue
  unfair : s.fair = false → s'.avail = s.avail ∧ s'.queue = s.queue.erase wid

theorem removeWaiterPure_pre {fin : Nat → Bool} {s s' : SemState} {effs : List Eff} {wid : Nat}
    (h : s.removeWaiterPure fin wid = .ok (s', effs)) :
    ∃ w idx, s.getW wid = some w ∧ s.closed = false ∧ w.hasPermits = false ∧
      s.queue.findIdx? (· == wid) = some idx := by
  revert h
  fun_cases SemState.removeWaiterPure fin s wid
  -- four errors; then with / without a scan of the queue
  case case1 | case2 | case3 | case4 => nofun
  case case5 w hw hc hp idx hidx _ _ _ | case6 w hw hc hp idx hidx _ _ _ =>
    exact fun _ => ⟨w, idx, hw, Bool.eq_false_iff.mpr hc, Bool.eq_false_iff.mpr hp, hidx⟩

theorem removeWaiterPure_spec (fin : Nat → Bool) {s s' : SemState} {effs : List Eff} {wid : Nat}
    (hi : Inv s) (h : s.removeWaiterPure fin wid = .ok (s', effs)) :
    ∃ w, s.getW wid = some w ∧ w.isQueued = true ∧ RemoveSpec s s' wid w := by
  obtain ⟨w, idx, hw, hnc, hp, hidx⟩ := removeWaiterPure_pre h
  rw [removeWaiterPure_eq fin hw hnc hp hidx] at h
  obtain ⟨_, hmem, hne⟩ := findIdx_wid_spec hidx
  have hwid : w.wid = wid := (tget_some_mem hw).2
  obtain ⟨htq, r_queue⟩ := rmState_tq hi hw hidx
  have hpend : pend (rmState s w idx).table = pend s.table := by
    have := pend_tset hi.tq.nodupT (w := { w with isQueued := false }) (old := w) (hwid ▸ hw)
    have h4 : wpend { w with isQueued := false } = wpend w := rfl
    show pend (tset s.table { w with isQueued := false }) = _
    omega
  have hget : (rmState s w idx).getW wid = some { w with isQueued := false } :=
    getW_setW_of (s := { s with queue := s.queue.eraseIdx idx }) hw hwid
  have hnotin : wid ∉ (rmState s w idx).queue := by
    rw [r_queue, hi.tq.nodupQ.mem_erase_iff]; simp
  have hopen : s.closed = true → (rmState s w idx).queue = [] := fun hcl => by rw [hnc] at hcl; cases hcl
  refine ⟨w, hw, (hi.tq.queued_of_tget hw).mpr hmem, ?_⟩
  by_cases hb : (s.fair && idx == 0) = true
  · -- the head of a fair queue was removed: the scan re-establishes invariant (1)
    rw [if_pos hb] at h
    have sp := unblockFront_spec fin (rmState s w idx).queue (rmState s w idx)
    rw [Except.ok.inj h] at sp
    obtain ⟨pre, hpre⟩ := sp.suffix
    obtain ⟨i, c⟩ := sp.inv htq hi.batch hopen
    have hsuf : s'.queue.Sublist (rmState s w idx).queue := hpre ▸ List.sublist_append_right pre _
    exact {
      inv := i
      cons := c.trans (congrArg (s.avail + ·) hpend)
      getW := (sp.other wid hnotin).trans hget
      notQueued := fun hin => hnotin (hsuf.subset hin)
      fair := sp.fair
      nextWid := sp.nextWid
      closed := sp.closed.trans hnc
      availLe := sp.availLe
      queueSub := hsuf.trans (r_queue ▸ List.erase_sublist)
      unfair := fun hf => by simp [hf] at hb }
  · -- otherwise the head stays the head
    rw [if_neg hb] at h
    obtain ⟨rfl, _⟩ := Prod.mk.inj (Except.ok.inj h)
    refine {
      inv := ⟨htq, hi.batch, hopen, fun hf wid0 rest0 w0 hq0 hg0 => ?_⟩
      cons := congrArg (s.avail + ·) hpend
      getW := hget
      notQueued := hnotin
      fair := rfl
      nextWid := rfl
      closed := hnc
      availLe := Nat.le_refl _
      queueSub := r_queue ▸ List.erase_sublist
      unfair := fun _ => ⟨rfl, r_queue⟩ }
    have hf : s.fair = true := hf
    obtain ⟨hd, rest, hqe, hdne⟩ := hne (by simpa [hf] using hb)
    rw [r_queue, hqe, List.erase_cons_tail (by simpa using hdne)] at hq0
    obtain ⟨rfl, _⟩ := List.cons.inj hq0
    exact hi.headBlocked hf hd rest w0 hqe ((getW_setW_ne (hwid ▸ hdne)).symm.trans hg0)

end SemLts
end ShuttleModel

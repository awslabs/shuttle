/-
  Varints.  The writer and the reader's loop get one equation per kind of byte (last byte,
  continuation byte, tenth byte); `readVarint` is the loop entered at `result = 0`, `offset = 0`, so
  the round trip, the failure on strict prefixes and the `u64` bound are proved about the loop, by
  induction along `offset + 7 * k = 56`.
-/
import ShuttleModel.Serialize

namespace ShuttleModel

theorem writeVarintAux_of_lt (f : Nat) {v : Nat} (h : v < 128) : writeVarintAux (f + 1) v = [v] := by
  rw [writeVarintAux, if_pos (Nat.div_eq_of_lt h), Nat.mod_eq_of_lt h]

theorem writeVarintAux_of_ge (f : Nat) {v : Nat} (h : 128 ≤ v) :
    writeVarintAux (f + 1) v = (v % 128 + 128) :: writeVarintAux f (v / 128) := by
  rw [writeVarintAux, if_neg (Nat.ne_of_gt (Nat.div_pos h (by decide)))]

theorem writeVarintAux_ne_nil (f v : Nat) : writeVarintAux (f + 1) v ≠ [] := by
  unfold writeVarintAux; split <;> simp

theorem writeVarintAux_lt (f v : Nat) : ∀ b ∈ writeVarintAux f v, b < 256 := by
  fun_induction writeVarintAux f v with
  | case1 => intro b hb; cases hb
  | case2 => exact List.forall_mem_singleton.2 (by omega)
  | case3 f v _ ih => exact List.forall_mem_cons.2 ⟨by omega, ih⟩

theorem writeVarint_lt (v : Nat) : ∀ b ∈ writeVarint v, b < 256 := writeVarintAux_lt 10 v

theorem readVarintLoop_last {b : Nat} (h : b < 128) (result offset : Nat) (rest : List Nat) :
    readVarintLoop result offset (b :: rest) = some (result + b * 2 ^ offset, rest) := by
  rw [readVarintLoop, if_pos (Nat.div_eq_of_lt h), Nat.mod_eq_of_lt h]

theorem readVarintLoop_cont {b offset : Nat} (h : 128 ≤ b) (ho : offset + 7 ≠ 63) (result : Nat)
    (rest : List Nat) :
    readVarintLoop result offset (b :: rest)
      = readVarintLoop (result + b % 128 * 2 ^ offset) (offset + 7) rest := by
  rw [readVarintLoop, if_neg (Nat.ne_of_gt (Nat.div_pos h (by decide))), if_neg ho]

/-- After nine continuation bytes the tenth byte must be `0x01`, the top bit of a `u64`. -/
theorem readVarintLoop_tenth {b : Nat} (h : 128 ≤ b) (result last : Nat) (rest : List Nat) :
    readVarintLoop result 56 (b :: last :: rest)
      = if last = 1 then some (result + b % 128 * 2 ^ 56 + 2 ^ 63, rest) else none := by
  rw [readVarintLoop, if_neg (Nat.ne_of_gt (Nat.div_pos h (by decide))), if_pos rfl]

theorem readVarintLoop_tenth_eof {b : Nat} (h : 128 ≤ b) (result : Nat) :
    readVarintLoop result 56 [b] = none := by
  rw [readVarintLoop, if_neg (Nat.ne_of_gt (Nat.div_pos h (by decide))), if_pos rfl]

/-- The reader treats its first byte like the loop does at `result = 0`, `offset = 0`; the Rust code
    only saves the shift. -/
theorem readVarint_eq_loop (bs : List Nat) : readVarint bs = readVarintLoop 0 0 bs := by
  cases bs with
  | nil => rfl
  | cons b bs =>
    rw [readVarint]
    by_cases h : b < 128
    · rw [if_pos (Nat.div_eq_of_lt h), readVarintLoop_last h, Nat.zero_add, Nat.pow_zero, Nat.mul_one]
    · rw [if_neg (Nat.ne_of_gt (Nat.div_pos (Nat.le_of_not_lt h) (by decide))),
        readVarintLoop_cont (Nat.le_of_not_lt h) (by decide), Nat.zero_add, Nat.pow_zero, Nat.mul_one]

theorem mod_add_div_mul (v b p : Nat) : v % b * p + v / b * (b * p) = v * p := by
  rw [← Nat.mul_assoc, ← Nat.add_mul, Nat.mul_comm _ b, Nat.mod_add_div]

/-- `k` counts the continuation bytes the reader still accepts before the tenth byte; the writer
    then needs at most `k + 2` iterations for a value that fits the `64 - offset = 7 * k + 8` bits left. -/
theorem readVarintLoop_writeVarintAux (k : Nat) : ∀ (v result offset : Nat) (rest : List Nat),
    offset + 7 * k = 56 → v < 2 ^ (7 * k + 8) →
    readVarintLoop result offset (writeVarintAux (k + 2) v ++ rest)
      = some (result + v * 2 ^ offset, rest) := by
  induction k with
  | zero =>
    intro v result offset rest ho hv
    obtain rfl : offset = 56 := ho
    have hv : v < 256 := hv
    by_cases h : v < 128
    · rw [writeVarintAux_of_lt _ h]; exact readVarintLoop_last h ..
    · have h1 : v / 128 = 1 := by omega
      rw [writeVarintAux_of_ge _ (Nat.le_of_not_lt h), h1, writeVarintAux_of_lt 0 (by decide),
        List.cons_append, List.singleton_append, readVarintLoop_tenth (Nat.le_add_left ..),
        if_pos rfl, Nat.add_mod_right, Nat.mod_mod, Nat.add_assoc, ← mod_add_div_mul v 128 (2 ^ 56), h1]
  | succ k ih =>
    intro v result offset rest ho hv
    by_cases h : v < 128
    · rw [writeVarintAux_of_lt _ h]; exact readVarintLoop_last h ..
    · rw [show 7 * (k + 1) + 8 = 7 * k + 8 + 7 by omega, Nat.pow_add, Nat.mul_comm] at hv
      rw [writeVarintAux_of_ge _ (Nat.le_of_not_lt h), List.cons_append,
        readVarintLoop_cont (Nat.le_add_left ..) (by omega), Nat.add_mod_right, Nat.mod_mod,
        ih (v / 128) _ (offset + 7) rest (by omega) (Nat.div_lt_of_lt_mul hv),
        Nat.add_assoc, Nat.pow_add, Nat.mul_comm (2 ^ offset), mod_add_div_mul]

theorem readVarint_writeVarint (v : Nat) (hv : v < 2 ^ 64) (rest : List Nat) :
    readVarint (writeVarint v ++ rest) = some (v, rest) := by
  rw [readVarint_eq_loop, writeVarint, readVarintLoop_writeVarintAux 8 v 0 0 rest rfl hv, Nat.zero_add,
    Nat.pow_zero, Nat.mul_one]

/-- The input ends first, or the tenth byte is not `0x01`. -/
theorem readVarintLoop_of_all_cont (bs : List Nat) (h : ∀ b ∈ bs, 128 ≤ b) :
    ∀ result offset, readVarintLoop result offset bs = none := by
  induction bs with
  | nil => intro _ _; rfl
  | cons b bs ih =>
    intro result offset
    rw [List.forall_mem_cons] at h
    by_cases ho : offset + 7 = 63
    · obtain rfl : offset = 56 := by omega
      cases bs with
      | nil => exact readVarintLoop_tenth_eof h.1 _
      | cons l bs =>
        have := h.2 l (List.mem_cons_self ..)
        rw [readVarintLoop_tenth h.1, if_neg (by omega)]
    · rw [readVarintLoop_cont h.1 ho]
      exact ih h.2 _ _

theorem writeVarintAux_take_all_cont (f : Nat) : ∀ (v i : Nat), i < (writeVarintAux f v).length →
    ∀ b ∈ (writeVarintAux f v).take i, 128 ≤ b := by
  induction f with
  | zero => intro v i hi; cases hi
  | succ f ih =>
    intro v i hi
    cases i with
    | zero => intro b hb; cases hb
    | succ i =>
      by_cases h : v < 128
      · rw [writeVarintAux_of_lt f h] at hi
        cases Nat.lt_of_succ_lt_succ hi
      · rw [writeVarintAux_of_ge f (Nat.le_of_not_lt h)] at hi ⊢
        rw [List.take_succ_cons, List.forall_mem_cons]
        exact ⟨Nat.le_add_left .., ih _ i (Nat.lt_of_succ_lt_succ hi)⟩

theorem readVarint_take_writeVarint (v i : Nat) (hi : i < (writeVarint v).length) :
    readVarint ((writeVarint v).take i) = none := by
  rw [readVarint_eq_loop]
  exact readVarintLoop_of_all_cont _ (writeVarintAux_take_all_cont 10 v i hi) 0 0

theorem readVarint_take_append (v : Nat) (hv : v < 2 ^ 64) (i : Nat) (X : List Nat) :
    readVarint ((writeVarint v ++ X).take i)
      = if i < (writeVarint v).length then none
        else some (v, X.take (i - (writeVarint v).length)) := by
  split
  · next h =>
    rw [List.take_append_of_le_length (Nat.le_of_lt h)]
    exact readVarint_take_writeVarint v i h
  · next h =>
    rw [List.take_append, List.take_of_length_le (l := writeVarint v) (by omega)]
    exact readVarint_writeVarint v hv _

/-- The loop runs at `offset = 56 - 7 * k` with `result < 2 ^ offset`; this is kept, so the sum stays
    below `2 ^ 63` until the tenth byte adds `2 ^ 63` (no wrap-around in Rust). -/
theorem readVarintLoop_lt (bs : List Nat) : ∀ (k result offset v : Nat) (r : List Nat),
    offset + 7 * k = 56 → result < 2 ^ offset →
    readVarintLoop result offset bs = some (v, r) → v < 2 ^ 64 := by
  induction bs with
  | nil => intro _ _ _ _ _ _ _ h; cases h
  | cons b bs ih =>
    intro k result offset v r ho hres h
    have hstep : result + b % 128 * 2 ^ offset < 2 ^ (offset + 7) :=
      calc result + b % 128 * 2 ^ offset < (b % 128 + 1) * 2 ^ offset := by rw [Nat.add_one_mul]; omega
        _ ≤ 2 ^ 7 * 2 ^ offset := Nat.mul_le_mul_right _ (Nat.mod_lt b (by decide))
        _ = 2 ^ (offset + 7) := by rw [Nat.pow_add, Nat.mul_comm]
    by_cases hb : b < 128
    · rw [readVarintLoop_last hb] at h
      obtain ⟨rfl, _⟩ := Prod.mk.inj (Option.some.inj h)
      rw [Nat.mod_eq_of_lt hb] at hstep
      exact Nat.lt_of_lt_of_le hstep (Nat.pow_le_pow_right (by decide) (by omega))
    · cases k with
      | zero =>
        obtain rfl : offset = 56 := ho
        cases bs with
        | nil => rw [readVarintLoop_tenth_eof (Nat.le_of_not_lt hb)] at h; cases h
        | cons l bs =>
          rw [readVarintLoop_tenth (Nat.le_of_not_lt hb)] at h
          split at h
          · obtain ⟨rfl, _⟩ := Prod.mk.inj (Option.some.inj h)
            exact Nat.add_lt_add_right hstep (2 ^ 63)
          · cases h
      | succ k =>
        rw [readVarintLoop_cont (Nat.le_of_not_lt hb) (by omega)] at h
        exact ih k _ _ _ _ (by omega) hstep h

theorem readVarint_lt (bs : List Nat) (v : Nat) (r : List Nat)
    (h : readVarint bs = some (v, r)) : v < 2 ^ 64 :=
  readVarintLoop_lt bs 8 0 0 v r rfl Nat.one_pos (readVarint_eq_loop bs ▸ h)

end ShuttleModel

import ShuttleModel.Prim.Future
/-!
# C17 helpers: associativity of `Prog.bind`, how the kernel runs the lens accessors, one iteration of
`Fut.blockOnLoop`, and the vocabulary of the poll-loop theorems (`AtomicPoll`, `parkedAt`)
-/
namespace ShuttleProofs.C17
open ShuttleModel

theorem Prog.bind_assoc {U : Type} {α β γ : Type} (p : Prog U α) (f : α → Prog U β) (g : β → Prog U γ) :
    Prog.bind (Prog.bind p f) g = Prog.bind p (fun a => Prog.bind (f a) g) := by
  induction p with
  | pure a => rfl
  | op o k ih =>
    simp only [Prog.bind]
    congr
    funext b
    exact ih b
  | panic m => rfl

theorem bind_eq {U : Type} {α β : Type} (p : Prog U α) (f : α → Prog U β) : (p >>= f) = Prog.bind p f := rfl

variable {P : Program} {σ : Type}

/-- `K.getL` is one `getU` request -/
theorem runSegment_getL (S : Scheduler σ) (me fuel : Nat) (st : ExecState P σ) {T : Type} (L : Lens P.U T)
    (k : T → Prog P.U Unit) :
    runSegment S me (fuel + 1) st (Prog.bind (K.getL L) k) = runSegment S me fuel st (k (L.get st.u)) :=
  rfl

/-- `K.setL` is a `getU` and a `setU` -/
theorem runSegment_setL (S : Scheduler σ) (me fuel : Nat) (st : ExecState P σ) {T : Type} (L : Lens P.U T)
    (v : T) (k : Unit → Prog P.U Unit) :
    runSegment S me (fuel + 2) st (Prog.bind (K.setL L v) k) =
      runSegment S me fuel { st with u := L.set v st.u } (k ()) :=
  rfl

theorem blockOnLoop_succ {U : Type} (poll : Stage → Prog U LeafRes) (fuel : Nat) (s : Stage) :
    Fut.blockOnLoop poll (fuel + 1) s =
      Prog.bind (poll s) fun r =>
        match r with
        | .ready v => Prog.pure v
        | .pending s' =>
          Prog.bind K.sleepUnlessWoken fun _ => Prog.bind K.switch fun _ => Fut.blockOnLoop poll fuel s' := by
  rfl

/-- running `p` from `st` takes `c` requests, no scheduling point, and returns `r` in `st1` -/
def AtomicPoll {α : Type} (S : Scheduler σ) (me : Nat) (st : ExecState P σ) (p : Prog P.U α) (c : Nat)
    (st1 : ExecState P σ) (r : α) : Prop :=
  ∀ (fuel : Nat) (k : α → Prog P.U Unit),
    runSegment S me (fuel + c) st (Prog.bind p k) = runSegment S me fuel st1 (k r)

/-- the state after `sleep_unless_woken()` of task `me` (record `tk`), stopped at `switch()` with continuation `p` -/
def parkedAt (st : ExecState P σ) (me : Nat) (tk : Task) (p : Prog P.U Unit) : ExecState P σ :=
  { st with
    k := (st.k.setTask me
      (if tk.woken = true then { tk with woken := false } else { tk with woken := false, state := .sleeping })),
    conts := st.conts.set me p }

end ShuttleProofs.C17

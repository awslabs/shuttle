import ShuttleProofs.Lemmas.FutureKernel
/-!
# C17 helpers, part 2: the `state` / `woken` fields along every execution

What a request does to the record of a task is classified once (`Change`).  An invariant of the task table with a
ghost variable that every executed request updates is carried over a segment (`KTrace.ghost_inv`), over one
iteration of `run_to_completion` (`IterEv.ghost_inv`: spurious un-block by `schedule()`, the segment, `finish()`)
and over the run loop (`ReachEv.ghost_inv`).  Two invariants are instances:
* `SleepInv` — `Sleeping ⇒ !woken`, in every state of every execution;
* `WokenIs`  — the `woken` flag of an unfinished task *is* the ghost flag "its waker was invoked since its latest
               `sleep_unless_woken`".
-/

namespace ShuttleProofs.C17
open ShuttleModel ShuttleProofs.Kernel

/-- `block`, `unblock`, `sleep`, `finish` assert `state != Finished` and then write the new state -/
theorem ok_of_assert {α : Type} {c : Bool} {e : String} {a b : α}
    (h : (if c then Except.error e else .ok a) = .ok b) : b = a ∧ c = false := by
  cases c <;> cases h
  exact ⟨rfl, rfl⟩

theorem Task.block_ok {tk tk' : Task} {sp : Bool} (h : tk.block sp = .ok tk') :
    tk' = { tk with state := .blocked sp } ∧ tk.finished = false :=
  ok_of_assert h

theorem Task.unblock_ok {tk tk' : Task} (h : tk.unblock = .ok tk') :
    tk' = { tk with state := .runnable, blockedInPark := false } ∧ tk.finished = false :=
  ok_of_assert h

theorem Task.sleep_ok {tk tk' : Task} (h : tk.sleep = .ok tk') :
    tk' = { tk with state := .sleeping } ∧ tk.finished = false :=
  ok_of_assert h

theorem Task.finish_ok {tk tk' : Task} (h : tk.finish = .ok tk') :
    tk' = { tk with state := .finished } ∧ tk.finished = false :=
  ok_of_assert h

theorem Task.wake_ok {tk tk' : Task} (h : tk.wake = .ok tk') :
    (tk.state = .sleeping ∧ tk' = { tk with woken := true, state := .runnable, blockedInPark := false }) ∨
    (tk.state ≠ .sleeping ∧ tk' = { tk with woken := true }) := by
  by_cases hs : tk.state = .sleeping
  · rw [Task.wake_sleeping tk hs] at h
    cases h
    exact .inl ⟨hs, rfl⟩
  · rw [Task.wake_not_sleeping tk hs] at h
    cases h
    exact .inr ⟨hs, rfl⟩

theorem Task.sleepUnlessWoken_ok {tk tk' : Task} (h : tk.sleepUnlessWoken = .ok tk') :
    (tk.woken = true ∧ tk' = { tk with woken := false }) ∨
    (tk.woken = false ∧ tk.finished = false ∧ tk' = { tk with woken := false, state := .sleeping }) := by
  cases hw : tk.woken
  · simp only [Task.sleepUnlessWoken, hw, Bool.false_eq_true, if_false] at h
    obtain ⟨h1, h2⟩ := Task.sleep_ok h
    exact .inr ⟨rfl, h2, h1⟩
  · rw [Task.sleepUnlessWoken_woken tk hw] at h
    cases h
    exact .inl ⟨rfl, rfl⟩

theorem Task.park_ok {tk tk' : Task} {b : Bool} (h : tk.park = .ok (b, tk')) :
    tk' = { tk with tokenAvail := false } ∨
    (tk.finished = false ∧ tk' = { tk with blockedInPark := true, state := .blocked true }) := by
  revert h
  fun_cases Task.park tk <;> intro h <;> cases h
  · exact .inl rfl
  · rename_i hb
    exact .inr ⟨(Task.block_ok hb).2, (Task.block_ok hb).1⟩

theorem Task.unpark_ok {tk tk' : Task} (h : tk.unpark = .ok tk') :
    (tk.state = .blocked true ∧ tk' = { tk with state := .runnable, blockedInPark := false }) ∨
    (tk.blockedInPark = false ∧ tk' = { tk with tokenAvail := true }) := by
  revert h
  fun_cases Task.unpark tk <;> intro h
  · cases h
  · cases h
  · rename_i hb _
    refine .inl ⟨?_, (Task.unblock_ok h).1⟩
    cases hs : tk.state <;> simp [Task.isBlocked, Task.canSpuriouslyWakeup, hs] at hb
    rw [hb]
  · rename_i hb
    cases h
    exact .inr ⟨by simpa using hb, rfl⟩

/-- the ghost flag of task `i`: "task `i`'s waker was invoked since `i`'s latest `sleep_unless_woken`" -/
def ghostStep (i me : Nat) (w : Bool) : Req → Bool
  | .wake t => w || decide (t = i)
  | .sleepUnlessWoken => if me = i then false else w
  | _ => w

/-- requests that may end the sleep of task `i` when issued by another task -/
def disturbs (i : Nat) : Req → Bool
  | .wake t => decide (t = i)
  | .unblock t => decide (t = i)
  | .blockTask t => decide (t = i)
  | _ => false

theorem finished_set_state (tk : Task) (s : TState) (w : Bool) (b : Bool) :
    Task.finished { tk with state := s, woken := w, blockedInPark := b } = (s == .finished) := rfl

/-- `TaskEffect` with the `Task` transitions inverted, the new record written out.  `quiet`: the request leaves
`state` and `woken` alone (it is for another task, for a finished one, after the execution ended, or about other
fields); then it leaves the ghost flag of an unfinished task alone too. -/
inductive Change (me i : Nat) (live : Bool) (tk : Task) : Req → Task → Prop
  | quiet {r : Req} {tk' : Task} : tk'.state = tk.state → tk'.woken = tk.woken →
      (tk.detached = true → tk'.detached = true) →
      (live = true → tk.finished = false → ghostStep i me tk.woken r = tk.woken) → Change me i live tk r tk'
  | wokeUp : tk.state = .sleeping →
      Change me i live tk (.wake i) { tk with woken := true, state := .runnable, blockedInPark := false }
  | woke : tk.state ≠ .sleeping → Change me i live tk (.wake i) { tk with woken := true }
  | unblocked : tk.finished = false →
      Change me i live tk (.unblock i) { tk with state := .runnable, blockedInPark := false }
  | unparked : tk.state = .blocked true →
      Change me i live tk (.unpark i) { tk with state := .runnable, blockedInPark := false }
  | parked : me = i → tk.finished = false →
      Change me i live tk .park { tk with blockedInPark := true, state := .blocked true }
  | blocked {sp : Bool} : me = i → tk.finished = false → Change me i live tk .block { tk with state := .blocked sp }
  | blockedBy : tk.finished = false → Change me i live tk (.blockTask i) { tk with state := .blocked false }
  | awake : me = i → tk.woken = true → Change me i live tk .sleepUnlessWoken { tk with woken := false }
  | slept : me = i → tk.woken = false → tk.finished = false →
      Change me i live tk .sleepUnlessWoken { tk with woken := false, state := .sleeping }

theorem TaskEffect.change {me i : Nat} {live : Bool} {r : Req} {tk tk' : Task}
    (h : TaskEffect me i live r tk tk') : Change me i live tk r tk' := by
  revert h
  -- cases 1/2 `wake`, 3/4 `unblock`, 5/6 `blockTask`, 7/8 `block`, 9/10 `sleepUnlessWoken`, 11/12 `park`,
  -- 13/14 `unpark`: the request acts on task `i` (odd) or not (even); 15 `other`
  fun_cases TaskEffect me i live r tk tk' <;> intro h
  case case2 hc =>
    subst h
    exact .quiet rfl rfl id fun hl hf => by simp [ghostStep, show _ ≠ i from fun ht => hc ⟨ht, hl, hf⟩]
  case case10 hme =>
    subst h
    exact .quiet rfl rfl id fun _ _ => by simp [ghostStep, hme]
  case case4 | case6 | case8 | case12 | case14 =>
    subst h
    exact .quiet rfl rfl id fun _ _ => rfl
  case case1 hc =>
    obtain ⟨rfl, _, _⟩ := hc
    rcases Task.wake_ok h with ⟨hs, rfl⟩ | ⟨hs, rfl⟩
    · exact .wokeUp hs
    · exact .woke hs
  case case3 =>
    obtain ⟨rfl, hf⟩ := Task.unblock_ok h
    exact .unblocked hf
  case case5 =>
    obtain ⟨rfl, hf⟩ := Task.block_ok h
    exact .blockedBy hf
  case case7 hme =>
    obtain ⟨sp, h⟩ := h
    obtain ⟨rfl, hf⟩ := Task.block_ok h
    exact .blocked hme hf
  case case9 hme =>
    rcases Task.sleepUnlessWoken_ok h with ⟨hw, rfl⟩ | ⟨hw, hf, rfl⟩
    · exact .awake hme hw
    · exact .slept hme hw hf
  case case11 hme =>
    obtain ⟨b, h⟩ := h
    rcases Task.park_ok h with rfl | ⟨hf, rfl⟩
    · exact .quiet rfl rfl id fun _ _ => rfl
    · exact .parked hme hf
  case case13 =>
    rcases Task.unpark_ok h with ⟨hs, rfl⟩ | ⟨_, rfl⟩
    · exact .unparked hs
    · exact .quiet rfl rfl id fun _ _ => rfl
  case case15 => exact .quiet h.1 h.2.1 h.2.2 fun _ _ => rfl

theorem TaskEffect.finished_eq {me i : Nat} {live : Bool} {r : Req} {tk tk' : Task}
    (h : TaskEffect me i live r tk tk') : tk'.finished = tk.finished := by
  cases h.change with
  | quiet hs => simp only [Task.finished, hs]
  | wokeUp hs | unparked hs => simp only [Task.finished, hs]; rfl
  | unblocked hf | parked _ hf | blocked _ hf | blockedBy hf | slept _ _ hf => rw [hf]; rfl
  | _ => rfl

theorem TaskEffect.woken_eq {me i : Nat} {r : Req} {tk tk' : Task}
    (h : TaskEffect me i true r tk tk') (hf : tk.finished = false) :
    tk'.woken = ghostStep i me tk.woken r := by
  cases h.change with
  | quiet _ hw _ hg => exact hw.trans (hg rfl hf).symm
  | wokeUp | woke => simp [ghostStep]
  | awake hme | slept hme => simp [ghostStep, hme]
  | _ => rfl

theorem TaskEffect.sleeping_inv {me i : Nat} {live : Bool} {r : Req} {tk tk' : Task}
    (h : TaskEffect me i live r tk tk') (hi : tk.state = .sleeping → tk.woken = false)
    (hs : tk'.state = .sleeping) : tk'.woken = false := by
  cases h.change with
  | quiet h1 h2 => rw [h2]; exact hi (h1 ▸ hs)
  | woke h1 => exact absurd hs h1
  | awake | slept => rfl
  | _ => cases hs

theorem TaskEffect.sleeping_stable {me i : Nat} {live : Bool} {r : Req} {tk tk' : Task}
    (h : TaskEffect me i live r tk tk') (hs : tk.state = .sleeping) (hme : me ≠ i)
    (hd : disturbs i r = false) : tk'.state = .sleeping ∧ tk'.woken = tk.woken := by
  cases h.change with
  | quiet h1 h2 => exact ⟨h1.trans hs, h2⟩
  | wokeUp | woke | unblocked | blockedBy => simp [disturbs] at hd
  | unparked h1 => rw [hs] at h1; cases h1
  | parked h1 | blocked h1 | awake h1 | slept h1 => exact absurd h1 hme

theorem TaskEffect.detached_mono {me i : Nat} {live : Bool} {r : Req} {tk tk' : Task}
    (h : TaskEffect me i live r tk tk') (hd : tk.detached = true) : tk'.detached = true := by
  cases h.change with
  | quiet _ _ h3 => exact h3 hd
  | _ => exact hd

variable {P : Program} {σ : Type}

/-- Induction over a segment with a ghost variable that every executed request updates: if `I g0` holds of the task
table at the start and every request preserves `I` (w.r.t. `upd`), then `I` holds after every executed request `x`
(first conjunct: `a` are the requests before `x`, the ghost is folded over `a ++ [x]`) and in the final state.
`current_task` does not change inside a segment, and the step is told so. -/
theorem KTrace.ghost_inv {G : Type} {S : Scheduler σ} {me : Nat} (upd : G → Req → G) (I : G → List Task → Prop)
    {st : ExecState P σ} {p : Prog P.U Unit} {l : List (Req × ExecState P σ)} {e : SegEnd P σ}
    (h : KTrace S me st p l e)
    (hstep : ∀ g r (st1 st2 : ExecState P σ), r ∈ l.map (·.1) → st1.k.current = st.k.current → I g st1.k.tasks →
      KStep me r st1 st2 → I (upd g r) st2.k.tasks)
    (g0 : G) (h0 : I g0 st.k.tasks) :
    (∀ a x b, l = a ++ x :: b → I (((a ++ [x]).map (·.1)).foldl upd g0) x.2.k.tasks) ∧
    I ((l.map (·.1)).foldl upd g0) e.st.k.tasks := by
  induction h generalizing g0 with
  | done st p e he => exact ⟨fun a x b hl => (by cases a <;> cases hl), by rw [he.1]; exact h0⟩
  | unwind st msg pk apk l e _ ih => exact ih hstep g0 h0
  | step o kont st st' b l e hs _ ih =>
    have h1 := hstep g0 _ st st' List.mem_cons_self rfl h0 hs
    obtain ⟨ih1, ih2⟩ := ih (fun g r a b hr hc => hstep g r a b (List.mem_cons_of_mem _ hr) (hc.trans hs.current))
      (upd g0 (req o)) h1
    refine ⟨fun a x b' hl => ?_, ih2⟩
    cases a with
    | nil => cases hl; exact h1
    | cons y a' => cases hl; exact ih1 a' x b' rfl

/-- a continuing iteration of `run_to_completion` at loop head `st`: the scheduler chose the offered task `t`,
whose segment executed the requests `l`; `b` is the next loop head -/
def IterEv (S : Scheduler σ) (segFuel : Nat) (st : ExecState P σ) (t : Nat)
    (l : List (Req × ExecState P σ)) (b : ExecState P σ) : Prop :=
  ∃ s' p, Consults st.k ∧ ask S st.k st.sch = (.choose (some t), s') ∧ t ∈ st.k.offered ∧
    st.conts[t]? = some p ∧
    KTrace S t (segStart st t s') p l (runSegment S t segFuel (segStart st t s') p) ∧
    finishSeg t (runSegment S t segFuel (segStart st t s') p) = .inr b

theorem IterEv.chosen_offered {S : Scheduler σ} {segFuel : Nat} {st b : ExecState P σ} {t : Nat}
    {l : List (Req × ExecState P σ)} (h : IterEv S segFuel st t l b) : t ∈ st.k.offered := by
  obtain ⟨_, _, _, _, hoff, _⟩ := h
  exact hoff

theorem IterEv.of_loopStep {S : Scheduler σ} {segFuel : Nat} {st b : ExecState P σ}
    (hn : st.k.next = .none) (hc : st.conts.length = st.k.tasks.length)
    (h : loopStep S segFuel st = .inr b) : ∃ t l, IterEv S segFuel st t l b := by
  obtain ⟨t, s', p, hcons, hask, hoff, hcont, hfin⟩ := (loopStep_spec S segFuel st hn hc).inr_inv h
  obtain ⟨l, htr⟩ := runSegment_ktrace S t segFuel (segStart st t s') p
  exact ⟨t, l, s', p, hcons, hask, hoff, hcont, htr, hfin⟩

theorem IterEv.loopStep {S : Scheduler σ} {segFuel : Nat} {st b : ExecState P σ} {t : Nat}
    {l : List (Req × ExecState P σ)} (hn : st.k.next = .none) (hc : st.conts.length = st.k.tasks.length)
    (h : IterEv S segFuel st t l b) : Kernel.loopStep S segFuel st = .inr b := by
  obtain ⟨s', p, hcons, hask, hoff, hcont, _, hfin⟩ := h
  have hs := loopStep_spec S segFuel st hn hc
  have hb := hcons.bound
  unfold BoundOK at hb
  generalize Kernel.loopStep S segFuel st = x at hs
  -- of the ways an iteration can go, only the one that runs the chosen task is consistent with `h`
  cases hs with
  | boundFail n a b | boundStop n a b => rw [a] at hb; exact absurd ((Eq.symm hb).trans b) Bool.false_ne_true
  | deadlock a b c | ok a b c => rw [hcons.goOn] at b; cases b
  | schedPanic _ _ _ b | choseNone _ _ b => rw [hask] at b; cases b
  | choseBad t' msg s'' a b c => rw [hask] at b; cases b; exact absurd hoff c
  | chose t' s'' p' a b c d =>
    rw [hask] at b
    cases b
    rw [hcont] at d
    cases d
    exact hfin

theorem segStart_tasks (st : ExecState P σ) (t : Nat) (s' : σ) (hoff : t ∈ st.k.offered) :
    (segStart st t s').k.current = .some t ∧
    ((segStart st t s').k.tasks = st.k.tasks ∨
      ∃ tk, st.k.tasks[t]? = some tk ∧ tk.state = .blocked true ∧
        (segStart st t s').k.tasks = st.k.tasks.set t { tk with state := .runnable, blockedInPark := false }) := by
  refine ⟨rfl, ?_⟩
  obtain ⟨tk, hk, hr⟩ := mem_offered.mp hoff
  simp only [segStart, chosenK, wokenTasks, hk]
  cases hrun : tk.runnable
  · right
    rcases hr with hr | hr
    · rw [hrun] at hr; cases hr
    · exact ⟨tk, rfl, (Task.canSpuriouslyWakeup_iff tk).mp hr, by simp⟩
  · left; simp

/-- Induction over one iteration with a ghost variable.  Outside the segment the loop only sets the state of the
chosen task: `Runnable` (a spurious un-block by `schedule()`) or `Finished` (its closure returned). -/
theorem IterEv.ghost_inv {G : Type} {S : Scheduler σ} {segFuel : Nat} {st b : ExecState P σ} {t : Nat}
    {l : List (Req × ExecState P σ)} (h : IterEv S segFuel st t l b) (upd : G → Req → G)
    (I : G → List Task → Prop) (g0 : G)
    (hset : ∀ g ts tk s b, I g ts → ts[t]? = some tk → tk.finished = false → s = .runnable ∨ s = .finished →
      I g (ts.set t { tk with state := s, blockedInPark := b }))
    (hstep : ∀ g r (st1 st2 : ExecState P σ), r ∈ l.map (·.1) → st1.k.current = .some t → I g st1.k.tasks →
      KStep t r st1 st2 → I (upd g r) st2.k.tasks)
    (h0 : I g0 st.k.tasks) :
    I ((l.map (·.1)).foldl upd g0) b.k.tasks := by
  obtain ⟨s', p, _, _, hoff, _, htr, hfs⟩ := h
  obtain ⟨hcur, hts⟩ := segStart_tasks st t s' hoff
  have hstart : I g0 (segStart st t s').k.tasks := by
    rcases hts with hts | ⟨tk, hk, hs, hts⟩
    · rw [hts]; exact h0
    · rw [hts]; exact hset _ _ tk _ _ h0 hk (by simp only [Task.finished, hs]; rfl) (.inl rfl)
  have hseg := (KTrace.ghost_inv upd I htr (fun g r st1 st2 hr hc => hstep g r st1 st2 hr (hc.trans hcur))
    g0 hstart).2
  generalize runSegment S t segFuel (segStart st t s') p = e at hfs hseg
  cases e with
  | atSwitch st' =>
    simp only [finishSeg, Sum.inr.injEq] at hfs
    subst hfs
    exact hseg
  | returned st' =>
    simp only [finishSeg] at hfs
    cases hm : st'.k.modTask t (fun x => x.finish) with
    | error e => rw [hm] at hfs; cases hfs
    | ok k' =>
      rw [hm] at hfs
      simp only [Sum.inr.injEq] at hfs
      obtain ⟨tk, tk', h1, h2, rfl⟩ := modTask_ok hm
      obtain ⟨rfl, hf⟩ := Task.finish_ok h2
      subst hfs
      exact hset _ _ tk .finished tk.blockedInPark hseg h1 hf (.inr rfl)
  | _ => cases hfs

/-- loop head `st'` is reached from loop head `st`; `evs` = the requests executed on the way, each with the
task that issued it, in execution order -/
inductive ReachEv (S : Scheduler σ) (segFuel : Nat) :
    ExecState P σ → List (Nat × Req) → ExecState P σ → Prop
  | refl (st : ExecState P σ) : ReachEv S segFuel st [] st
  | tail {st0 st b : ExecState P σ} {evs : List (Nat × Req)} {t : Nat} {l : List (Req × ExecState P σ)} :
      ReachEv S segFuel st0 evs st → IterEv S segFuel st t l b →
      ReachEv S segFuel st0 (evs ++ l.map (fun x => (t, x.1))) b

theorem reachEv_of_reachN {S : Scheduler σ} {segFuel : Nat} {ms : MaxSteps} {n : Nat} {st0 st : ExecState P σ}
    (hi : LoopInv ms st0) (h : ReachN S segFuel n st0 st) : ∃ evs, ReachEv S segFuel st0 evs st :=
  (ReachN.invariant (fun a => LoopInv ms a ∧ ∃ evs, ReachEv S segFuel st0 evs a)
    (fun a b ha hs => by
      obtain ⟨t, l, hit⟩ := IterEv.of_loopStep ha.1.next ha.1.conts hs
      obtain ⟨evs, he⟩ := ha.2
      exact ⟨ha.1.step hs, _, .tail he hit⟩) h ⟨hi, [], .refl _⟩).2

/-- The same over the run loop; `upd` is also told which task issued the request. -/
theorem ReachEv.ghost_inv {G : Type} {S : Scheduler σ} {segFuel : Nat} {st0 st : ExecState P σ}
    {evs : List (Nat × Req)} (h : ReachEv S segFuel st0 evs st) (upd : Nat → G → Req → G)
    (I : G → List Task → Prop) (g0 : G)
    (hset : ∀ t g ts tk s b, I g ts → ts[t]? = some tk → tk.finished = false → s = .runnable ∨ s = .finished →
      I g (ts.set t { tk with state := s, blockedInPark := b }))
    (hstep : ∀ t g r (st1 st2 : ExecState P σ), st1.k.current = .some t → I g st1.k.tasks → KStep t r st1 st2 →
      I (upd t g r) st2.k.tasks)
    (h0 : I g0 st0.k.tasks) : I (evs.foldl (fun g e => upd e.1 g e.2) g0) st.k.tasks := by
  induction h with
  | refl => exact h0
  | @tail st b evs t l _ hit ih =>
    have := hit.ghost_inv (upd t) I _ (hset t) (fun g r st1 st2 _ => hstep t g r st1 st2) ih
    rw [List.foldl_map] at this
    rw [List.foldl_append, List.foldl_map]
    exact this

/-- ghost flag of task `i` over a global event list -/
def wokenGhost (i : Nat) (w : Bool) (evs : List (Nat × Req)) : Bool :=
  evs.foldl (fun w e => ghostStep i e.1 w e.2) w

theorem wokenGhost_append (i : Nat) (w : Bool) (a b : List (Nat × Req)) :
    wokenGhost i w (a ++ b) = wokenGhost i (wokenGhost i w a) b := by
  simp [wokenGhost, List.foldl_append]

theorem wokenGhost_map (i t : Nat) (w : Bool) (l : List Req) :
    wokenGhost i w (l.map (fun r => (t, r))) = l.foldl (ghostStep i t) w := by
  simp [wokenGhost, List.foldl_map]

/-- `Sleeping ⇒ !woken`, of every task of the table -/
@[reducible] def SleepInv (ts : List ShuttleModel.Task) : Prop :=
  ∀ (i : Nat) (tk : ShuttleModel.Task), ts[i]? = some tk → tk.state = .sleeping → tk.woken = false

theorem SleepInv.set {ts : List Task} (h : SleepInv ts) (t : Nat) (tk : Task)
    (hs : tk.state = .sleeping → tk.woken = false) : SleepInv (ts.set t tk) := by
  intro i tki hi hsl
  rcases List.mem_or_eq_of_mem_set (List.mem_of_getElem? hi) with hm | rfl
  · obtain ⟨j, hj⟩ := List.getElem?_of_mem hm
    exact h j tki hj hsl
  · exact hs hsl

theorem SleepInv.kstep {me : Nat} {r : Req} {st st' : ExecState P σ} (h : SleepInv st.k.tasks)
    (hs : KStep me r st st') : SleepInv st'.k.tasks := by
  intro i tk' hi hsl
  cases ho : st.k.tasks[i]? with
  | some tk =>
    obtain ⟨tk'', hk', he⟩ := hs.old i tk ho
    obtain rfl : tk'' = tk' := Option.some.inj (hk'.symm.trans hi)
    exact he.sleeping_inv (h i tk ho) hsl
  | none =>
    rw [(hs.fresh i tk' (List.getElem?_eq_none_iff.mp ho) hi).1] at hsl
    cases hsl

theorem SleepInv.ktrace {S : Scheduler σ} {me : Nat} {st : ExecState P σ} {p : Prog P.U Unit}
    {l : List (Req × ExecState P σ)} {e : SegEnd P σ} (h : KTrace S me st p l e) (h0 : SleepInv st.k.tasks) :
    (∀ a x b, l = a ++ x :: b → SleepInv x.2.k.tasks) ∧ SleepInv e.st.k.tasks :=
  KTrace.ghost_inv (G := Unit) (fun g _ => g) (fun _ => SleepInv) h (fun _ _ _ _ _ _ hi hs => hi.kstep hs) () h0

theorem initState_task {ms : MaxSteps} {seed : Nat} {s : σ} {i : Nat} {tk : Task}
    (h : (initState P ms seed s).k.tasks[i]? = some tk) : tk.state = .runnable ∧ tk.woken = false := by
  simp only [initState, Kernel.spawnTask, List.nil_append] at h
  cases i with
  | zero => cases h; exact ⟨rfl, rfl⟩
  | succ n => simp at h

theorem SleepInv.init (P : Program) {σ : Type} (ms : MaxSteps) (seed : Nat) (s : σ) :
    SleepInv (initState P ms seed s).k.tasks :=
  fun _ _ hi _ => (initState_task hi).2

theorem SleepInv.reachEv {S : Scheduler σ} {segFuel : Nat} {st0 st : ExecState P σ} {evs : List (Nat × Req)}
    (h : ReachEv S segFuel st0 evs st) (h0 : SleepInv st0.k.tasks) : SleepInv st.k.tasks :=
  h.ghost_inv (G := Unit) (fun _ g _ => g) (fun _ => SleepInv) ()
    (fun t _ ts tk s b hi _ _ hs => hi.set t _ fun h => by rcases hs with rfl | rfl <;> cases h)
    (fun _ _ _ _ _ _ hi hs => hi.kstep hs) h0

theorem SleepInv.final {S : Scheduler σ} {segFuel : Nat} {stf : ExecState P σ} {r : Result P σ}
    (h0 : SleepInv stf.k.tasks) (hf : FinalSpec S segFuel stf r) : SleepInv r.st.k.tasks := by
  -- only a last segment changes the task table
  cases hf with
  | seg t s' p r' _ _ hoff _ hfs =>
    obtain ⟨l, htr⟩ := runSegment_ktrace S t segFuel (segStart stf t s') p
    obtain ⟨_, hts⟩ := segStart_tasks stf t s' hoff
    have hstart : SleepInv (segStart stf t s').k.tasks := by
      rcases hts with hts | ⟨tk, _, _, hts⟩
      · rw [hts]; exact h0
      · rw [hts]; exact h0.set t _ (fun hs => by cases hs)
    rw [(finishSeg_inl hfs).1]
    exact (SleepInv.ktrace htr hstart).2
  | _ => exact h0

/-- the `woken` flag of task `i` (if it exists and is unfinished) is `g`; a task that does not exist yet has
ghost flag `false` -/
def WokenIs (i : Nat) (g : Bool) (ts : List ShuttleModel.Task) : Prop :=
  (∀ tk : ShuttleModel.Task, ts[i]? = some tk → tk.finished = false → tk.woken = g) ∧ (ts[i]? = none → g = false)

theorem WokenIs.kstep {i t : Nat} {g : Bool} {r : Req} {st st' : ExecState P σ}
    (hc : st.k.current = .some t) (h : WokenIs i g st.k.tasks) (hs : KStep t r st st') :
    WokenIs i (ghostStep i t g r) st'.k.tasks := by
  have hlive : liveCur st.k.current = true := by rw [hc]; rfl
  cases ho : st.k.tasks[i]? with
  | some tk =>
    obtain ⟨tk', hk', he⟩ := hs.old i tk ho
    rw [hlive] at he
    refine ⟨fun tk'' hi hf => ?_, fun hn => by rw [hn] at hk'; cases hk'⟩
    obtain rfl : tk' = tk'' := Option.some.inj (hk'.symm.trans hi)
    have hf0 : tk.finished = false := he.finished_eq ▸ hf
    rw [he.woken_eq hf0, h.1 tk ho hf0]
  | none =>
    -- task `i` does not exist yet: its ghost flag is down, and stays down because an effective `wake` names a
    -- known task
    have hlen := List.getElem?_eq_none_iff.mp ho
    have hg : ghostStep i t g r = false := by
      rw [h.2 ho]
      cases r with
      | wake t' =>
        have hne : t' ≠ i := fun ht => by
          have := hs.wakeKnown t' rfl hlive
          omega
        simp [ghostStep, hne]
      | sleepUnlessWoken => simp [ghostStep]
      | _ => rfl
    rw [hg]
    exact ⟨fun tk' hi _ => (hs.fresh i tk' hlen hi).2.1, fun _ => rfl⟩

theorem WokenIs.set {i t : Nat} {g : Bool} {ts : List Task} {tk : Task} (h : WokenIs i g ts)
    (hk : ts[t]? = some tk) (hf : tk.finished = false) (s : TState) (b : Bool) :
    WokenIs i g (ts.set t { tk with state := s, blockedInPark := b }) := by
  unfold WokenIs
  by_cases hti : t = i
  · subst hti
    rw [List.getElem?_set_self (List.getElem?_eq_some_iff.mp hk).1]
    exact ⟨fun _ he _ => by cases he; exact h.1 tk hk hf, nofun⟩
  · rw [List.getElem?_set_ne hti]
    exact h

theorem WokenIs.reachEv {S : Scheduler σ} {segFuel : Nat} {st0 st : ExecState P σ} {evs : List (Nat × Req)}
    (h : ReachEv S segFuel st0 evs st) (i : Nat) (g0 : Bool) (h0 : WokenIs i g0 st0.k.tasks) :
    WokenIs i (wokenGhost i g0 evs) st.k.tasks :=
  h.ghost_inv (ghostStep i) (WokenIs i) g0 (fun _ _ _ _ s b hi hk hf _ => hi.set hk hf s b)
    (fun _ _ _ _ _ hc hi hs => hi.kstep hc hs) h0

theorem WokenIs.init (P : Program) {σ : Type} (ms : MaxSteps) (seed : Nat) (s : σ) (i : Nat) :
    WokenIs i false (initState P ms seed s).k.tasks :=
  ⟨fun _ hi _ => (initState_task hi).2, fun _ => rfl⟩

def SleepingAt (i : Nat) (w : Bool) (ts : List ShuttleModel.Task) : Prop :=
  ∃ tk : ShuttleModel.Task, ts[i]? = some tk ∧ tk.state = .sleeping ∧ tk.woken = w

theorem SleepingAt.not_offered {i : Nat} {w : Bool} {k : Kernel} (h : SleepingAt i w k.tasks) :
    i ∉ k.offered := by
  obtain ⟨tk, hk, hs, _⟩ := h
  intro hm
  obtain ⟨tk', hk', hr⟩ := mem_offered.mp hm
  rw [hk] at hk'
  cases hk'
  rcases hr with hr | hr
  · rw [Task.runnable_iff] at hr; rw [hs] at hr; cases hr
  · rw [Task.canSpuriouslyWakeup_iff] at hr; rw [hs] at hr; cases hr

end ShuttleProofs.C17

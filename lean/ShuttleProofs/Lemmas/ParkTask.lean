import ShuttleProofs.Lemmas.CondvarBasic
/-
  C05 / park–unpark: the transitions of one `Task` (`ShuttleModel.Task.park`, `unpark`, `unblock`,
  `block`, `sleepUnlessWoken`, `wake`, `finish` — all pure functions of the kernel model) as an
  LTS under a most general environment, and the invariants `TokenInv`, `ParkedInv` of the park token.

  * operations the task performs on itself (`park`, `block`, `sleepUnlessWoken`, `finish`) require
    it to be the running task, i.e. `state = runnable`;
  * `unpark`, `unblock` (another primitive, or the scheduler's spurious wake-up, which is
    `Task::unblock` too — `Kernel.schedule`) and `wake` may hit it at any time;
  * `blockExt` is `get_mut(t).block(false)` by another task (`Eff.block`).  It is kept for the
    token invariant, and left out of the "parked ⇒ blocked" one: the model only emits it for tasks
    registered in a condvar / unfair semaphore queue, which a parked task is not.
-/
namespace ShuttleProofs.C05
open ShuttleModel

inductive TaskOp where
  | park
  | unpark
  | unblock
  | wake
  | blockSelf (sp : Bool)
  | blockExt
  | sleepUnlessWoken
  | finish
deriving DecidableEq, Repr

def TaskOp.isSelf : TaskOp → Bool
  | .park | .blockSelf _ | .sleepUnlessWoken | .finish => true
  | _ => false

def TaskOp.apply : TaskOp → Task → Except String Task
  | .park, t => match t.park with | .ok (_, t') => .ok t' | .error e => .error e
  | .unpark, t => t.unpark
  | .unblock, t => t.unblock
  | .wake, t => t.wake
  | .blockSelf sp, t => t.block sp
  | .blockExt, t => t.block false
  | .sleepUnlessWoken, t => t.sleepUnlessWoken
  | .finish, t => t.finish

/-- one transition of the task under the most general environment -/
def TStep (t : Task) (op : TaskOp) (t' : Task) : Prop :=
  op.apply t = .ok t' ∧ (op.isSelf = true → t.state = .runnable)

inductive TReach : List TaskOp → Task → Prop where
  | init : TReach [] {}
  | step {ops : List TaskOp} {t : Task} {op : TaskOp} {t' : Task} :
      TReach ops t → TStep t op t' → TReach (op :: ops) t'

theorem Task.block_ok {t t' : Task} {sp : Bool} (h : t.block sp = .ok t') :
    t' = { t with state := .blocked sp } := (Except.ok.inj (of_ite_error_eq_ok h).2).symm

theorem Task.unblock_ok {t t' : Task} (h : t.unblock = .ok t') :
    t' = { t with state := .runnable, blockedInPark := false } := (Except.ok.inj (of_ite_error_eq_ok h).2).symm

theorem Task.finish_ok {t t' : Task} (h : t.finish = .ok t') : t' = { t with state := .finished } :=
  (Except.ok.inj (of_ite_error_eq_ok h).2).symm

theorem Task.sleepUnlessWoken_ok {t t' : Task} (h : t.sleepUnlessWoken = .ok t') :
    t' = { t with woken := false } ∨ t' = { t with woken := false, state := .sleeping } := by
  unfold Task.sleepUnlessWoken at h
  by_cases hw : t.woken = true
  · rw [if_pos hw] at h; exact .inl (Except.ok.inj h).symm
  · rw [if_neg hw] at h; exact .inr (Except.ok.inj (of_ite_error_eq_ok h).2).symm

theorem Task.wake_ok {t t' : Task} (h : t.wake = .ok t') :
    t.sleeping = false ∧ t' = { t with woken := true } ∨
    t.sleeping = true ∧ t' = { t with woken := true, state := .runnable, blockedInPark := false } := by
  by_cases hs : t.sleeping = true
  · exact .inr ⟨hs, Task.unblock_ok ((if_pos hs).symm.trans h)⟩
  · exact .inl ⟨Bool.eq_false_iff.2 hs, (Except.ok.inj ((if_neg hs).symm.trans h)).symm⟩

theorem Task.park_ok {t t' : Task} {b : Bool} (h : t.park = .ok (b, t')) :
    t.blockedInPark = false ∧
    (t.tokenAvail = true ∧ t' = { t with tokenAvail := false } ∨
     t.tokenAvail = false ∧ t' = { t with blockedInPark := true, state := .blocked true }) := by
  obtain ⟨hb, h⟩ := of_ite_error_eq_ok h
  obtain ⟨_, h⟩ := of_ite_error_eq_ok h
  refine ⟨Bool.eq_false_iff.2 hb, ?_⟩
  by_cases ht : t.tokenAvail = true
  · rw [if_pos ht] at h; cases h; exact .inl ⟨ht, rfl⟩
  · rw [if_neg ht] at h
    refine .inr ⟨Bool.eq_false_iff.2 ht, ?_⟩
    cases hbl : ({ t with blockedInPark := true } : Task).block true with
    | error e => rw [hbl] at h; cases h
    | ok t'' => rw [hbl] at h; cases h; exact Task.block_ok hbl

theorem Task.unpark_ok {t t' : Task} (h : t.unpark = .ok t') :
    t.blockedInPark = true ∧ t.tokenAvail = false ∧ t' = { t with state := .runnable, blockedInPark := false } ∨
    t.blockedInPark = false ∧ t' = { t with tokenAvail := true } := by
  unfold Task.unpark at h
  by_cases hb : t.blockedInPark = true
  · rw [if_pos hb] at h
    obtain ⟨_, h⟩ := of_ite_error_eq_ok h
    obtain ⟨ht, h⟩ := of_ite_error_eq_ok h
    exact .inl ⟨hb, Bool.eq_false_iff.2 ht, Task.unblock_ok h⟩
  · rw [if_neg hb] at h
    exact .inr ⟨Bool.eq_false_iff.2 hb, (Except.ok.inj h).symm⟩

def TokenInv (t : Task) : Prop := ¬ (t.tokenAvail = true ∧ t.blockedInPark = true)
def ParkedInv (t : Task) : Prop := t.blockedInPark = true → t.state = .blocked true

/-- What a successful operation does to the three fields the park protocol reads: it leaves the task
not parked (`unpark`, `unblock`, a `wake` that wakes, a `park` that consumes the token), or parks it
without a token (`park`), or leaves token and `blocked_in_park` alone — and `state` too, unless it
is the task's own operation or the external `block(false)`. -/
theorem TaskOp.apply_ok {t : Task} {op : TaskOp} {t' : Task} (h : op.apply t = .ok t') :
    t'.blockedInPark = false ∨ (t'.tokenAvail = false ∧ t'.state = .blocked true) ∨
    (t'.tokenAvail = t.tokenAvail ∧ t'.blockedInPark = t.blockedInPark ∧
      (t'.state = t.state ∨ op.isSelf = true ∨ op = .blockExt)) := by
  cases op with
  | park =>
    simp only [TaskOp.apply] at h
    split at h
    · cases h
      obtain ⟨hb, ⟨_, rfl⟩ | ⟨ht, rfl⟩⟩ := Task.park_ok ‹_›
      · exact .inl hb
      · exact .inr (.inl ⟨ht, rfl⟩)
    · cases h
  | unpark =>
    rcases Task.unpark_ok h with ⟨_, _, rfl⟩ | ⟨hb, rfl⟩
    · exact .inl rfl
    · exact .inl hb
  | unblock => cases Task.unblock_ok h; exact .inl rfl
  | wake =>
    rcases Task.wake_ok h with ⟨_, rfl⟩ | ⟨_, rfl⟩
    · exact .inr (.inr ⟨rfl, rfl, .inl rfl⟩)
    · exact .inl rfl
  | blockSelf sp => cases Task.block_ok h; exact .inr (.inr ⟨rfl, rfl, .inr (.inl rfl)⟩)
  | blockExt => cases Task.block_ok h; exact .inr (.inr ⟨rfl, rfl, .inr (.inr rfl)⟩)
  | sleepUnlessWoken =>
    rcases Task.sleepUnlessWoken_ok h with rfl | rfl <;> exact .inr (.inr ⟨rfl, rfl, .inr (.inl rfl)⟩)
  | finish => cases Task.finish_ok h; exact .inr (.inr ⟨rfl, rfl, .inr (.inl rfl)⟩)

theorem tokenInv_step {t : Task} {op : TaskOp} {t' : Task} (I : TokenInv t) (h : op.apply t = .ok t') :
    TokenInv t' := by
  rcases TaskOp.apply_ok h with hb | ⟨ht, _⟩ | ⟨ht, hb, _⟩
  · exact fun hh => Bool.false_ne_true (hb.symm.trans hh.2)
  · exact fun hh => Bool.false_ne_true (ht.symm.trans hh.1)
  · exact fun hh => I ⟨ht ▸ hh.1, hb ▸ hh.2⟩

/-- The task's own operations start from `runnable`, hence (by the invariant) from a task that is
not parked; `block(false)` by another task is the one operation that breaks the invariant. -/
theorem parkedInv_step {t : Task} {op : TaskOp} {t' : Task} (I : ParkedInv t) (hop : op ≠ .blockExt)
    (h : TStep t op t') : ParkedInv t' := by
  rcases TaskOp.apply_ok h.1 with hb | ⟨_, hs⟩ | ⟨_, hb, hs | hs | hs⟩
  · exact fun hh => absurd (hb.symm.trans hh) Bool.false_ne_true
  · exact fun _ => hs
  · exact fun hh => hs ▸ I (hb ▸ hh)
  · exact fun hh => TState.noConfusion ((h.2 hs).symm.trans (I (hb ▸ hh)))
  · exact absurd hs hop

theorem treach_tokenInv {ops : List TaskOp} {t : Task} (hr : TReach ops t) : TokenInv t := by
  induction hr with
  | init => exact fun hh => Bool.false_ne_true hh.1
  | step _ hs ih => exact tokenInv_step ih hs.1

theorem treach_parkedInv {ops : List TaskOp} {t : Task} (hr : TReach ops t)
    (hno : TaskOp.blockExt ∉ ops) : ParkedInv t := by
  induction hr with
  | init => exact fun hh => absurd hh Bool.false_ne_true
  | @step ops t op t' _ hs ih =>
    exact parkedInv_step (ih fun h => hno (List.mem_cons_of_mem _ h)) (fun h => hno (h ▸ List.mem_cons_self ..)) hs

end ShuttleProofs.C05

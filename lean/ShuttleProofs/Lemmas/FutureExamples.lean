import ShuttleProofs.Lemmas.FutureKernelInv
/-!
# C17 helpers: concrete programs for the non-vacuity examples of the kernel-level theorems, and a computable
iteration of the loop body (`iterate`) to exhibit reachable loop heads
-/

namespace ShuttleProofs.C17
open ShuttleModel ShuttleProofs.Kernel

variable {P : Program} {σ : Type}

/-- `n` continuing iterations of the loop body -/
def iterate (S : Scheduler σ) (segFuel : Nat) : Nat → ExecState P σ → Option (ExecState P σ)
  | 0, st => some st
  | n + 1, st =>
    match loopStep S segFuel st with
    | .inr st' => iterate S segFuel n st'
    | .inl _ => none

theorem iterate_reachN {S : Scheduler σ} {segFuel : Nat} :
    ∀ {n : Nat} {st st' : ExecState P σ}, iterate S segFuel n st = some st' → ReachN S segFuel n st st' := by
  intro n st st' h
  fun_induction iterate S segFuel n st with
  | case1 => cases h; exact .refl _
  | case2 _ _ _ hs ih => exact .head hs (ih h)
  | case3 => cases h

/-- a program whose shared state is one number -/
def mkProg (bodies : Nat → Prog Nat Unit) : Program := { U := Nat, init := 0, bodies := bodies }

def uVal {b : Nat → Prog Nat Unit} {σ : Type} (st : ExecState (mkProg b) σ) : Nat := st.u

/-- what the examples observe of a task -/
def obsTask (k : Kernel) (i : Nat) : Option (TState × Bool × Bool) :=
  (k.tasks[i]?).map (fun tk => (tk.state, tk.woken, tk.detached))

/-- the only task invokes its own waker (as `yield_now` does inside `poll`), "returns `Pending`"
(`sleep_unless_woken(); switch()`), is polled again, returns `Pending` again — this time nobody woke it -/
def exSelfWake : Program :=
  mkProg fun _ => do
      Prog.lift (.wake 0)
      Prog.lift .sleepUnlessWoken
      Prog.lift .switch
      Prog.lift (.setU 1)
      Prog.lift .sleepUnlessWoken
      Prog.lift .switch
      Prog.lift (.setU 2)
      pure ()

/-- main spawns a task that returns `Pending` once with nobody holding its waker; main optionally detaches it
(drops the `JoinHandle`) and ends -/
def exPending (detach : Bool) : Program :=
  mkProg fun i => match i with
      | 0 => do
        let c ← Prog.lift (.spawn true 1)
        if detach then Prog.lift (.detach c) else pure ()
        Prog.lift .switch
        pure ()
      | _ => do
        Prog.lift .sleepUnlessWoken
        Prog.lift .switch
        Prog.lift (.setU 7)
        pure ()

/-- the child returns `Pending`; later main invokes the child's waker; the child is polled again and completes -/
def exWakeOther : Program :=
  mkProg fun i => match i with
      | 0 => do
        let c ← Prog.lift (.spawn true 1)
        Prog.lift .switch
        Prog.lift (.wake c)
        Prog.lift .switch
        pure ()
      | _ => do
        Prog.lift .sleepUnlessWoken
        Prog.lift .switch
        Prog.lift (.setU 7)
        pure ()

/-- main invokes the child's waker *before* the child's `sleep_unless_woken` (a wake "during the poll") -/
def exWakeEarly : Program :=
  mkProg fun i => match i with
      | 0 => do
        let c ← Prog.lift (.spawn true 1)
        Prog.lift (.wake c)
        Prog.lift .switch
        pure ()
      | _ => do
        Prog.lift .sleepUnlessWoken
        Prog.lift .switch
        Prog.lift (.setU 7)
        pure ()

/-- a state in which the execution has ended (`current_task = Finished`) with one finished and one sleeping task -/
def exEndedState (P : Program) : ExecState P Unit :=
  { k := { tasks := [{ state := .finished }, { state := .sleeping }], current := .finished },
    u := P.init, conts := [.pure (), .pure ()], sch := () }

end ShuttleProofs.C17

import ShuttleModel.Prim.Future
/-!
# C17 helpers: the most-general client of one spawned future, over the PURE transitions of
`ShuttleModel/Prim/Future.lean` (`JoinState.pollJoin`, `JoinState.publish`, `JoinState.setAborted`)

One `FOp` is the state update one of the wrappers performs atomically (between two scheduling points):

* `pollBegin`     — `Fut.taskLoop`, start of an iteration = start of `Wrapper::poll`: read the `aborted` flag;
                    set ⇒ the cancel path, all of it: drop the inner future (`dropFut`), thread-local destructors,
                    `publish false` (= `Err(Cancelled)`), `Ready`; not set ⇒ enter the poll of the inner future;
* `pollEnd ready` — the poll of the inner future returns (it may have spanned several scheduling points, during
                    which every other operation may have happened): `Ready` ⇒ thread-local destructors,
                    `publish true`, `Ready`; `Pending` ⇒ `Pending` (then `sleep_unless_woken(); switch()`);
* `joinPoll cx`   — `JoinHandle::poll` by task `cx` (`Fut.pollLeaf (.join b)`/`pollJoinHandle`): allowed for the
                    owner of the handle — the harness table (`handle = true`, first poll: the handle is moved into
                    the awaiting future) or the future already awaiting it (`joiner = some cx`); a `Ready` handle
                    is dropped by the `.await` (⇒ `detach`); without the handle: `"nohandle"`;
* `abort`         — `JoinHandle::abort` / `AbortHandle::abort` after its scheduling point;
* `dropHandle`    — `drop(JoinHandle)` by the harness (`Fut.detach`);
* `dropJoiner cx` — the future that awaits the handle is itself dropped (`Fut.dropLeaf (.join b) .joining`).

The ghost fields (`phase`, `cancelSeen`, counters) record what happened; `j` is the model's `JoinState`.
-/
namespace ShuttleProofs.C17.Lts
open ShuttleModel

inductive WPhase where
  /-- between two polls of the `Wrapper` (not yet polled, or the last poll returned `Pending`) -/
  | idle
  /-- `Wrapper::poll` has read `aborted = false` and is inside `future.poll(cx)` -/
  | midPoll
  /-- `Wrapper::poll` returned `Ready(())`: the task's closure returns -/
  | done
deriving DecidableEq, Repr

structure G where
  j : JoinState
  phase : WPhase := .idle
  /-- the value of `aborted` read by the latest `pollBegin` -/
  cancelSeen : Bool := false
  /-- polls of the inner future begun so far -/
  innerPolls : Nat := 0
  /-- the inner future returned `Ready` -/
  innerCompleted : Bool := false
  /-- the inner future was dropped un-completed (`dropFut`: its destructors ran) -/
  dropped : Bool := false
  /-- how many times the thread-local destructors were run -/
  tlsRun : Nat := 0
  /-- the result handed to `publish`, and how many times `publish` ran -/
  published : Option Bool := none
  pubCount : Nat := 0
  /-- what `Ready` polls of the `JoinHandle` returned, and how many there were -/
  taken : Option Bool := none
  takenCount : Nat := 0
  /-- the task that owns the `JoinHandle` through a pending `.await` -/
  joiner : Option Nat := none
  /-- `Task.detached` of the future's task -/
  detached : Bool := false
deriving Repr

inductive FOp where
  | pollBegin
  | pollEnd (ready : Bool)
  | joinPoll (cx : Nat)
  | abort
  | dropHandle
  | dropJoiner (cx : Nat)
deriving Repr, DecidableEq

inductive Out where
  /-- `pollBegin`: was the cancel path taken? -/
  | began (cancelled : Bool)
  | polled (ready : Bool)
  /-- `JoinHandle::poll`: `some true` = `Ready(Ok(_))`, `some false` = `Ready(Err(Cancelled))`, `none` = `Pending` -/
  | joined (r : Option Bool)
  | nohandle
  | unit
deriving Repr, DecidableEq

/-- the state just after `future::spawn` + the harness storing the handle (`Fut.register`) -/
def init (tid : Nat) : G := { j := { tid := some tid, handle := true } }

/-- one step; `none` = the operation cannot happen in this state (the Wrapper is not at that point / the caller
does not own what it needs) -/
def step (tid : Nat) (g : G) : FOp → Option (G × Out × List Eff)
  | .pollBegin =>
    if g.phase ≠ .idle then none
    else if g.j.aborted then
      some ({ g with j := (g.j.publish false).1, phase := .done, cancelSeen := true, dropped := true,
                     tlsRun := g.tlsRun + 1, published := some false, pubCount := g.pubCount + 1 },
            .began true, (g.j.publish false).2)
    else some ({ g with phase := .midPoll, cancelSeen := false, innerPolls := g.innerPolls + 1 }, .began false, [])
  | .pollEnd ready =>
    if g.phase ≠ .midPoll then none
    else if ready then
      some ({ g with j := (g.j.publish true).1, phase := .done, innerCompleted := true,
                     tlsRun := g.tlsRun + 1, published := some true, pubCount := g.pubCount + 1 },
            .polled true, (g.j.publish true).2)
    else some ({ g with phase := .idle }, .polled false, [])
  | .joinPoll cx =>
    if g.j.handle || g.joiner == some cx then
      match (({ g.j with handle := false } : JoinState).pollJoin cx) with
      | (some v, j') =>
        some ({ g with j := j', joiner := none, detached := true, taken := some v,
                       takenCount := g.takenCount + 1 }, .joined (some v), [])
      | (none, j') => some ({ g with j := j', joiner := some cx }, .joined none, [])
    else some (g, .nohandle, [])
  | .abort => some ({ g with j := (g.j.setAborted tid).1 }, .unit, (g.j.setAborted tid).2)
  | .dropHandle =>
    if g.j.handle then some ({ g with j := { g.j with handle := false }, detached := true }, .unit, [])
    else some (g, .nohandle, [])
  | .dropJoiner cx =>
    if g.joiner == some cx then some ({ g with joiner := none, detached := true }, .unit, []) else none

inductive Reach (tid : Nat) : G → Prop
  | init : Reach tid (init tid)
  | step {g g' : G} {op : FOp} {o : Out} {effs : List Eff} :
      Reach tid g → step tid g op = some (g', o, effs) → Reach tid g'

/-- run a list of operations (for concrete examples); an operation that cannot happen is skipped -/
def run (tid : Nat) : G → List FOp → G × List Out
  | g, [] => (g, [])
  | g, op :: ops =>
    match step tid g op with
    | some (g', o, _) => let r := run tid g' ops; (r.1, o :: r.2)
    | none => run tid g ops

theorem run_reach {tid : Nat} {g : G} (h : Reach tid g) (ops : List FOp) : Reach tid (run tid g ops).1 := by
  induction ops generalizing g with
  | nil => exact h
  | cons op ops ih =>
    simp only [run]
    cases hs : step tid g op with
    | none => exact ih h
    | some r =>
      obtain ⟨g', o, effs⟩ := r
      exact ih (Reach.step h hs)

structure Inv (g : G) : Prop where
  /-- `publish` ran exactly when the Wrapper is done, at most once; so did the thread-local destructors -/
  pubDone : g.phase = .done ↔ g.published.isSome = true
  pubCount : g.pubCount = if g.published.isSome then 1 else 0
  tls : g.tlsRun = g.pubCount
  /-- the result slot holds the published value until a `Ready` poll takes it -/
  slotFull : ∀ r, g.j.result = some r → g.published = some r ∧ g.takenCount = 0 ∧ g.taken = none
  slotEmpty : g.j.result = none → g.taken = g.published ∧ g.takenCount = g.pubCount
  /-- the published value is `Cancelled` iff the last `pollBegin` saw the flag -/
  value : ∀ v, g.published = some v → v = !g.cancelSeen
  seenAborted : g.cancelSeen = true → g.j.aborted = true
  cancelFx : g.phase = .done → g.cancelSeen = true → g.dropped = true ∧ g.innerCompleted = false
  okFx : g.phase = .done → g.cancelSeen = false → g.dropped = false ∧ g.innerCompleted = true
  notDone : g.phase ≠ .done → g.dropped = false ∧ g.innerCompleted = false
  mid : g.phase = .midPoll → g.cancelSeen = false
  /-- the handle is in one place at most, and is gone for good once a `Ready` poll consumed it -/
  owner : ¬ (g.j.handle = true ∧ g.joiner.isSome = true)
  takenGone : g.takenCount ≥ 1 → g.j.handle = false ∧ g.joiner = none
  /-- while the task is attached, the handle is held -/
  attached : g.detached = false → g.j.handle = true ∨ g.joiner.isSome = true

theorem Inv.init (tid : Nat) : Inv (init tid) := by
  constructor <;> simp [Lts.init]

theorem publish_fst (j : JoinState) (r : Bool) : (j.publish r).1 = { j with result := some r, waker := none } :=
  rfl

theorem setAborted_eq (j : JoinState) (tid : Nat) :
    j.setAborted tid = ({ j with aborted := true }, if j.aborted then [] else [Eff.wake tid]) := by
  unfold JoinState.setAborted
  split
  · rename_i h
    cases j
    cases h
    rfl
  · rfl

theorem pollJoin_some {j j' : JoinState} {cx : Nat} {v : Bool} (h : j.pollJoin cx = (some v, j')) :
    j.result = some v ∧ j' = { j with result := none } := by
  revert h
  fun_cases JoinState.pollJoin j cx <;> intro h <;> cases h
  exact ⟨‹_›, rfl⟩

theorem pollJoin_none {j j' : JoinState} {cx : Nat} (h : j.pollJoin cx = (none, j')) :
    j.result = none ∧ j' = { j with waker := some cx } := by
  revert h
  fun_cases JoinState.pollJoin j cx <;> intro h <;> cases h
  exact ⟨‹_›, rfl⟩

theorem pollBegin_isSome (tid : Nat) (g : G) : (step tid g .pollBegin).isSome = decide (g.phase = .idle) := by
  by_cases h : g.phase = .idle
  · cases ha : g.j.aborted <;> simp [step, h, ha]
  · simp [step, h]

theorem pollEnd_isSome (tid : Nat) (g : G) (r : Bool) :
    (step tid g (.pollEnd r)).isSome = decide (g.phase = .midPoll) := by
  by_cases h : g.phase = .midPoll
  · cases r <;> simp [step, h]
  · simp [step, h]

theorem step_abort (tid : Nat) (g : G) :
    step tid g .abort =
      some ({ g with j := { g.j with aborted := true } }, .unit, if g.j.aborted then [] else [Eff.wake tid]) := by
  show some ({ g with j := (g.j.setAborted tid).1 }, Out.unit, (g.j.setAborted tid).2) = _
  rw [setAborted_eq]

/-- An over-approximation of `step` (`step_sound`; no converse: `dropJoiner` has no guard, `nohandle` is for any
operation): the successor state written out for each way an operation can go. -/
inductive Step (g : G) : FOp → G → Prop
  | cancel : g.phase = .idle → g.j.aborted = true →
      Step g .pollBegin { g with j := (g.j.publish false).1, phase := .done, cancelSeen := true, dropped := true,
                                 tlsRun := g.tlsRun + 1, published := some false, pubCount := g.pubCount + 1 }
  | begin : g.phase = .idle → g.j.aborted = false →
      Step g .pollBegin { g with phase := .midPoll, cancelSeen := false, innerPolls := g.innerPolls + 1 }
  | ready : g.phase = .midPoll →
      Step g (.pollEnd true) { g with j := (g.j.publish true).1, phase := .done, innerCompleted := true,
                                      tlsRun := g.tlsRun + 1, published := some true, pubCount := g.pubCount + 1 }
  | pending : g.phase = .midPoll → Step g (.pollEnd false) { g with phase := .idle }
  | take {cx : Nat} {v : Bool} : g.j.handle = true ∨ g.joiner = some cx → g.j.result = some v →
      Step g (.joinPoll cx) { g with j := { g.j with handle := false, result := none }, joiner := none,
                                     detached := true, taken := some v, takenCount := g.takenCount + 1 }
  | wait {cx : Nat} : g.j.handle = true ∨ g.joiner = some cx → g.j.result = none →
      Step g (.joinPoll cx) { g with j := { g.j with handle := false, waker := some cx }, joiner := some cx }
  | abort : Step g .abort { g with j := { g.j with aborted := true } }
  | dropHandle : g.j.handle = true → Step g .dropHandle { g with j := { g.j with handle := false }, detached := true }
  | dropJoiner {cx : Nat} : Step g (.dropJoiner cx) { g with joiner := none, detached := true }
  | nohandle {op : FOp} : Step g op g

theorem step_sound {tid : Nat} {g g' : G} {op : FOp} {o : Out} {effs : List Eff}
    (hs : step tid g op = some (g', o, effs)) : Step g op g' := by
  revert hs
  -- cases 1-3 `pollBegin`, 4-6 `pollEnd`, 7-9 `joinPoll`, 10 `abort`, 11/12 `dropHandle`, 13/14 `dropJoiner`;
  -- 1, 4 and 14 return `none` and go with `cases hs`
  fun_cases step tid g op <;> intro hs <;> cases hs
  case case2 hph hab => exact .cancel (Decidable.not_not.mp hph) hab
  case case3 hph hab => exact .begin (Decidable.not_not.mp hph) (by simpa using hab)
  case case5 hph => exact .ready (Decidable.not_not.mp hph)
  case case6 hph hr => rw [Bool.eq_false_iff.mpr hr]; exact .pending (Decidable.not_not.mp hph)
  case case7 hown _ _ hp =>
    obtain ⟨hr, rfl⟩ := pollJoin_some hp
    exact .take (by simpa using hown) hr
  case case8 hown _ hp =>
    obtain ⟨hr, rfl⟩ := pollJoin_none hp
    exact .wait (by simpa using hown) hr
  case case9 | case12 => exact .nohandle
  case case10 => rw [setAborted_eq]; exact .abort
  case case11 hh => exact .dropHandle hh
  case case13 => exact .dropJoiner

/-! Each clause of `Inv` reads two or three fields and each operation writes a few, so a step re-proves only the clauses that
read a field it writes; `{ hi with … }` carries the others over as they are (`publish` writes `result` and `waker`
only, which the clauses about `aborted` and `handle` see through by unfolding). -/

theorem Inv.nothing_published {g : G} (hi : Inv g) (hnd : g.phase ≠ .done) :
    g.published = none ∧ g.j.result = none ∧ g.pubCount = 0 ∧ g.takenCount = 0 ∧ g.taken = none := by
  have hp : g.published = none := by
    cases hp : g.published with
    | none => rfl
    | some v => exact absurd (hi.pubDone.mpr (by rw [hp]; rfl)) hnd
  have hr : g.j.result = none := by
    cases hr : g.j.result with
    | none => rfl
    | some r => have := (hi.slotFull r hr).1; rw [hp] at this; cases this
  have hc : g.pubCount = 0 := by rw [hi.pubCount, hp]; rfl
  obtain ⟨a, b⟩ := hi.slotEmpty hr
  exact ⟨hp, hr, hc, b.trans hc, a.trans hp⟩

/-- the Wrapper moves between `idle` and `midPoll`: nothing is published yet, so only `mid` and `seenAborted`
constrain the flag it read -/
theorem Inv.poll {g : G} (hi : Inv g) (hnd : g.phase ≠ .done) {ph : WPhase} {cs : Bool} {n : Nat}
    (hph : ph ≠ .done) (hm : ph = .midPoll → cs = false) (ha : cs = true → g.j.aborted = true) :
    Inv { g with phase := ph, cancelSeen := cs, innerPolls := n } :=
  have hp := (hi.nothing_published hnd).1
  { hi with
    pubDone := ⟨fun h => absurd h hph, fun h => by rw [hp] at h; cases h⟩
    value := fun v h => by rw [hp] at h; cases h
    seenAborted := ha
    cancelFx := fun h => absurd h hph
    okFx := fun h => absurd h hph
    notDone := fun _ => hi.notDone hnd
    mid := hm }

/-- the Wrapper finishes and publishes `r = !cs`, `cs` being the flag its last `pollBegin` read -/
theorem Inv.finish {g : G} (hi : Inv g) (hnd : g.phase ≠ .done) {r cs dr ic : Bool} (hr : r = !cs)
    (ha : cs = true → g.j.aborted = true) (hdr : dr = cs) (hic : ic = !cs) :
    Inv { g with j := (g.j.publish r).1, phase := .done, cancelSeen := cs, dropped := dr, innerCompleted := ic,
                 tlsRun := g.tlsRun + 1, published := some r, pubCount := g.pubCount + 1 } :=
  have ⟨_, _, hc, htc, htk⟩ := hi.nothing_published hnd
  { hi with
    pubDone := ⟨fun _ => rfl, fun _ => rfl⟩
    pubCount := congrArg (· + 1) hc
    tls := congrArg (· + 1) hi.tls
    slotFull := fun _ h => ⟨h, htc, htk⟩
    slotEmpty := fun h => nomatch h
    value := fun v h => by cases h; exact hr
    seenAborted := ha
    cancelFx := fun _ h => by subst h hdr hic; exact ⟨rfl, rfl⟩
    okFx := fun _ h => by subst h hdr hic; exact ⟨rfl, rfl⟩
    notDone := fun h => absurd rfl h
    mid := fun h => nomatch h }

theorem Inv.step {tid : Nat} {g g' : G} {op : FOp} {o : Out} {effs : List Eff} (hi : Inv g)
    (hs : step tid g op = some (g', o, effs)) : Inv g' := by
  cases step_sound hs with
  | cancel hph hab =>
    have hnd : g.phase ≠ .done := by rw [hph]; decide
    exact hi.finish hnd (cs := true) rfl (fun _ => hab) rfl (hi.notDone hnd).2
  | begin hph hab =>
    exact hi.poll (by rw [hph]; decide) (by decide) (fun _ => rfl) (fun h => nomatch h)
  | ready hph =>
    have hnd : g.phase ≠ .done := by rw [hph]; decide
    have hcs := hi.mid hph
    exact hi.finish hnd (cs := g.cancelSeen) (dr := g.dropped) (by rw [hcs]; rfl) hi.seenAborted
      ((hi.notDone hnd).1.trans hcs.symm) (by rw [hcs]; rfl)
  | pending hph =>
    exact hi.poll (by rw [hph]; decide) (cs := g.cancelSeen) (n := g.innerPolls) (by decide)
      (fun h => nomatch h) hi.seenAborted
  | @take cx v _ hr =>
    -- the slot was full: `v` is the published value, taken now for the first time
    obtain ⟨hp, htc, _⟩ := hi.slotFull v hr
    have hpc : g.pubCount = 1 := by rw [hi.pubCount, hp]; rfl
    exact { hi with
      slotFull := fun _ h => nomatch h
      slotEmpty := fun _ => ⟨hp.symm, by show g.takenCount + 1 = g.pubCount; rw [htc, hpc]⟩
      owner := fun h => nomatch h.1
      takenGone := fun _ => ⟨rfl, rfl⟩
      attached := fun h => nomatch h }
  | @wait cx hown hr =>
    exact { hi with
      owner := fun h => nomatch h.1
      takenGone := fun h => by
        obtain ⟨h1, h2⟩ := hi.takenGone h
        rw [h1, h2] at hown
        rcases hown with h | h <;> cases h
      attached := fun _ => .inr rfl }
  | abort => exact { hi with seenAborted := fun _ => rfl }
  | dropHandle hh =>
    exact { hi with
      owner := fun h => nomatch h.1
      takenGone := fun h => ⟨rfl, (hi.takenGone h).2⟩
      attached := fun h => nomatch h }
  | dropJoiner =>
    exact { hi with
      owner := fun h => nomatch h.2
      takenGone := fun h => ⟨(hi.takenGone h).1, rfl⟩
      attached := fun h => nomatch h }
  | nohandle => exact hi

theorem reach_inv {tid : Nat} {g : G} (h : Reach tid g) : Inv g := by
  induction h with
  | init => exact Inv.init tid
  | step _ hs ih => exact ih.step hs

end ShuttleProofs.C17.Lts

/-
  C20, DashMap: the invariant of the concurrent semantics `DashMap.step` and the program order of its log.
-/
import ShuttleModel.Wrap.DashMap

namespace ShuttleProofs.C20Dash
open ShuttleModel.DetMap (Entries lookup replaceVal eraseKey retain)
open ShuttleModel.DashMap

variable {K V : Type} [DecidableEq K]

theorem read_pure (op : Op K V) (m : Entries K V) (h : lockMode op = .read) : (dashOp op m).2 = m := by
  cases op <;> first | rfl | cases h

theorem seqRun_append (es : List (Ev K V)) (e : Ev K V) (m : Entries K V) :
    seqRun (es ++ [e]) m =
      ((seqRun es m).1 ++ [(evalEv e (seqRun es m).2).1], (evalEv e (seqRun es m).2).2) := by
  induction es generalizing m with
  | nil => simp [seqRun]
  | cons a es ih => simp [seqRun, ih]

theorem seqRun_length (es : List (Ev K V)) (m : Entries K V) : (seqRun es m).1.length = es.length := by
  induction es generalizing m with
  | nil => simp [seqRun]
  | cons a es ih => simp [seqRun, ih]

/-- the events of the acquisition log -/
def evs (σ : Conc K V) : List (Ev K V) := σ.acq.map Prod.snd

/-- results / contents of the plain map under the acquisition order so far -/
def seqRes (m0 : Entries K V) (σ : Conc K V) : List (Res K V) := (seqRun (evs σ) m0).1
def seqMap (m0 : Entries K V) (σ : Conc K V) : Entries K V := (seqRun (evs σ) m0).2

theorem seqRes_length (m0 : Entries K V) (σ : Conc K V) : (seqRes m0 σ).length = σ.acq.length := by
  simp [seqRes, seqRun_length, evs]

/-- the invariant tying the concurrent state to the sequential replay of its acquisition log -/
structure Inv (m0 : Entries K V) (σ : Conc K V) : Prop where
  holder_ok : ∀ h ∈ σ.holders, σ.acq[h.2.1]? = some (h.1, (h.2.2, false)) ∧
      (seqRes m0 σ)[h.2.1]? = some (dashOp h.2.2 σ.map).1
  readers : (∀ h ∈ σ.holders, lockMode h.2.2 = .read) → σ.map = seqMap m0 σ
  writer : ∀ h ∈ σ.holders, lockMode h.2.2 = .write →
      σ.holders = [h] ∧ (dashOp h.2.2 σ.map).2 = seqMap m0 σ
  done_ok : ∀ d ∈ σ.done, (∃ l, σ.acq[d.1]? = some (d.2.1, (d.2.2.1, l))) ∧
      (seqRes m0 σ)[d.1]? = some d.2.2.2

theorem inv_init (progs : Nat → List (Op K V)) (m0 : Entries K V) : Inv m0 (Conc.init progs m0) := by
  exact ⟨fun _ h => (List.not_mem_nil h).elim, fun _ => rfl, fun _ h => (List.not_mem_nil h).elim,
    fun _ h => (List.not_mem_nil h).elim⟩

theorem seq_push (m0 : Entries K V) (σ σ' : Conc K V) (t : Nat) (e : Ev K V)
    (h : σ'.acq = σ.acq ++ [(t, e)]) :
    seqRes m0 σ' = seqRes m0 σ ++ [(evalEv e (seqMap m0 σ)).1] ∧
      seqMap m0 σ' = (evalEv e (seqMap m0 σ)).2 := by
  simp [seqRes, seqMap, evs, h, seqRun_append]

section
variable {m0 : Entries K V} {σ σ' : Conc K V} {t : Nat} {e : Ev K V}

/-- entries of the log and of its replay stay where they are when the log grows -/
theorem push_old (hacq : σ'.acq = σ.acq ++ [(t, e)]) {i : Nat} {a : Nat × Ev K V} {r : Res K V}
    (h1 : σ.acq[i]? = some a) (h2 : (seqRes m0 σ)[i]? = some r) :
    σ'.acq[i]? = some a ∧ (seqRes m0 σ')[i]? = some r := by
  rw [hacq, (seq_push m0 σ σ' t e hacq).1, List.getElem?_append_left (List.getElem?_eq_some_iff.mp h1).1,
    List.getElem?_append_left (List.getElem?_eq_some_iff.mp h2).1]
  exact ⟨h1, h2⟩

theorem push_new (hacq : σ'.acq = σ.acq ++ [(t, e)]) :
    σ'.acq[σ.acq.length]? = some (t, e) ∧
      (seqRes m0 σ')[σ.acq.length]? = some (evalEv e (seqMap m0 σ)).1 := by
  refine ⟨by rw [hacq]; exact List.getElem?_concat_length, ?_⟩
  rw [(seq_push m0 σ σ' t e hacq).1, ← seqRes_length m0 σ]
  exact List.getElem?_concat_length

theorem done_push (I : Inv m0 σ) (hacq : σ'.acq = σ.acq ++ [(t, e)]) (d : Nat × Nat × Op K V × Res K V)
    (hd : d ∈ σ.done) :
    (∃ l, σ'.acq[d.1]? = some (d.2.1, (d.2.2.1, l))) ∧ (seqRes m0 σ')[d.1]? = some d.2.2.2 :=
  have ⟨⟨l, h1⟩, h2⟩ := I.done_ok d hd
  ⟨⟨l, (push_old hacq h1 h2).1⟩, (push_old hacq h1 h2).2⟩

theorem all_read_of_read (I : Inv m0 σ) {h : Holder K V}
    (hm : h ∈ σ.holders) (hr : lockMode h.2.2 = .read) : ∀ h' ∈ σ.holders, lockMode h'.2.2 = .read := by
  intro h' hm'
  cases hw : lockMode h'.2.2 with
  | read => rfl
  | write =>
    cases List.mem_singleton.mp ((I.writer h' hm' hw).1 ▸ hm)
    exact LockMode.noConfusion (hr.symm.trans hw)

theorem inv_release (I : Inv m0 σ) {h : Holder K V} (hm : h ∈ σ.holders) (ht : h.1 = t) :
    Inv m0 { σ with map := (dashOp h.2.2 σ.map).2,
                    holders := σ.holders.filter (fun h' => h'.1 != t),
                    done := σ.done ++ [(h.2.1, t, h.2.2, (dashOp h.2.2 σ.map).1)] } := by
  have hsub : ∀ h' ∈ σ.holders.filter (fun h' => h'.1 != t), h' ∈ σ.holders ∧ h' ≠ h := fun h' hm' =>
    have := List.mem_filter.mp hm'
    ⟨this.1, fun e => by simp [e, ht] at this⟩
  -- if somebody else is inside, `h` is a reader (a writer is alone) and left the map as it was
  have hoth : ∀ h' ∈ σ.holders.filter (fun h' => h'.1 != t),
      lockMode h.2.2 = .read ∧ (dashOp h.2.2 σ.map).2 = σ.map := by
    intro h' hm'
    cases hmode : lockMode h.2.2 with
    | write => exact absurd (List.mem_singleton.mp ((I.writer h hm hmode).1 ▸ (hsub h' hm').1)) (hsub h' hm').2
    | read => exact ⟨rfl, read_pure _ _ hmode⟩
  refine ⟨fun h' hm' => ?_, fun _ => ?_, fun h' hm' hw => ?_, fun d hd => ?_⟩
  · dsimp only
    rw [(hoth h' hm').2]
    exact I.holder_ok h' (hsub h' hm').1
  · cases hmode : lockMode h.2.2 with
    | write => exact (I.writer h hm hmode).2
    | read => exact (read_pure _ _ hmode).trans (I.readers (all_read_of_read I hm hmode))
  · exact LockMode.noConfusion
      ((all_read_of_read I hm (hoth h' hm').1 h' (hsub h' hm').1).symm.trans hw)
  · rcases List.mem_append.mp hd with hd | hd
    · exact I.done_ok d hd
    · cases List.mem_singleton.mp hd
      exact ⟨⟨false, ht ▸ (I.holder_ok h hm).1⟩, (I.holder_ok h hm).2⟩

theorem inv_acquire (I : Inv m0 σ) (o : Op K V) (r : Nat → List (Op K V))
    (hcan : canAcquire (lockMode o) σ.holders = true) :
    Inv m0 { σ with holders := σ.holders ++ [(t, σ.acq.length, o)],
                    acq := σ.acq ++ [(t, (o, false))], rest := r } := by
  -- whoever is admitted finds only readers inside, so the shared map is the replayed one
  have hall : ∀ h ∈ σ.holders, lockMode h.2.2 = .read := by
    intro h hm
    cases hmode : lockMode o with
    | write => rw [hmode] at hcan; exact absurd hm (List.isEmpty_iff.mp hcan ▸ List.not_mem_nil)
    | read => rw [hmode] at hcan; exact beq_iff_eq.mp (List.all_eq_true.mp hcan h hm)
  have hms : σ.map = seqMap m0 σ := I.readers hall
  have hsm := (seq_push m0 σ { σ with acq := σ.acq ++ [(t, (o, false))] } t _ rfl).2
  refine ⟨fun h hm => ?_, fun hall' => ?_, fun h hm hw => ?_, fun d hd => done_push I rfl d hd⟩
  · rcases List.mem_append.mp hm with hm | hm
    · exact push_old rfl (I.holder_ok h hm).1 (I.holder_ok h hm).2
    · cases List.mem_singleton.mp hm
      exact hms ▸ push_new rfl
  · have hr : lockMode o = .read :=
      hall' (t, σ.acq.length, o) (List.mem_append_right _ (List.mem_singleton_self _))
    exact hms.trans ((read_pure _ _ hr).symm.trans hsm.symm)
  · rcases List.mem_append.mp hm with hm | hm
    · exact LockMode.noConfusion ((hall h hm).symm.trans hw)
    · cases List.mem_singleton.mp hm
      rw [show lockMode o = .write from hw] at hcan
      exact ⟨congrArg (· ++ _) (List.isEmpty_iff.mp hcan),
        (congrArg (fun m => (dashOp o m).2) hms).trans hsm.symm⟩

theorem inv_locked (I : Inv m0 σ) (o : Op K V) (r : Nat → List (Op K V)) :
    Inv m0 { σ with acq := σ.acq ++ [(t, (o, true))],
                    done := σ.done ++ [(σ.acq.length, t, o, .locked)], rest := r } := by
  have hsm := (seq_push m0 σ { σ with acq := σ.acq ++ [(t, (o, true))] } t _ rfl).2
  refine ⟨fun h hm => push_old rfl (I.holder_ok h hm).1 (I.holder_ok h hm).2,
    fun hall => (I.readers hall).trans hsm.symm, fun h hm hw => ?_, fun d hd => ?_⟩
  · exact ⟨(I.writer h hm hw).1, (I.writer h hm hw).2.trans hsm.symm⟩
  · rcases List.mem_append.mp hd with hd | hd
    · exact done_push I rfl d hd
    · cases List.mem_singleton.mp hd
      exact ⟨⟨true, (push_new (m0 := m0) rfl).1⟩, (push_new (e := (o, true)) rfl).2⟩

theorem inv_step (I : Inv m0 σ) (t : Nat) : Inv m0 (step t σ) := by
  -- `t` inside the lock: effect and release; outside: nothing left to run, admitted, a `try_*`
  -- locked out, blocked
  fun_cases step t σ
  · next h hfind _ =>
    exact inv_release I (List.mem_of_find?_eq_some hfind) (by simpa using List.find?_some hfind)
  · exact I
  · next hcan => exact inv_acquire I _ _ hcan
  · exact inv_locked I _ _
  · exact I

theorem inv_run (sched : List Nat) (I : Inv m0 σ) :
    Inv m0 (runSched sched σ) := by
  induction sched generalizing σ with
  | nil => exact I
  | cons t ts ih => exact ih (inv_step I t)

/-- the ops task `t` has issued so far, in acquisition order -/
def issued (σ : Conc K V) (t : Nat) : List (Op K V) :=
  (σ.acq.filter (fun a => a.1 == t)).map (fun a => a.2.1)

/-- program order: what a task has issued plus what it still has to run is its program -/
def ProgOrder (progs : Nat → List (Op K V)) (σ : Conc K V) : Prop :=
  ∀ t, issued σ t ++ σ.rest t = progs t

theorem progOrder_step {progs : Nat → List (Op K V)} (P : ProgOrder progs σ) (t : Nat) :
    ProgOrder progs (step t σ) := by
  -- a call that enters the log leaves the head of its task's remaining program
  have key : ∀ {o os}, σ.rest t = o :: os → ∀ (l : Bool) t',
      ((σ.acq ++ [(t, (o, l))]).filter (fun a => a.1 == t')).map (fun a => a.2.1)
        ++ setRest σ.rest t os t' = progs t' := by
    intro o os hrest l t'
    have := P t'
    unfold issued at this
    by_cases h : t' = t
    · subst h
      simp [setRest, List.filter_append, ← this, hrest]
    · have h' : ¬ t = t' := fun e => h e.symm
      simp [setRest, List.filter_append, h, h', this]
  -- the branches of `step` in the order of `inv_step`
  fun_cases step t σ
  · exact P
  · exact P
  · next hrest _ => exact key hrest false
  · next hrest _ _ => exact key hrest true
  · exact P

theorem progOrder_run {progs : Nat → List (Op K V)} (sched : List Nat)
    (P : ProgOrder progs σ) : ProgOrder progs (runSched sched σ) := by
  induction sched generalizing σ with
  | nil => exact P
  | cons t ts ih => exact ih (progOrder_step P t)

omit [DecidableEq K] in
theorem progOrder_init (progs : Nat → List (Op K V)) (m0 : Entries K V) :
    ProgOrder progs (Conc.init progs m0) := by
  intro t; simp [issued, Conc.init]

end

end ShuttleProofs.C20Dash

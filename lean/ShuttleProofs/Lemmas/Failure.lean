/-
  For C12 (`ShuttleModel/Failure.lean`): closed forms of one run from an arbitrary
  process state, and the process state after an arbitrary history.
-/
import ShuttleModel.Failure

namespace ShuttleModel.Failure

@[simp] theorem emit_none (l : Nat) : emit .none l = [] := rfl

theorem emit_inj (p q : Persist) (l : Nat) : emit p l = emit q l ↔ p = q := by
  cases p <;> cases q <;> simp [emit]

theorem emit_eq_nil_iff (p : Persist) (l : Nat) : emit p l = [] ↔ p = .none :=
  emit_inj p .none l

theorem len_of_mem_emit {p : Persist} {l : Nat} {e : Emission} (h : e ∈ emit p l) : e.len = l := by
  cases p
  · cases h
  all_goals exact List.eq_of_mem_singleton h ▸ rfl

/-- the config the hook uses during a run with own config `c` started in state `s` -/
def effHook (s : State) (c : Persist) : Persist :=
  match s.hookConfig with
  | some h => h
  | none => c

@[simp] theorem initHook_hookConfig (c : Persist) (s : State) :
    (initHook c s).hookConfig = some (effHook s c) := by
  unfold initHook effHook; split <;> simp_all

@[simp] theorem initHook_persistedAt (c : Persist) (s : State) :
    (initHook c s).persistedAt = s.persistedAt := by
  unfold initHook; split <;> rfl

@[simp] theorem effHook_init (c : Persist) : effHook State.init c = c := rfl

theorem effHook_of_some {s : State} {h : Persist} (hs : s.hookConfig = some h) (c : Persist) :
    effHook s c = h := by
  unfold effHook; rw [hs]

/-- The emissions of one run as a function of what it inherits: the config `hook` the panic hook
reads, and `dup`, whether the thread's cell already holds the run's schedule length when the failure
is detected.  The repaired code is the case `hook = r.persist`, `dup = False`. -/
def emissionsClosed (hook : Persist) (dup : Prop) [Decidable dup] (r : Run) : List Emission :=
  match r.failure with
  | .taskPanic =>
    (if dup then [] else emit hook r.schedLen) ++
      (if r.unwind = 0 then [] else emit r.persist (r.schedLen + r.unwind))
  | .deadlock => if dup then [] else emit r.persist r.schedLen
  | .stepBoundFail => if dup then [] else emit r.persist r.schedLen
  | .stepBoundContinue => []
  | .pass => []

theorem persistFailure_emissions (c : Persist) (t l : Nat) (s : State) :
    (persistFailure c t l s).1 = if s.persistedAt t = l then [] else emit c l := by
  unfold persistFailure; split <;> rfl

theorem persistFailure_persistedAt (c : Persist) (t l : Nat) (s : State) (t' : Nat) :
    (persistFailure c t l s).2.persistedAt t' = if t' = t then l else s.persistedAt t' := by
  unfold persistFailure
  split
  · rename_i h
    split
    · rename_i ht; rw [ht]; exact h
    · rfl
  · rfl

theorem persistFailure_hookConfig (c : Persist) (t l : Nat) (s : State) :
    (persistFailure c t l s).2.hookConfig = s.hookConfig := by
  unfold persistFailure; split <;> rfl

theorem hookFire_of_some {s : State} {c : Persist} (hs : s.hookConfig = some c) (t l : Nat) :
    hookFire t l s = persistFailure c t l s := by
  unfold hookFire; rw [hs]

theorem execRun_quiet (s : State) (r : Run) (hk : r.failure.failing = false) :
    execRun s r = (⟨[], .nothing⟩, initHook r.persist s) := by
  obtain ⟨p, k, l, u, t⟩ := r
  cases k <;> first | rfl | cases hk

theorem execRun_raised (s : State) (r : Run) : (execRun s r).1.raised = specRaised r.failure := by
  obtain ⟨p, k, l, u, t⟩ := r
  cases k <;> rfl

/-- one step of the thread-local cell -/
def persistedStep (t : Nat) (a : Nat) (r : Run) : Nat :=
  if r.failure.failing = true ∧ r.thread = t then r.finalLen else a

/-- One run from an arbitrary state.  After `init_panic_hook` the hook holds `effHook s r.persist`, so
for each kind both `persist_failure` calls are known; rewriting with their equations leaves two
facts: the second call finds the cell the first one set, so it emits iff the length has grown
meanwhile, i.e. iff the panicking task took `unwind > 0` steps (`Nat.left_eq_add`); and its write
hides the first (`hides`). -/
theorem execRun_spec (s : State) (r : Run) :
    (execRun s r).1.emissions =
      emissionsClosed (effHook s r.persist) (s.persistedAt r.thread = r.schedLen) r ∧
    (execRun s r).2.hookConfig = some (effHook s r.persist) ∧
    ∀ t, (execRun s r).2.persistedAt t = persistedStep t (s.persistedAt t) r := by
  obtain ⟨p, k, l, u, t0⟩ := r
  have hh := initHook_hookConfig p s
  have hh' : ∀ c t l, (persistFailure c t l (initHook p s)).2.hookConfig = some (effHook s p) :=
    fun _ _ _ => (persistFailure_hookConfig ..).trans hh
  have hides : ∀ a b t : Nat, (if t = t0 then a else if t = t0 then b else s.persistedAt t) =
      if t0 = t then a else s.persistedAt t := fun a b t => by
    by_cases ht : t = t0
    · rw [if_pos ht, if_pos ht.symm]
    · rw [if_neg ht, if_neg ht, if_neg fun h => ht h.symm]
  cases k <;>
    simp only [execRun, emissionsClosed, persistedStep, Run.finalLen, FailKind.failing, hookFire_of_some hh,
      hookFire_of_some (hh' _ _ _), persistFailure_emissions, persistFailure_persistedAt,
      persistFailure_hookConfig, initHook_persistedAt, hh, Nat.left_eq_add, hides, if_true, if_false,
      List.append_nil, true_and, and_self, false_and, implies_true, Bool.false_eq_true]

theorem execRun_emissions (s : State) (r : Run) :
    (execRun s r).1.emissions =
      emissionsClosed (effHook s r.persist) (s.persistedAt r.thread = r.schedLen) r :=
  (execRun_spec s r).1

theorem execRun_hookConfig (s : State) (r : Run) :
    (execRun s r).2.hookConfig = some (effHook s r.persist) :=
  (execRun_spec s r).2.1

theorem execRun_persistedAt (s : State) (r : Run) (t : Nat) :
    (execRun s r).2.persistedAt t = persistedStep t (s.persistedAt t) r :=
  (execRun_spec s r).2.2 t

/-- the value of `SCHEDULE_PERSISTED_AT` on thread `t` after `h`, starting from `a` -/
def persistedFrom (t : Nat) (a : Nat) (h : List Run) : Nat := h.foldl (persistedStep t) a

/-- … in a fresh process: the final schedule length of the last failing run on thread `t`, else `0` -/
def persistedAfter (h : List Run) (t : Nat) : Nat := persistedFrom t 0 h

theorem runFrom_persistedAt (s : State) (h : List Run) (t : Nat) :
    (runFrom s h).2.persistedAt t = persistedFrom t (s.persistedAt t) h := by
  induction h generalizing s with
  | nil => rfl
  | cons r rs ih =>
    simp only [runFrom, persistedFrom, List.foldl_cons]
    rw [ih, execRun_persistedAt]; rfl

theorem runFrom_hookConfig_of_some (s : State) (h : List Run) (c : Persist)
    (hs : s.hookConfig = some c) : (runFrom s h).2.hookConfig = some c := by
  induction h generalizing s with
  | nil => exact hs
  | cons r rs ih =>
    simp only [runFrom]
    apply ih
    rw [execRun_hookConfig, effHook_of_some hs]

theorem stateAfter_persistedAt (h : List Run) (t : Nat) :
    (stateAfter h).persistedAt t = persistedAfter h t := by
  unfold stateAfter persistedAfter
  rw [runFrom_persistedAt]; rfl

theorem stateAfter_hookConfig (h0 : Run) (hist : List Run) :
    (stateAfter (h0 :: hist)).hookConfig = some h0.persist := by
  unfold stateAfter
  simp only [runFrom]
  apply runFrom_hookConfig_of_some
  rw [execRun_hookConfig]; rfl

theorem emissionsAfter_nil (r : Run) :
    emissionsAfter [] r = emissionsClosed r.persist (0 = r.schedLen) r := by
  unfold emissionsAfter outcomeAfter
  rw [execRun_emissions]; rfl

theorem emissionsAfter_cons (h0 : Run) (hist : List Run) (r : Run) :
    emissionsAfter (h0 :: hist) r =
      emissionsClosed h0.persist (persistedAfter (h0 :: hist) r.thread = r.schedLen) r := by
  unfold emissionsAfter outcomeAfter
  rw [execRun_emissions, effHook_of_some (stateAfter_hookConfig h0 hist), stateAfter_persistedAt]

theorem runFrom_append (s : State) (h : List Run) (r : Run) :
    runFrom s (h ++ [r]) =
      ((runFrom s h).1 ++ [(execRun (runFrom s h).2 r).1], (execRun (runFrom s h).2 r).2) := by
  induction h generalizing s with
  | nil => simp [runFrom]
  | cons x xs ih => simp [runFrom, ih]

theorem runHistory_append (h : List Run) (r : Run) :
    runHistory (h ++ [r]) =
      runHistory h ++ [((outcomeAfter h r).emissions, (outcomeAfter h r).raised)] := by
  unfold runHistory outcomeAfter stateAfter
  rw [runFrom_append]; simp

theorem runFrom_raised (s : State) (h : List Run) :
    (runFrom s h).1.map (·.raised) = h.map (fun r => specRaised r.failure) := by
  induction h generalizing s with
  | nil => rfl
  | cons r rs ih => simp [runFrom, ih, execRun_raised]

/-- only a task panic unwinds: for the other kinds `unwind` is not read -/
theorem Run.finalLen_eq (r : Run) (hu : r.failure = .taskPanic → r.unwind = 0) :
    r.finalLen = r.schedLen := by
  obtain ⟨p, k, l, u, t⟩ := r
  cases k
  · cases hu rfl; rfl
  all_goals rfl

theorem specEmissions_eq (r : Run) (hu : r.failure = .taskPanic → r.unwind = 0) :
    specEmissions r = if r.failure.failing then emit r.persist r.schedLen else [] := by
  rw [specEmissions, r.finalLen_eq hu]

/-- when does the closed form deviate from the spec?  If the cell already holds the length nothing is
emitted (wrong unless persistence is off); otherwise a task panic emits with the hook's config
(wrong unless it is the run's own) and the other failures with the run's own. -/
theorem emissionsClosed_ne_spec_iff (hook : Persist) (dup : Prop) [Decidable dup] (r : Run)
    (hu : r.failure = .taskPanic → r.unwind = 0) :
    emissionsClosed hook dup r ≠ specEmissions r ↔
      r.failure.failing = true ∧
        ((dup ∧ r.persist ≠ .none) ∨ (r.failure = .taskPanic ∧ ¬ dup ∧ hook ≠ r.persist)) := by
  refine (not_congr ?_).trans Classical.not_not
  rw [specEmissions_eq r hu]
  obtain ⟨p, k, l, u, t⟩ := r
  have hu0 : k = .taskPanic → u = 0 := hu
  by_cases h1 : dup
  · have h : ([] = emit p l) ↔ ¬ p ≠ .none := by rw [eq_comm, emit_eq_nil_iff, Classical.not_not]
    cases k <;> simp [emissionsClosed, FailKind.failing, h1, h, hu0]
  · cases k <;> simp [emissionsClosed, FailKind.failing, h1, emit_inj, hu0]

theorem emissionsClosed_own (r : Run) {dup : Prop} [Decidable dup] (hd : ¬ dup) (hu : r.unwind = 0) :
    emissionsClosed r.persist dup r = specEmissions r :=
  Classical.byContradiction fun hne =>
    ((emissionsClosed_ne_spec_iff _ _ r fun _ => hu).mp hne).2.elim (fun h => hd h.1) fun h => h.2.2 rfl

theorem emissionsClosed_unwinding (hook : Persist) {dup : Prop} [Decidable dup] {r : Run} (hd : ¬ dup)
    (hk : r.failure = .taskPanic) (hu : 0 < r.unwind) :
    emissionsClosed hook dup r = emit hook r.schedLen ++ emit r.persist (r.schedLen + r.unwind) := by
  unfold emissionsClosed
  rw [hk]
  exact congr (congrArg _ (if_neg hd)) (if_neg (Nat.ne_of_gt hu))

/-- every emitted schedule was cut at the failure or is the complete one -/
theorem len_of_mem_emissionsClosed {hook : Persist} {dup : Prop} [Decidable dup] {r : Run} {e : Emission}
    (h : e ∈ emissionsClosed hook dup r) : e.len = r.schedLen ∨ e.len = r.finalLen := by
  have hlen : ∀ {c : Prop} [Decidable c] {p l}, (e ∈ if c then [] else emit p l) → e.len = l := by
    intro c _ p l h
    split at h
    · cases h
    · exact len_of_mem_emit h
  obtain ⟨p, k, l, u, t⟩ := r
  cases k
  · rcases List.mem_append.mp h with h | h
    · exact Or.inl (hlen h)
    · exact Or.inr (hlen h)
  · exact Or.inl (hlen h)
  · exact Or.inl (hlen h)
  all_goals cases h

namespace Fixed

@[simp] theorem setAt_same {α : Type} (f : Nat → α) (t : Nat) (v : α) : setAt f t v t = v := by
  simp [setAt]

/-- `init_panic_hook` resets the cell and sets the thread's config, so the first `persist_failure`
emits with the run's own config and the second finds the cell it set -/
theorem execRun_emissions (s : State) (r : Run) :
    (execRun s r).1.emissions = emissionsClosed r.persist False r := by
  obtain ⟨p, k, l, u, t⟩ := r
  cases k <;>
    simp only [execRun, emissionsClosed, hookFire, persistFailure, initHook, setAt_same, reduceCtorEq,
      if_false, if_true, List.append_nil, Option.some.injEq, Nat.left_eq_add, apply_ite Prod.fst]

theorem execRun_raised (s : State) (r : Run) : (execRun s r).1.raised = specRaised r.failure := by
  obtain ⟨p, k, l, u, t⟩ := r
  cases k <;> rfl

theorem runFrom_map {β : Type} {f : Outcome → β} {g : Run → β} (hfg : ∀ s r, f (execRun s r).1 = g r)
    (s : State) (h : List Run) : (runFrom s h).1.map f = h.map g := by
  induction h generalizing s with
  | nil => rfl
  | cons r rs ih => simp [runFrom, ih, hfg]

theorem runFrom_raised (s : State) (h : List Run) :
    (runFrom s h).1.map (·.raised) = h.map (fun r => specRaised r.failure) :=
  runFrom_map execRun_raised s h

end Fixed

theorem joinAll_isSome (acc : Option Nat) (ms : List Member) :
    (joinAll acc ms).isSome = (acc.isSome || ms.any Member.isFailed) := by
  fun_induction joinAll acc ms <;> simp [*, Member.isFailed]

theorem joinAll_of_none_failed (acc : Option Nat) {ms : List Member} (h : ms.any Member.isFailed = false) :
    joinAll acc ms = acc := by
  fun_induction joinAll acc ms with
  | case1 => rfl
  | case2 acc ms ih => exact ih h
  | case3 => cases h

theorem joinAll_append_failed (acc : Option Nat) (ms : List Member) (p : Nat) (rest : List Member)
    (hrest : rest.any Member.isFailed = false) :
    joinAll acc (ms ++ .failed p :: rest) = some p := by
  induction ms generalizing acc with
  | nil => exact joinAll_of_none_failed (some p) hrest
  | cons m ms ih =>
    cases m with
    | passed => exact ih acc
    | failed q => exact ih (some q)

theorem specRaised_eq_nothing_iff (k : FailKind) : specRaised k = .nothing ↔ k.failing = false := by
  cases k <;> simp [specRaised, FailKind.failing]

theorem toMembers_any_failed (j : Nat) (os : List Outcome) :
    (toMembers j os).any Member.isFailed = (os.map (·.raised)).any (fun x => decide (x ≠ .nothing)) := by
  fun_induction toMembers j os with
  | case1 => rfl
  | case2 j o os ih =>
    simp only [List.map_cons, List.any_cons, ih]
    by_cases h : o.raised = .nothing <;> simp [h, Member.isFailed]

theorem any_specRaised (ms : List Run) :
    ((ms.map fun r => specRaised r.failure).any fun x => decide (x ≠ .nothing)) = true ↔
      ∃ r ∈ ms, r.failure.failing = true := by
  rw [List.any_map, List.any_eq_true]
  refine exists_congr fun r => and_congr_right fun _ => ?_
  rw [Function.comp_apply, decide_eq_true_iff, Ne, specRaised_eq_nothing_iff, Bool.not_eq_false]

end ShuttleModel.Failure

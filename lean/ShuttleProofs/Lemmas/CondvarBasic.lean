import ShuttleModel.Prim.Condvar
/-
  C05 / Condvar, part 1: the pure transitions of `ShuttleModel.CondvarState` characterised as maps /
  filters over the waiter list, the ghost "blocked" set driven by the emitted `Eff`s, and the
  registration stage of `wait` as the kernel runs it.
-/
namespace ShuttleProofs.C05
open ShuttleModel ShuttleModel.CondvarState

/-- the assertions of the modelled code all have this shape -/
theorem of_ite_error_eq_ok {c : Prop} [Decidable c] {msg : String} {α : Type} {x : Except String α} {b : α}
    (h : (if c then Except.error msg else x) = .ok b) : ¬ c ∧ x = .ok b := by
  by_cases hc : c
  · rw [if_pos hc] at h; cases h
  · rw [if_neg hc] at h; exact ⟨hc, h⟩

/-- effect of one kernel request on the ghost "is blocked" predicate -/
def applyEff (b : Nat → Bool) : Eff → (Nat → Bool)
  | .unblock t => fun x => if x = t then false else b x
  | .block t => fun x => if x = t then true else b x
  | .wake _ => b
  | .joinClock _ _ => b

def applyEffs (b : Nat → Bool) (es : List Eff) : Nat → Bool := es.foldl applyEff b

@[simp] theorem applyEffs_nil (b : Nat → Bool) : applyEffs b [] = b := rfl
@[simp] theorem applyEffs_cons (b : Nat → Bool) (e : Eff) (es : List Eff) :
    applyEffs b (e :: es) = applyEffs (applyEff b e) es := rfl

theorem ite_ite_same {p q : Prop} [Decidable p] [Decidable q] {α : Type} (v w : α) :
    (if q then v else if p then v else w) = if p ∨ q then v else w := by
  by_cases hp : p <;> by_cases hq : q <;> simp [hp, hq]

theorem applyEffs_map {mk : Nat → Eff} {v : Bool}
    (hmk : ∀ b t, applyEff b (mk t) = fun x => if x = t then v else b x) (ts : List Nat) (b : Nat → Bool) (x : Nat) :
    applyEffs b (ts.map mk) x = if x ∈ ts then v else b x := by
  induction ts generalizing b with
  | nil => rfl
  | cons t ts ih => simp only [List.map_cons, applyEffs_cons, ih, hmk, List.mem_cons, ite_ite_same]

theorem applyEffs_unblocks (ts : List Nat) (b : Nat → Bool) (x : Nat) :
    applyEffs b (ts.map Eff.unblock) x = if x ∈ ts then false else b x :=
  applyEffs_map (fun _ _ => rfl) ts b x

theorem applyEffs_blocks (ts : List Nat) (b : Nat → Bool) (x : Nat) :
    applyEffs b (ts.map Eff.block) x = if x ∈ ts then true else b x :=
  applyEffs_map (fun _ _ => rfl) ts b x

theorem any_key_iff {ws : List (Nat × CvStatus)} {me : Nat} :
    ws.any (·.1 == me) = true ↔ ∃ p ∈ ws, p.1 = me := by
  simp only [List.any_eq_true, beq_iff_eq]

theorem find_of_mem_nodup {ws : List (Nat × CvStatus)} (hnd : (ws.map (·.1)).Nodup) {p : Nat × CvStatus}
    (hp : p ∈ ws) : ws.find? (·.1 == p.1) = some p := by
  induction ws with
  | nil => cases hp
  | cons a l ih =>
    obtain ⟨ha, hl⟩ := List.nodup_cons.1 hnd
    rcases List.mem_cons.1 hp with rfl | hp'
    · exact List.find?_cons_of_pos (beq_self_eq_true _)
    · rw [List.find?_cons_of_neg]
      · exact ih hl hp'
      · exact fun hk => ha (List.mem_map.2 ⟨p, hp', (beq_iff_eq.1 hk).symm⟩)

theorem key_unique {ws : List (Nat × CvStatus)} (hnd : (ws.map (·.1)).Nodup) {p q : Nat × CvStatus}
    (hp : p ∈ ws) (hq : q ∈ ws) (hk : p.1 = q.1) : p = q :=
  Option.some.inj ((find_of_mem_nodup hnd hp).symm.trans (hk ▸ find_of_mem_nodup hnd hq))

theorem key_mem_filter {ws : List (Nat × CvStatus)} (hnd : (ws.map (·.1)).Nodup) (P : Nat × CvStatus → Bool)
    {q : Nat × CvStatus} (hq : q ∈ ws) : q.1 ∈ (ws.filter P).map (·.1) ↔ P q = true :=
  ⟨fun hm => let ⟨_, hq', hk⟩ := List.mem_map.1 hm
    key_unique hnd (List.mem_filter.1 hq').1 hq hk ▸ (List.mem_filter.1 hq').2,
    fun hP => List.mem_map_of_mem (List.mem_filter.2 ⟨hq, hP⟩)⟩

theorem notifyLoop_of_not_waiting (me : Nat) (f : CvStatus → CvStatus) (ws : List (Nat × CvStatus))
    (h : ∀ p ∈ ws, p.1 ≠ me) :
    notifyLoop me f ws = (ws.map (fun p => (p.1, f p.2)), (ws.map (·.1)).map Eff.unblock, false) := by
  induction ws with
  | nil => rfl
  | cons p ws ih =>
    have hp : (p.1 == me) = false := beq_false_of_ne (h p List.mem_cons_self)
    simp only [notifyLoop, hp, ih fun q hq => h q (List.mem_cons_of_mem _ hq)]
    rfl

/-- the assertion of the loop fires exactly on the caller's own entry -/
theorem notifyLoop_flag (me : Nat) (f : CvStatus → CvStatus) (ws : List (Nat × CvStatus)) :
    (notifyLoop me f ws).2.2 = ws.any (·.1 == me) := by
  induction ws with
  | nil => rfl
  | cons p ws ih => cases hp : p.1 == me <;> simp only [notifyLoop, hp, List.any_cons, ih] <;> rfl

theorem notifyLoop_ok {me : Nat} {f : CvStatus → CvStatus} {ws ws' : List (Nat × CvStatus)} {effs : List Eff}
    (h : notifyLoop me f ws = (ws', effs, false)) :
    (∀ p ∈ ws, p.1 ≠ me) ∧ ws' = ws.map (fun p => (p.1, f p.2)) ∧ effs = (ws.map (·.1)).map Eff.unblock := by
  have hne : ∀ p ∈ ws, p.1 ≠ me := fun p hp hpe => Bool.false_ne_true <|
    ((congrArg (·.2.2) h).symm.trans (notifyLoop_flag me f ws)).trans (any_key_iff.2 ⟨p, hp, hpe⟩)
  rw [notifyLoop_of_not_waiting me f ws hne] at h
  cases h
  exact ⟨hne, rfl, rfl⟩

theorem notifyOne_ok {s : CondvarState} {me : Nat} {c : Clock} {s' : CondvarState} {effs : List Eff}
    (h : s.notifyOne me c = .ok (s', effs)) :
    (∀ p ∈ s.waiters, p.1 ≠ me) ∧
    s' = { waiters := s.waiters.map (fun p => (p.1, signalStatus s.nextEpoch c p.2)),
           nextEpoch := s.nextEpoch + 1 } ∧
    effs = (s.waiters.map (·.1)).map Eff.unblock := by
  unfold CondvarState.notifyOne at h
  split at h
  · cases h
  · obtain ⟨hne, rfl, rfl⟩ := notifyLoop_ok ‹_›
    cases h
    exact ⟨hne, rfl, rfl⟩

theorem notifyAll_ok {s : CondvarState} {me : Nat} {c : Clock} {s' : CondvarState} {effs : List Eff}
    (h : s.notifyAll me c = .ok (s', effs)) :
    (∀ p ∈ s.waiters, p.1 ≠ me) ∧
    s' = { s with waiters := s.waiters.map (fun p => (p.1, CvStatus.broadcast c)) } ∧
    effs = (s.waiters.map (·.1)).map Eff.unblock := by
  unfold CondvarState.notifyAll at h
  split at h
  · cases h
  · obtain ⟨hne, rfl, rfl⟩ := notifyLoop_ok ‹_›
    cases h
    exact ⟨hne, rfl, rfl⟩

theorem notifyOne_of_not_waiting (s : CondvarState) (me : Nat) (c : Clock) (h : ∀ p ∈ s.waiters, p.1 ≠ me) :
    s.notifyOne me c = .ok ({ waiters := s.waiters.map (fun p => (p.1, signalStatus s.nextEpoch c p.2)),
                              nextEpoch := s.nextEpoch + 1 }, (s.waiters.map (·.1)).map Eff.unblock) := by
  unfold CondvarState.notifyOne
  rw [notifyLoop_of_not_waiting me _ _ h]

theorem notifyAll_of_not_waiting (s : CondvarState) (me : Nat) (c : Clock) (h : ∀ p ∈ s.waiters, p.1 ≠ me) :
    s.notifyAll me c = .ok ({ s with waiters := s.waiters.map (fun p => (p.1, CvStatus.broadcast c)) },
                            (s.waiters.map (·.1)).map Eff.unblock) := by
  unfold CondvarState.notifyAll
  rw [notifyLoop_of_not_waiting me _ _ h]

/-- what the loop of `wait` does to one other waiter's status -/
def consume1 (epoch : Nat) : CvStatus → CvStatus
  | .signal eps =>
    if eps.any (fun e => e.1 == epoch) then
      (if (eps.eraseP (fun e => e.1 == epoch)).isEmpty then .waiting
       else .signal (eps.eraseP (fun e => e.1 == epoch)))
    else .signal eps
  | st => st

/-- is this waiter sent back to `Waiting` (and blocked) when `epoch` is withdrawn -/
def reblocked (epoch : Nat) : CvStatus → Bool
  | .signal eps => eps.any (fun e => e.1 == epoch) && (eps.eraseP (fun e => e.1 == epoch)).isEmpty
  | _ => false

@[simp] theorem consume1_waiting (e : Nat) : consume1 e .waiting = .waiting := rfl
@[simp] theorem consume1_broadcast (e : Nat) (c : Clock) : consume1 e (.broadcast c) = .broadcast c := rfl
@[simp] theorem reblocked_waiting (e : Nat) : reblocked e .waiting = false := rfl
@[simp] theorem reblocked_broadcast (e : Nat) (c : Clock) : reblocked e (.broadcast c) = false := rfl
theorem reblocked_single (e : Nat) (c : Clock) : reblocked e (.signal [(e, c)]) = true := by simp [reblocked]

theorem consume1_signal (e : Nat) (eps : List (Nat × Clock)) :
    consume1 e (.signal eps) =
      if reblocked e (.signal eps) then .waiting else .signal (eps.eraseP (·.1 == e)) := by
  cases hany : eps.any (·.1 == e) with
  | true => simp only [consume1, reblocked, hany, Bool.true_and, if_true]
  | false =>
    simp only [consume1, reblocked, hany, Bool.false_and, Bool.false_eq_true, if_false,
      List.eraseP_of_forall_not (List.any_eq_false.1 hany)]

theorem consumeEpoch_cons (e tid : Nat) (st : CvStatus) (rest : List (Nat × CvStatus)) :
    consumeEpoch e ((tid, st) :: rest) =
      ((tid, consume1 e st) :: (consumeEpoch e rest).1,
       if reblocked e st then Eff.block tid :: (consumeEpoch e rest).2 else (consumeEpoch e rest).2) := by
  cases st with
  | waiting => rfl
  | broadcast c => rfl
  | signal eps =>
    -- the model erases by index, `consume1` by predicate
    have hany := List.findIdx?_isSome (xs := eps) (p := fun x => x.1 == e)
    have hers := List.eraseP_eq_eraseIdx (xs := eps) (p := fun x => x.1 == e)
    simp only [consumeEpoch, consume1, reblocked, ← hany, hers]
    cases eps.findIdx? (fun x => x.1 == e) with
    | none => rfl
    | some i =>
      simp only [Option.isSome_some, if_true, Bool.true_and]
      split <;> rfl

theorem consumeEpoch_eq (epoch : Nat) (ws : List (Nat × CvStatus)) :
    consumeEpoch epoch ws =
      (ws.map (fun p => (p.1, consume1 epoch p.2)),
       ((ws.filter (fun p => reblocked epoch p.2)).map (·.1)).map Eff.block) := by
  induction ws with
  | nil => rfl
  | cons p ws ih =>
    rw [consumeEpoch_cons, ih, List.filter_cons]
    cases reblocked epoch p.2 <;> rfl

theorem key_ne_of_mem_eraseP {e : Nat} {eps : List (Nat × Clock)} (hnd : (eps.map (·.1)).Nodup) :
    ∀ y ∈ eps.eraseP (·.1 == e), y.1 ≠ e := by
  induction eps with
  | nil => exact fun _ hy => absurd hy List.not_mem_nil
  | cons a l ih =>
    obtain ⟨ha, hl⟩ := List.nodup_cons.1 hnd
    by_cases hae : a.1 = e
    · rw [List.eraseP_cons_of_pos (by exact beq_iff_eq.2 hae)]
      exact fun y hy hye => ha (List.mem_map.2 ⟨y, hy, hye.trans hae.symm⟩)
    · rw [List.eraseP_cons_of_neg (by exact mt beq_iff_eq.1 hae)]
      exact List.forall_mem_cons.2 ⟨hae, ih hl⟩

theorem eraseP_ne_nil_of_not_reblocked {e : Nat} {eps : List (Nat × Clock)} (hre : reblocked e (.signal eps) = false)
    (hne : eps ≠ []) : eps.eraseP (·.1 == e) ≠ [] := by
  simp only [reblocked] at hre
  cases hany : eps.any (·.1 == e) with
  | true => exact fun h => by rw [hany, h] at hre; cases hre
  | false => rwa [List.eraseP_of_forall_not (List.any_eq_false.1 hany)]

theorem consume1_signal_of_mem_ne {epoch : Nat} {eps : List (Nat × Clock)} {x : Nat × Clock}
    (hx : x ∈ eps) (hne : x.1 ≠ epoch) :
    ∃ eps', consume1 epoch (.signal eps) = .signal eps' ∧ x ∈ eps' := by
  have hx' : x ∈ eps.eraseP (·.1 == epoch) :=
    (List.mem_eraseP_of_neg (p := (·.1 == epoch)) (by exact mt beq_iff_eq.1 hne)).2 hx
  refine ⟨_, (consume1_signal epoch eps).trans (if_neg fun hre => ?_), hx'⟩
  rw [List.isEmpty_iff.1 (Bool.and_eq_true_iff.1 hre).2] at hx'
  cases hx'

theorem register_ok {s : CondvarState} {me : Nat} {s' : CondvarState} (h : s.register me = .ok s') :
    (∀ p ∈ s.waiters, p.1 ≠ me) ∧ s' = { s with waiters := s.waiters ++ [(me, .waiting)] } :=
  let ⟨ha, h⟩ := of_ite_error_eq_ok h
  ⟨fun p hp hpe => ha (any_key_iff.2 ⟨p, hp, hpe⟩), (Except.ok.inj h).symm⟩

theorem register_of_not_waiting (s : CondvarState) (me : Nat) (h : ∀ p ∈ s.waiters, p.1 ≠ me) :
    s.register me = .ok { s with waiters := s.waiters ++ [(me, .waiting)] } :=
  if_neg fun ha => let ⟨p, hp, hpe⟩ := any_key_iff.1 ha; h p hp hpe

/-- what woke the caller: `none` = a broadcast, `some e` = the `notify_one` of epoch `e` -/
def wokenBy (s : CondvarState) (me : Nat) : Option Nat :=
  match s.waiters.find? (·.1 == me) with
  | some (_, .signal ((e, _) :: _)) => some e
  | _ => none

theorem wake_of_broadcast {s : CondvarState} {t : Nat} {c : Clock}
    (hf : s.waiters.find? (·.1 == t) = some (t, .broadcast c)) :
    s.wake t = .ok ({ s with waiters := s.waiters.filter (·.1 != t) }, c, []) ∧ wokenBy s t = none := by
  simp only [CondvarState.wake, wokenBy, hf, CondvarState.remove, and_self]

/-- the second stage on a waiter with a pending signal: its first epoch is withdrawn from everybody -/
theorem wake_of_signal {s : CondvarState} {t e : Nat} {c : Clock} {rest : List (Nat × Clock)}
    (hf : s.waiters.find? (·.1 == t) = some (t, .signal ((e, c) :: rest))) :
    s.wake t = .ok ({ s with waiters := (s.waiters.filter (·.1 != t)).map fun p => (p.1, consume1 e p.2) }, c,
      (((s.waiters.filter (·.1 != t)).filter fun p => reblocked e p.2).map (·.1)).map Eff.block) ∧
    wokenBy s t = some e := by
  simp only [CondvarState.wake, wokenBy, hf, CondvarState.remove, consumeEpoch_eq, and_self]

theorem wake_waiting_panics (s : CondvarState) (me : Nat)
    (h : s.waiters.find? (·.1 == me) = some (me, .waiting)) :
    s.wake me = .error "should not have been woken while in Waiting status" := by
  simp [CondvarState.wake, h]

theorem wake_unregistered_panics (s : CondvarState) (me : Nat) (h : ∀ p ∈ s.waiters, p.1 ≠ me) :
    s.wake me = .error "should be waiting" := by
  have : s.waiters.find? (·.1 == me) = none := by
    rw [List.find?_eq_none]; intro p hp; simpa using h p hp
  simp [CondvarState.wake, this]

theorem wake_ok {s : CondvarState} {me : Nat} {s' : CondvarState} {c : Clock} {effs : List Eff}
    (h : s.wake me = .ok (s', c, effs)) :
    (∃ st, (me, st) ∈ s.waiters ∧
      ((st = .broadcast c ∧ wokenBy s me = none ∧
          s' = { s with waiters := s.waiters.filter (·.1 != me) } ∧ effs = []) ∨
       (∃ e rest, st = .signal ((e, c) :: rest) ∧ wokenBy s me = some e ∧
          s' = { s with waiters := (s.waiters.filter (·.1 != me)).map (fun p => (p.1, consume1 e p.2)) } ∧
          effs = (((s.waiters.filter (·.1 != me)).filter (fun p => reblocked e p.2)).map (·.1)).map Eff.block))) := by
  cases hf : s.waiters.find? (·.1 == me) with
  | none => simp [CondvarState.wake, hf] at h
  | some p =>
    obtain ⟨t, st⟩ := p
    cases (by simpa using List.find?_some hf : t = me)
    refine ⟨st, List.mem_of_find?_eq_some hf, ?_⟩
    cases st with
    | waiting => rw [wake_waiting_panics s me hf] at h; cases h
    | broadcast c' =>
      obtain ⟨hw, hwb⟩ := wake_of_broadcast hf
      cases hw.symm.trans h
      exact .inl ⟨rfl, hwb, rfl, rfl⟩
    | signal eps =>
      cases eps with
      | nil => simp [CondvarState.wake, hf] at h
      | cons x rest =>
        obtain ⟨hw, hwb⟩ := wake_of_signal hf
        cases hw.symm.trans h
        exact .inr ⟨_, rest, rfl, hwb, rfl, rfl⟩

theorem wake_enabled {s : CondvarState} {t : Nat} (hex : ∃ q ∈ s.waiters, q.1 = t)
    (hst : ∀ q ∈ s.waiters, q.1 = t → q.2 ≠ .waiting ∧ q.2 ≠ .signal []) :
    ∃ s' c effs, s.wake t = .ok (s', c, effs) := by
  obtain ⟨q0, hq0, hk0⟩ := hex
  cases hf : s.waiters.find? (·.1 == t) with
  | none => exact absurd (beq_iff_eq.2 hk0) (List.find?_eq_none.1 hf q0 hq0)
  | some q =>
    obtain ⟨k, st⟩ := q
    cases (by simpa using List.find?_some hf : k = t)
    obtain ⟨h1, h2⟩ := hst _ (List.mem_of_find?_eq_some hf) rfl
    cases st with
    | waiting => exact absurd rfl h1
    | broadcast c => exact ⟨_, _, _, (wake_of_broadcast hf).1⟩
    | signal eps =>
      cases eps with
      | nil => exact absurd rfl h2
      | cons x rest => exact ⟨_, _, _, (wake_of_signal hf).1⟩

/-- after a `notify_one` on waiters that were all `Waiting`, the return of `t` sends every other
waiter back to `Waiting` -/
theorem notifyOne_then_consume_of_all_waiting (ws : List (Nat × CvStatus)) (ep : Nat) (c : Clock) (t : Nat)
    (hall : ∀ q ∈ ws, q.2 = .waiting) :
    ((ws.map (fun p => (p.1, signalStatus ep c p.2))).filter (·.1 != t)).map
        (fun q => (q.1, consume1 ep q.2)) = ws.filter (·.1 != t) := by
  rw [List.filter_map, List.map_map]
  refine (List.map_congr_left fun q hq => ?_).trans (List.map_id _)
  obtain ⟨k, st⟩ := q
  cases (hall _ (List.mem_filter.1 hq).1 : st = .waiting)
  show (k, consume1 ep (.signal [(ep, c)])) = (k, CvStatus.waiting)
  rw [consume1_signal, if_pos (reblocked_single ep c)]

/- The registration stage of `Condvar::wait` executed by the kernel: what the atomic segment between
the drop of the guard and the `switch` does to the shared state and to the calling task.
`runSegment` is unfolded by evaluation, one request at a time; a hypothesis is used only where it
branches on the state (`register`, the caller's task, `panicking`). -/

section Segment
variable {P : Program} {σ : Type} (S : Scheduler σ) (L : Lens P.U CondvarState) (me : Nat)

theorem runSegment_registerStage (fuel : Nat) (st : ExecState P σ) (k : Unit → Prog P.U Unit) :
    runSegment S me (fuel + 1) st (Condvar.registerStage L me >>= k) =
      runSegment S me fuel st
        ((match (L.get st.u).register me with
          | .error msg => K.panic msg
          | .ok s' => do K.setL L s'; K.block false) >>= k) := rfl

theorem modTask_block {k : Kernel} {t : Nat} {tk : Task} (sp : Bool) (hk : k.getTask? t = some tk)
    (hf : tk.finished = false) :
    k.modTask t (·.block sp) = .ok (k.setTask t { tk with state := .blocked sp }) := by
  simp only [Kernel.modTask, hk, Task.block, hf, Bool.false_eq_true, if_false]

theorem runSegment_block (fuel : Nat) (st : ExecState P σ) (sp : Bool) (k : Unit → Prog P.U Unit) {k' : Kernel}
    (h : st.k.modTask me (·.block sp) = .ok k') :
    runSegment S me (fuel + 1) st (.op (.block sp) k) = runSegment S me fuel { st with k := k' } (k ()) := by
  show (match st.k.modTask me (·.block sp) with
    | .ok k' => runSegment S me fuel { st with k := k' } (k ())
    | .error e => SegEnd.panicked e st) = _
  rw [h]

/-- Run by the kernel from any execution state in which `CondvarState.register` succeeds, the
registration stage followed by the `switch` of `wait`: writes the shared state only through the
condvar's lens, blocks the caller with `block(false)` (no spurious wake-ups), and stops at the
scheduling point with the rest of `wait` as the caller's continuation.  Five requests are issued
(`getU`; `getU`, `setU` of `setL`; `block`; `switch`): any fuel from 5 on does. -/
theorem registerStage_segment (P : Program) {σ : Type} (S : Scheduler σ) (L : Lens P.U CondvarState) (me : Nat)
    (st : ExecState P σ) (tk : Task) (hk : st.k.getTask? me = some tk) (hf : tk.finished = false)
    (s' : CondvarState) (hr : (L.get st.u).register me = .ok s') (kont : Prog P.U Unit) (fuel : Nat) :
    runSegment S me (fuel + 6) st (do Condvar.registerStage L me; K.switch; kont) =
      .atSwitch { st with u := L.set s' st.u, k := st.k.setTask me { tk with state := .blocked false },
                          conts := st.conts.set me kont } := by
  rw [runSegment_registerStage, hr]
  exact runSegment_block S me (fuel + 2) { st with u := L.set s' st.u } false (fun _ => K.switch >>= fun _ => kont)
    (modTask_block false hk hf)

/-- a caller that is already registered panics with the `debug_assert!` message, the state
untouched -/
theorem registerStage_segment_panics (P : Program) {σ : Type} (S : Scheduler σ) (L : Lens P.U CondvarState)
    (me : Nat) (st : ExecState P σ) (hp : st.k.panicking = none) (msg : String)
    (hr : (L.get st.u).register me = .error msg) (kont : Prog P.U Unit) (fuel : Nat) :
    runSegment S me (fuel + 3) st (do Condvar.registerStage L me; K.switch; kont) =
      runSegment S me (fuel + 1) { st with k := { st.k with panicking := some (me, msg) } } (P.unwind me) := by
  rw [runSegment_registerStage, hr]
  -- `runSegment` branches on `panicking`: make it a variable
  obtain ⟨k, _, _, _, _⟩ := st
  cases k
  cases hp
  rfl

end Segment

end ShuttleProofs.C05

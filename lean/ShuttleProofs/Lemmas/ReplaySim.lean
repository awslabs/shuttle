import ShuttleProofs.C08
import ShuttleModel.Runner
/-!
# Replay lemmas: a scheduler that *follows the log* of an execution reproduces that execution

`Follows S S' R`: whenever `R` holds and the next event still to be logged is a consultation (a draw) that `S`
answered with `ch` (`v`), `S'` gives the same answer and `R` holds again for the rest of the events.

`execute_follows`: under `Follows S S' R`, if `R s (log of the whole execution) s'` holds initially and the original
execution did not end with a scheduler panic, the execution under `S'` is the same execution: same kernel, user
state, continuations, log and outcome (`reRes`), and `R … [] …` holds at the end.  With `S' = S` and `R` speaking of
the part of the log already written (or of what the draws still to come must be) this also carries invariants of
scheduler state and log along an execution (`recording_follows`, `dataProj_follows`).
-/

namespace ShuttleProofs.Replay
open ShuttleModel ShuttleProofs.Kernel

variable {P : Program} {σ σ' : Type}

/-- `st` with the scheduler state replaced by `s'`; likewise `reEnd`, `reRes`, `reOp`, `reSum` -/
def reSt (st : ExecState P σ) (s' : σ') : ExecState P σ' :=
  { k := st.k, u := st.u, conts := st.conts, sch := s', log := st.log }

@[simp] theorem reSt_k (st : ExecState P σ) (s' : σ') : (reSt st s').k = st.k := rfl
@[simp] theorem reSt_sch (st : ExecState P σ) (s' : σ') : (reSt st s').sch = s' := rfl
@[simp] theorem reSt_log (st : ExecState P σ) (s' : σ') : (reSt st s').log = st.log := rfl
@[simp] theorem reSt_u (st : ExecState P σ) (s' : σ') : (reSt st s').u = st.u := rfl
@[simp] theorem reSt_conts (st : ExecState P σ) (s' : σ') : (reSt st s').conts = st.conts := rfl

def reEnd : SegEnd P σ → σ' → SegEnd P σ'
  | .atSwitch st, s' => .atSwitch (reSt st s')
  | .returned st, s' => .returned (reSt st s')
  | .panicked m st, s' => .panicked m (reSt st s')
  | .schedPanic m st, s' => .schedPanic m (reSt st s')
  | .outOfFuel st, s' => .outOfFuel (reSt st s')
  | .aborted m st, s' => .aborted m (reSt st s')

def reRes (r : Result P σ) (s' : σ') : Result P σ' := ⟨r.outcome, reSt r.st s'⟩

/-- on what `loopStep` returns: `.inl r` the execution ended with `r`, `.inr st` it goes on from `st` -/
def reSum : Result P σ ⊕ ExecState P σ → σ' → Result P σ' ⊕ ExecState P σ'
  | .inl r, s' => .inl (reRes r s')
  | .inr st, s' => .inr (reSt st s')

def sumSt : Result P σ ⊕ ExecState P σ → ExecState P σ
  | .inl r => r.st
  | .inr st => st

/-- `R s evs s'`: original scheduler state, events the original execution has still to log, follower's state. A
relation that does not need one of the three still takes it. -/
structure Follows (S : Scheduler σ) (S' : Scheduler σ') (R : σ → List Ev → σ' → Prop) : Prop where
  dec : ∀ ⦃s : σ⦄ ⦃s' : σ'⦄ ⦃views : List TaskView⦄ ⦃off : List Nat⦄ ⦃cur : Option Nat⦄ ⦃y : Bool⦄
      ⦃ch : Option Nat⦄ ⦃evs : List Ev⦄ ⦃s1 : σ⦄,
      R s (.dec off cur y ch :: evs) s' → views.map (·.id) = off → (∀ t, ch = some t → t ∈ off) →
      S.nextTask s views cur y = (.choose ch, s1) →
      ∃ s1', S'.nextTask s' views cur y = (.choose ch, s1') ∧ R s1 evs s1'
  draw : ∀ ⦃s : σ⦄ ⦃s' : σ'⦄ ⦃v : Nat⦄ ⦃evs : List Ev⦄ ⦃s1 : σ⦄,
      R s (.draw v :: evs) s' → S.nextU64 s = (.ok v, s1) →
      ∃ s1', S'.nextU64 s' = (.ok v, s1') ∧ R s1 evs s1'
  obs : ∀ ⦃s : σ⦄ ⦃s' : σ'⦄ ⦃x : String⦄ ⦃evs : List Ev⦄, R s (.obs x :: evs) s' → R s evs s'

theorem drop_of_push_prefix {full : List Ev} {l : Array Ev} {x : Ev} (h : (l.push x).toList <+: full) :
    full.drop l.size = x :: full.drop (l.size + 1) := by
  obtain ⟨t, rfl⟩ := h
  simp [← Array.length_toList]

theorem getElem?_of_drop_eq_cons {α : Type} {l : List α} {n : Nat} {x : α} {r : List α}
    (h : l.drop n = x :: r) : l[n]? = some x ∧ l.drop (n + 1) = r ∧ n + 1 ≤ l.length := by
  have h1 : (l.drop n)[0]? = some x := by rw [h]; rfl
  rw [List.getElem?_drop] at h1
  refine ⟨h1, ?_, (List.getElem?_eq_some_iff.mp h1).1⟩
  rw [← List.tail_drop, h]
  rfl

theorem runSegment_log_prefix (S : Scheduler σ) (me fuel : Nat) (st : ExecState P σ) (p : Prog P.U Unit) :
    st.log.toList <+: (runSegment S me fuel st p).st.log.toList := by
  rcases (runSegment_trace S me fuel st p).log with ⟨evs, h, _⟩ | ⟨msg, st', he, evs, h, _⟩
  · exact ⟨evs, h.symm⟩
  · rw [he]; exact ⟨evs, h.symm⟩

def reOp (s' : σ') {β : Type} : OpRes P σ β → OpRes P σ' β
  | .next st b => .next (reSt st s') b
  | .stop e => .stop (reEnd e s')

def _root_.ShuttleProofs.Kernel.OpRes.st {β : Type} : OpRes P σ β → ExecState P σ
  | .next st _ => st
  | .stop e => e.st

/-- `r'` is the result `r` of a request made in `st`, for scheduler state `s'`, and the request neither asked the
scheduler nor wrote the log -/
def SameOp (st : ExecState P σ) (s' : σ') {β : Type} (r : OpRes P σ β) (r' : OpRes P σ' β) : Prop :=
  r' = reOp s' r ∧ r.st.sch = st.sch ∧ r.st.log = st.log

theorem taskOp_reSt {β : Type} (st : ExecState P σ) (s' : σ') (t : Nat) (missing : String)
    (f : Task → Except String (β × Task)) :
    SameOp st s' (taskOp st t missing f) (taskOp (reSt st s') t missing f) := by
  unfold taskOp
  show SameOp st s' (match st.k.tasks[t]? with | none => _ | some tk => _)
    (match st.k.tasks[t]? with | none => _ | some tk => _)
  cases st.k.tasks[t]? with
  | none => exact ⟨rfl, rfl, rfl⟩
  | some tk => dsimp only; cases f tk <;> exact ⟨rfl, rfl, rfl⟩

theorem stepOp_rand_ok (S : Scheduler σ) (me : Nat) (st : ExecState P σ) (kont : Nat → Prog P.U Unit) {v : Nat}
    {s1 : σ} (h : S.nextU64 st.sch = (.ok v, s1)) :
    stepOp S me st .rand kont =
      .next { st with k := pushRandom st.k, sch := s1, log := st.log.push (.draw v) } v := by
  unfold stepOp
  rw [h]

theorem stepOp_rand_error (S : Scheduler σ) (me : Nat) (st : ExecState P σ) (kont : Nat → Prog P.U Unit)
    {e : String} {s1 : σ} (h : S.nextU64 st.sch = (.error e, s1)) :
    stepOp S me st .rand kont = .stop (.schedPanic e { st with k := pushRandom st.k, sch := s1 }) := by
  unfold stepOp
  rw [h]

/-- **A request under a follower is the same request.** -/
theorem stepOp_follows {S : Scheduler σ} {S' : Scheduler σ'} {R : σ → List Ev → σ' → Prop}
    (hF : Follows S S' R) (full : List Ev) (me : Nat) (st : ExecState P σ) (s' : σ') {β : Type} (o : KOp P.U β)
    (kont : β → Prog P.U Unit) {r : OpRes P σ β} (hr : stepOp S me st o kont = r)
    (hne : ∀ msg x, r ≠ .stop (.schedPanic msg x)) (hpre : r.st.log.toList <+: full)
    (hR : R st.sch (full.drop st.log.size) s') :
    ∃ s'', stepOp S' me (reSt st s') o kont = reOp s'' r ∧ R r.st.sch (full.drop r.st.log.size) s'' := by
  subst hr
  -- all requests but `rand` and `emit`
  have same : ∀ {r : OpRes P σ β} {r' : OpRes P σ' β}, SameOp st s' r r' →
      ∃ s'', r' = reOp s'' r ∧ R r.st.sch (full.drop r.st.log.size) s'' :=
    fun ⟨h1, h2, h3⟩ => ⟨s', h1, by rw [h2, h3]; exact hR⟩
  cases o with
  | switch | me | getU | setU | isFinished | requestYield | spawn | clock | clockOf | exitTruncates | resetSteps
  | ctxSwitches | isPanicking => exact same ⟨rfl, rfl, rfl⟩
  | block | blockTask | sleepUnlessWoken | unblock | park | unpark | setWaiter | takeWaiter | detach
  | updateClock | incClock | joinClockOf => exact same (taskOp_reSt st s' _ _ _)
  | wake t =>
    apply same
    show SameOp st s' (if wakeSkips st.k t then _ else _) (if wakeSkips st.k t then _ else _)
    split
    · exact ⟨rfl, rfl, rfl⟩
    · exact taskOp_reSt st s' _ _ _
  | emit x =>
    rw [drop_of_push_prefix hpre] at hR
    refine ⟨s', rfl, ?_⟩
    show R st.sch (full.drop (st.log.push (.obs x)).size) s'
    rw [Array.size_push]
    exact hF.obs hR
  | rand =>
    rcases hn : S.nextU64 st.sch with ⟨a, s1⟩
    cases a with
    | error m => exact absurd (stepOp_rand_error S me st kont hn) (hne m _)
    | ok v =>
      rw [stepOp_rand_ok S me st kont hn] at hpre ⊢
      rw [drop_of_push_prefix hpre] at hR
      obtain ⟨s1', hn', hR'⟩ := hF.draw hR hn
      rw [stepOp_rand_ok S' me (reSt st s') kont hn']
      refine ⟨s1', rfl, ?_⟩
      show R s1 (full.drop (st.log.push (.draw v)).size) s1'
      rw [Array.size_push]
      exact hR'

theorem runSegment_follows {S : Scheduler σ} {S' : Scheduler σ'} {R : σ → List Ev → σ' → Prop}
    (hF : Follows S S' R) (full : List Ev) (me : Nat) :
    ∀ (fuel : Nat) (st : ExecState P σ) (p : Prog P.U Unit) (s' : σ') (e : SegEnd P σ),
      runSegment S me fuel st p = e → (∀ msg x, e ≠ .schedPanic msg x) → e.st.log.toList <+: full →
      R st.sch (full.drop st.log.size) s' →
      ∃ s'', runSegment S' me fuel (reSt st s') p = reEnd e s'' ∧ R e.st.sch (full.drop e.st.log.size) s''
  | 0, st, p, s', e, he, hne, hpre, hR => by
    rw [runSegment_zero] at he; rw [runSegment_zero]; subst he; exact ⟨s', rfl, hR⟩
  | fuel + 1, st, .pure (), s', e, he, hne, hpre, hR => by
    rw [runSegment_pure] at he; rw [runSegment_pure, reSt_k]
    subst he
    rcases st.k.panicking with _ | ⟨t, msg⟩
    · exact ⟨s', rfl, hR⟩
    · dsimp only
      cases t == me with
      | true => exact ⟨s', rfl, hR⟩
      | false => cases st.k.alsoPanicking.find? (·.1 == me) <;> exact ⟨s', rfl, hR⟩
  | fuel + 1, st, .panic msg, s', e, he, hne, hpre, hR => by
    rw [runSegment_panic] at he; rw [runSegment_panic, reSt_k]
    revert he
    rcases st.k.panicking with _ | ⟨t, _⟩
    · exact fun he => runSegment_follows hF full me fuel
        { st with k := { st.k with panicking := some (me, msg) } } _ s' e he hne hpre hR
    · dsimp only
      cases t == me || st.k.alsoPanicking.any (·.1 == me) with
      | true => intro he; subst he; exact ⟨s', rfl, hR⟩
      | false =>
        exact fun he => runSegment_follows hF full me fuel
          { st with k := { st.k with alsoPanicking := st.k.alsoPanicking ++ [(me, msg)] } } _ s' e he hne hpre hR
  | fuel + 1, st, .op o kont, s', e, he, hne, hpre, hR => by
    rw [runSegment_op_eq] at he; rw [runSegment_op_eq]
    cases hr : stepOp S me st o kont with
    | stop e1 =>
      rw [hr] at he
      obtain rfl : e1 = e := he
      obtain ⟨s'', h1, hR1⟩ := stepOp_follows hF full me st s' o kont hr
        (fun msg x h => hne msg x (by cases h; rfl)) hpre hR
      rw [h1]
      exact ⟨s'', rfl, hR1⟩
    | next st1 b =>
      rw [hr] at he
      have hp := runSegment_log_prefix S me fuel st1 (kont b)
      rw [show runSegment S me fuel st1 (kont b) = e from he] at hp
      obtain ⟨s'', h1, hR1⟩ := stepOp_follows hF full me st s' o kont hr (fun _ _ h => by cases h)
        (hp.trans hpre) hR
      rw [h1]
      exact runSegment_follows hF full me fuel st1 (kont b) s'' e he hne hpre hR1

theorem finishSeg_reEnd (t : Nat) (e : SegEnd P σ) (s'' : σ') :
    finishSeg t (reEnd e s'') = reSum (finishSeg t e) s'' := by
  cases e with
  | returned st =>
    simp only [reEnd, finishSeg, reSt_k]
    cases st.k.modTask t (fun x => x.finish) <;> rfl
  | _ => rfl

theorem sumSt_finishSeg (t : Nat) (e : SegEnd P σ) :
    (sumSt (finishSeg t e)).log = e.st.log ∧ (sumSt (finishSeg t e)).sch = e.st.sch := by
  cases e with
  | returned st =>
    simp only [finishSeg]
    cases st.k.modTask t (fun x => x.finish) <;> exact ⟨rfl, rfl⟩
  | _ => exact ⟨rfl, rfl⟩

theorem views_map_id (k : Kernel) : ∀ (l : List Nat), (∀ i ∈ l, ∃ tk, k.tasks[i]? = some tk) →
    (k.views l).map (·.id) = l
  | [], _ => rfl
  | i :: l, h => by
    obtain ⟨tk, htk⟩ := h i (List.mem_cons_self ..)
    have ih := views_map_id k l (fun j hj => h j (List.mem_cons_of_mem _ hj))
    unfold Kernel.views at ih ⊢
    simp only [Kernel.getTask?] at ih
    simp only [List.filterMap_cons, Kernel.getTask?, htk, Option.map_some, List.map_cons]
    rw [ih]

theorem offered_views_ids (k : Kernel) : ((atConsult k).views k.offered).map (·.id) = k.offered :=
  views_map_id (atConsult k) k.offered (fun i hi => by
    obtain ⟨tk, h, _⟩ := mem_offered.mp hi
    exact ⟨tk, h⟩)

theorem loopStep_follows {S : Scheduler σ} {S' : Scheduler σ'} {R : σ → List Ev → σ' → Prop}
    (hF : Follows S S' R) (full : List Ev) (segFuel : Nat) {ms : MaxSteps} (st : ExecState P σ) (s' : σ')
    (hi : LoopInv ms st) (x : Result P σ ⊕ ExecState P σ) (hx : loopStep S segFuel st = x)
    (hne : ∀ msg st1, x ≠ .inl ⟨.schedPanic msg, st1⟩)
    (hpre : (sumSt x).log.toList <+: full)
    (hR : R st.sch (full.drop st.log.size) s') :
    ∃ s'', loopStep S' segFuel (reSt st s') = reSum x s'' ∧
      R (sumSt x).sch (full.drop (sumSt x).log.size) s'' := by
  -- the follower's state has the same kernel and continuations, so it meets the same side conditions
  have hn' : (reSt st s').k.next = .none := hi.next
  have hc' : (reSt st s').conts.length = (reSt st s').k.tasks.length := hi.conts
  have h := loopStep_spec S segFuel st hi.next hi.conts
  rw [hx] at h
  cases h with
  | boundFail n hm he => exact ⟨s', loopStep_boundFail S' segFuel hn' hc' hm he, hR⟩
  | boundStop n hm he => exact ⟨s', loopStep_boundStop S' segFuel hn' hc' hm he, hR⟩
  | deadlock hb he hu =>
    refine ⟨s', (loopStep_ends S' segFuel hn' hc' hb he).trans ?_, hR⟩
    rw [show (reSt st s').k.unfinishedAttached = true from hu]; rfl
  | ok hb he hu =>
    refine ⟨s', (loopStep_ends S' segFuel hn' hc' hb he).trans ?_, hR⟩
    rw [show (reSt st s').k.unfinishedAttached = false from hu]; rfl
  | schedPanic msg s1 hcons hask => exact absurd rfl (hne _ _)
  | choseBad t msg s1 hcons hask hmem => exact absurd rfl (hne _ _)
  | choseNone s1 hcons hask =>
    have hd := drop_of_push_prefix (l := st.log) (x := decEv st.k none) hpre
    rw [hd] at hR
    obtain ⟨s1', hask', hR'⟩ := hF.dec hR (offered_views_ids st.k) (by intro t ht; cases ht) hask
    have hask'' : ask S' (reSt st s').k (reSt st s').sch = (.choose none, s1') := hask'
    exact ⟨s1', loopStep_choseNone S' segFuel hn' hc' hcons hask'', by simpa [sumSt] using hR'⟩
  | chose t s1 p hcons hask hmem hp =>
    rw [(sumSt_finishSeg _ _).1] at hpre
    have hpe := runSegment_log_prefix S t segFuel (segStart st t s1) p
    have hd := drop_of_push_prefix (l := st.log) (x := decEv st.k (some t)) (hpe.trans hpre)
    rw [hd] at hR
    obtain ⟨s1', hask', hR'⟩ := hF.dec hR (offered_views_ids st.k)
      (by intro t' ht'; cases ht'; exact hmem) hask
    have hask'' : ask S' (reSt st s').k (reSt st s').sch = (.choose (some t), s1') := hask'
    obtain ⟨p', hp', hl⟩ := loopStep_chose S' segFuel hn' hc' hcons hask'' hmem
    obtain rfl : p' = p := Option.some.inj (hp'.symm.trans hp)
    have hne_e : ∀ msg x, runSegment S t segFuel (segStart st t s1) p' ≠ .schedPanic msg x := by
      intro msg x hxe
      exact hne msg x (by rw [hxe]; rfl)
    obtain ⟨s'', hseg, hR''⟩ := runSegment_follows hF full t segFuel (segStart st t s1) p' s1' _ rfl hne_e hpre
      (by simpa [segStart] using hR')
    refine ⟨s'', ?_, ?_⟩
    · rw [hl]
      have : segStart (reSt st s') t s1' = reSt (segStart st t s1) s1' := rfl
      rw [this, hseg, finishSeg_reEnd]
    · rw [(sumSt_finishSeg _ _).1, (sumSt_finishSeg _ _).2]
      exact hR''

theorem runLoop_follows {S : Scheduler σ} {S' : Scheduler σ'} {R : σ → List Ev → σ' → Prop}
    (hF : Follows S S' R) (full : List Ev) (segFuel : Nat) {ms : MaxSteps} :
    ∀ (fuel : Nat) (st : ExecState P σ) (s' : σ'), LoopInv ms st →
      (∀ msg, (runLoop S segFuel fuel st).outcome ≠ .schedPanic msg) →
      (runLoop S segFuel fuel st).st.log.toList <+: full →
      R st.sch (full.drop st.log.size) s' →
      ∃ s'', runLoop S' segFuel fuel (reSt st s') = reRes (runLoop S segFuel fuel st) s'' ∧
        R (runLoop S segFuel fuel st).st.sch (full.drop (runLoop S segFuel fuel st).st.log.size) s''
  | 0, st, s', _, _, _, hR => by
    rw [runLoop_zero, runLoop_zero]; exact ⟨s', rfl, hR⟩
  | fuel + 1, st, s', hi, hne, hpre, hR => by
    rw [runLoop_succ S segFuel fuel st] at hne hpre ⊢
    rw [runLoop_succ S' segFuel fuel]
    cases hx : loopStep S segFuel st with
    | inl r =>
      rw [hx] at hne hpre
      simp only at hne hpre ⊢
      obtain ⟨s'', hl, hR'⟩ := loopStep_follows hF full segFuel st s' hi _ hx
        (by intro msg st1 h; cases h; exact hne msg rfl) hpre hR
      rw [hl]
      exact ⟨s'', rfl, hR'⟩
    | inr st1 =>
      rw [hx] at hne hpre
      simp only at hne hpre ⊢
      have hi1 := hi.step hx
      obtain ⟨s1', hl, hR'⟩ := loopStep_follows hF full segFuel st s' hi _ hx
        (by intro msg st1 h; cases h)
        ((runLoop_log_prefix S segFuel fuel hi1).elim fun l hl => List.IsPrefix.trans ⟨l, hl.symm⟩ hpre) hR
      rw [hl]
      exact runLoop_follows hF full segFuel fuel st1 s1' hi1 hne hpre hR'

theorem execute_follows {S : Scheduler σ} {S' : Scheduler σ'} {R : σ → List Ev → σ' → Prop}
    (hF : Follows S S' R) (P : Program) (ms : MaxSteps) (seed : Nat) (s : σ) (s' : σ') (fuel segFuel : Nat)
    (hne : ∀ msg, (execute P S ms seed s fuel segFuel).outcome ≠ .schedPanic msg)
    (hR : R s (execute P S ms seed s fuel segFuel).st.log.toList s') :
    ∃ s'', execute P S' ms seed s' fuel segFuel = reRes (execute P S ms seed s fuel segFuel) s'' ∧
      R (execute P S ms seed s fuel segFuel).st.sch [] s'' := by
  rw [execute_eq] at hne hR ⊢
  rw [execute_eq]
  obtain ⟨s'', h1, h2⟩ := runLoop_follows hF (runLoop S segFuel fuel (initState P ms seed s)).st.log.toList segFuel
    fuel (initState P ms seed s) s' (LoopInv.init P ms seed s) hne (List.prefix_refl _)
    (by simpa [initState] using hR)
  refine ⟨s'', h1, ?_⟩
  rw [← Array.length_toList, List.drop_length] at h2
  exact h2

variable {S : Scheduler σ}

/-- `next_task` always answers (with `None` or one of the tasks it was shown) when shown a non-empty list, and
`next_u64` never panics -/
structure WellBehaved (S : Scheduler σ) : Prop where
  task : ∀ s views cur y, views ≠ [] → ∃ ch s1, S.nextTask s views cur y = (.choose ch, s1) ∧
    ∀ t, ch = some t → t ∈ views.map (·.id)
  draw : ∀ s, ∃ v s1, S.nextU64 s = (.ok v, s1)

theorem segTrace_not_schedPanic (hW : WellBehaved S) {me : Nat} {st : ExecState P σ} {p : Prog P.U Unit}
    {e : SegEnd P σ} (h : SegTrace S me st p e) : ∀ msg st', e ≠ .schedPanic msg st' := by
  induction h with
  | unwind st msg pk apk e _ ih => exact ih
  | step o kont st st' b e hs _ ih => exact ih
  | halt o kont st e hh =>
    cases hh with
    | randFail _ _ err s' hn =>
      obtain ⟨v, s1, hv⟩ := hW.draw st.sch
      rw [hv] at hn; cases hn
    | _ => exact fun _ _ h => nomatch h
  | _ => exact fun _ _ h => nomatch h

theorem execute_not_schedPanic (hW : WellBehaved S) (P : Program) (ms : MaxSteps) (seed : Nat) (s : σ)
    (fuel segFuel : Nat) : ∀ msg, (execute P S ms seed s fuel segFuel).outcome ≠ .schedPanic msg := by
  obtain ⟨stf, _, _, hf⟩ := execute_final P S ms seed s fuel segFuel
  have hviews : ∀ (k : Kernel), Consults k → (atConsult k).views k.offered ≠ [] := by
    intro k hc hnil
    have := offered_views_ids k
    rw [hnil] at this
    exact offered_ne_nil_of_anyRunnable hc.anyRunnable this.symm
  generalize execute P S ms seed s fuel segFuel = r at hf
  intro msg hr
  cases hf with
  | schedPanic m s' hc hask =>
    obtain ⟨ch, s1, h1, _⟩ := hW.task stf.sch _ stf.k.current.id stf.k.hasYielded (hviews _ hc)
    unfold ask at hask
    rw [h1] at hask; cases hask
  | choseBad t m s' hc hask hmem =>
    obtain ⟨ch, s1, h1, h2⟩ := hW.task stf.sch _ stf.k.current.id stf.k.hasYielded (hviews _ hc)
    unfold ask at hask
    rw [h1] at hask
    simp only [Prod.mk.injEq, SchedAns.choose.injEq] at hask
    have := h2 t hask.1
    rw [offered_views_ids] at this
    exact hmem this
  | seg t s' p r' h1 h2 h3 h4 h5 =>
    obtain ⟨_, _, h6⟩ := finishSeg_inl h5
    exact h6 (segTrace_not_schedPanic hW (runSegment_trace S t segFuel (segStart stf t s') p)) msg hr
  | _ => cases hr

/-- If `I` holds of the scheduler state when the run starts and again after every execution that `new_execution`
starts from a state with `I`, then every execution of the run is such an execution (`Q`), and so is a panic of
`new_execution` (`Qp`). -/
theorem runner_inv {F : FullScheduler σ} {P : Program} {ms : MaxSteps} {fuel segFuel : Nat} {I : σ → Prop}
    {Q : Nat × Result P σ → Prop} {Qp : String → Prop}
    (hexec : ∀ s seed s', I s → F.newExec s = .some seed s' →
      Q (seed, execute P F.sched ms seed s' fuel segFuel) ∧ I (execute P F.sched ms seed s' fuel segFuel).st.sch)
    (hpanic : ∀ s msg, I s → F.newExec s = .panic msg → Qp msg) (hfuel : Qp "model: runner fuel")
    (iters : Nat) (s : σ) (acc : List (Nat × Result P σ)) (hs : I s) (hacc : ∀ x ∈ acc, Q x) :
      (∀ x ∈ (runner P F ms fuel segFuel iters s acc).execs, Q x) ∧
      ∀ msg, (runner P F ms fuel segFuel iters s acc).newExecPanic = some msg → Qp msg := by
  have hcons : ∀ {s seed s' acc}, I s → F.newExec s = .some seed s' → (∀ x ∈ acc, Q x) →
      ∀ x ∈ (seed, execute P F.sched ms seed s' fuel segFuel) :: acc, Q x := fun hs hn hacc x hx =>
    (List.mem_cons.mp hx).elim (fun h => h ▸ (hexec _ _ _ hs hn).1) (hacc x)
  fun_induction runner P F ms fuel segFuel iters s acc
  -- 1: no iterations left; 2, 3: `new_execution` returned `None` / panicked; 4, 5: the execution failed / passed
  case case1 => exact ⟨fun x hx => hacc x (List.mem_reverse.mp hx), fun msg hm => by cases hm; exact hfuel⟩
  case case2 => exact ⟨fun x hx => hacc x (List.mem_reverse.mp hx), fun msg hm => by cases hm⟩
  case case3 hn =>
    exact ⟨fun x hx => hacc x (List.mem_reverse.mp hx), fun msg hm => by cases hm; exact hpanic _ _ hs hn⟩
  case case4 hn _ _ =>
    exact ⟨fun x hx => hcons hs hn hacc x (List.mem_reverse.mp hx), fun msg hm => by cases hm⟩
  case case5 hn _ _ ih => exact ih (hexec _ _ _ hs hn).2 (hcons hs hn hacc)

end ShuttleProofs.Replay

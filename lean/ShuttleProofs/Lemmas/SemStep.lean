import ShuttleProofs.Lemmas.SemPoll
/-
  The ways a step of the most-general client can succeed (`StepCase`, `step_ok_iff`); each keeps
  `Inv` and the permit balance, hence both hold in every reachable state (`reach_Inv_Balance`). Facts
  about single steps are proved by cases on `StepCase`, not by unfolding `step`.
-/
namespace ShuttleModel
namespace SemLts
open Sem (PollOut)

theorem Inv.dropW {s : SemState} {wid : Nat} {w : Waiter} (hi : Inv s) (hw : s.getW wid = some w)
    (hq : w.isQueued = false) :
    Inv (s.dropW wid) ∧ pend (s.dropW wid).table + wpend w = pend s.table := by
  refine ⟨⟨hi.tq.drop (hi.tq.not_mem_of_tget hw hq), hi.batch, hi.closedEmpty, ?_⟩,
    pend_tdrop hi.tq.nodupT hw⟩
  intro hf wid0 rest w0 hq0 hg
  by_cases e : wid0 = wid
  · rw [e, getW_dropW_self] at hg; cases hg
  · exact hi.headBlocked hf wid0 rest w0 hq0 ((getW_dropW_ne s e).symm.trans hg)

theorem Inv.newAcquire {s : SemState} (hi : Inv s) (me n : Nat) (c : Clock) :
    Inv (s.newAcquire me n c).2 ∧ pend (s.newAcquire me n c).2.table = pend s.table ∧
      (s.newAcquire me n c).2.avail = s.avail := by
  refine ⟨⟨hi.tq.new (w := { wid := s.nextWid, taskId := me, n := n, clock := c }) rfl rfl,
    hi.batch, hi.closedEmpty, ?_⟩, ?_, rfl⟩
  · intro hf wid0 rest w0 hq0 hg
    have hq0 : s.queue = wid0 :: rest := hq0
    obtain ⟨x, hx, _⟩ := hi.tq.tget_of_mem_queue (wid := wid0) (hq0 ▸ List.mem_cons_self ..)
    cases (tget_append_of_some hx).symm.trans hg
    exact hi.headBlocked hf wid0 rest _ hq0 hx
  · show pend (s.table ++ [{ wid := s.nextWid, taskId := me, n := n, clock := c }]) = pend s.table
    simp only [pend_append, pend_cons, pend_nil, wpend]
    simp

inductive StepCase (fin : Nat → Bool) (s : SemState) : SemOp → StepOut → Prop
  | tryOk {task n clk s' pc} (hacq : s.acquirePermits n clk = .ok (.ok (s', pc))) :
      StepCase fin s (.tryAcquire task n clk)
        { s := s', out := .tried (.ok ()), effs := s'.reblockEffs fin }
  | tryErr {task n clk e} (hacq : s.acquirePermits n clk = .ok (.error e)) :
      StepCase fin s (.tryAcquire task n clk) { s := s, out := .tried (.error e) }
  | newAcq {task n clk} :
      StepCase fin s (.newAcq task n clk) { s := (s.newAcquire task n clk).2, out := .created s.nextWid }
  | poll {wid me cx clk w0 po} (hw : s.getW wid = some w0) (hnc : w0.completed = false)
      (hpp : s.pollPure wid me cx clk fin = .ok po) :
      StepCase fin s (.poll wid me cx clk) { s := po.s, out := .polled po.res, effs := po.effs }
  | dropGone {task wid} (hw : s.getW wid = none) :
      StepCase fin s (.dropAcquire task wid) { s := s, out := .dropped 0 }
  | dropQueued {task wid w s' effs} (hw : s.getW wid = some w) (hq : w.isQueued = true)
      (hrm : s.removeWaiterPure fin wid = .ok (s', effs)) :
      StepCase fin s (.dropAcquire task wid) { s := s'.dropW wid, out := .dropped 0, effs := effs }
  /-- the permits handed to a full `release` are those granted and not consumed: `wpend w` -/
  | dropUnqueued {task wid w} (hw : s.getW wid = some w) (hq : w.isQueued = false) :
      StepCase fin s (.dropAcquire task wid) { s := s.dropW wid, out := .dropped (wpend w) }
  | releaseZero {task clk} : StepCase fin s (.release task 0 clk) { s := s, out := .done }
  | release {task n clk} (hn : n ≠ 0) :
      StepCase fin s (.release task n clk)
        { s := (s.releasePure fin n clk).1, out := .done, effs := (s.releasePure fin n clk).2 }
  | close :
      StepCase fin s .close { s := (s.closePure fin).1, out := .done, effs := (s.closePure fin).2 }
  | poisonZero {task} : StepCase fin s (.poisonRelease task 0) { s := s, out := .done }
  | poison {task n} (hn : n ≠ 0) :
      StepCase fin s (.poisonRelease task n) { s := s.releasePoison n, out := .done }

theorem step_ok_iff {fin : Nat → Bool} {s : SemState} {op : SemOp} {o : StepOut} :
    step fin s op = .ok o ↔ StepCase fin s op o := by
  constructor
  · fun_cases step fin s op
    -- branches in the order of `step`'s text: 1–3 `tryAcquire`, 4 `newAcq`, 5–8 `poll`,
    -- 9–13 `dropAcquire`, 14–15 `release`, 16 `close`, 17–18 `poisonRelease`
    case case1 | case5 | case6 | case7 | case10 => nofun
    case case2 h => rintro ⟨⟩; exact .tryOk h
    case case3 h => rintro ⟨⟩; exact .tryErr h
    case case4 h => cases h; rintro ⟨⟩; exact .newAcq
    case case8 hw hnc _ hpp => rintro ⟨⟩; exact .poll hw (Bool.eq_false_iff.mpr hnc) hpp
    case case9 hw => rintro ⟨⟩; exact .dropGone hw
    case case11 hw hq _ _ hrm => rintro ⟨⟩; exact .dropQueued hw hq hrm
    case case12 w hw hq hg =>
      rintro ⟨⟩; exact (if_pos hg : wpend w = w.n) ▸ .dropUnqueued hw (Bool.eq_false_iff.mpr hq)
    case case13 w hw hq hg =>
      rintro ⟨⟩; exact (if_neg hg : wpend w = 0) ▸ .dropUnqueued hw (Bool.eq_false_iff.mpr hq)
    case case14 => rintro ⟨⟩; exact .releaseZero
    case case15 hn _ _ h =>
      obtain ⟨rfl, rfl⟩ := Prod.mk.inj (h.symm.trans (Prod.eta _).symm)
      rintro ⟨⟩; exact .release hn
    case case16 h =>
      obtain ⟨rfl, rfl⟩ := Prod.mk.inj (h.symm.trans (Prod.eta _).symm)
      rintro ⟨⟩; exact .close
    case case17 => rintro ⟨⟩; exact .poisonZero
    case case18 hn => rintro ⟨⟩; exact .poison hn
  · intro h
    cases h with
    | tryOk hacq | tryErr hacq => simp only [step, hacq]
    | newAcq | close | releaseZero | poisonZero => rfl
    | poll hw hnc hpp => simp only [step, hw, hnc, hpp, Bool.false_eq_true, if_false]
    | dropGone hw => simp only [step, hw]
    | dropQueued hw hq hrm => simp only [step, hw, hq, hrm, if_true]
    | dropUnqueued hw hq =>
      simp only [step, hw, hq, Bool.false_eq_true, if_false, wpend]
      split <;> rfl
    | release hn | poison hn => simp only [step, hn, if_false]

theorem step_poll {fin : Nat → Bool} {s : SemState} {wid me cx : Nat} {clk : Clock} {o : StepOut}
    {w0 : Waiter} (hw : s.getW wid = some w0) (h : step fin s (.poll wid me cx clk) = .ok o) :
    w0.completed = false ∧ ∃ po, s.pollPure wid me cx clk fin = .ok po ∧
      o = { s := po.s, out := .polled po.res, effs := po.effs } := by
  cases step_ok_iff.mp h with
  | poll hw' hnc hpp => rw [hw] at hw'; cases hw'; exact ⟨hnc, _, hpp, rfl⟩

theorem permitsOf_dropped (s : SemState) (task wid k : Nat) :
    permitsOf (acquiredBy s (.dropAcquire task wid) (.dropped k)) = k := by
  cases k <;> rfl

theorem permitsOf_polled {s : SemState} {wid : Nat} {w0 : Waiter} (hw : s.getW wid = some w0)
    (me cx : Nat) (clk : Clock) (r : PollRes) :
    permitsOf (acquiredBy s (.poll wid me cx clk) (.polled r)) = if r = .ready true then w0.n else 0 := by
  rcases r with ⟨_ | _⟩ | _
  · rfl
  · simp only [acquiredBy, hw]; rfl
  · rfl

theorem step_spec (fin : Nat → Bool) {s : SemState} {op : SemOp} {o : StepOut} (hi : Inv s)
    (h : step fin s op = .ok o) :
    Inv o.s ∧ o.s.avail + pend o.s.table + permitsOf (acquiredBy s op o.out)
      = s.avail + pend s.table + permitsOf (releasedBy op) := by
  cases step_ok_iff.mp h with
  | tryErr | dropGone | releaseZero | poisonZero => exact ⟨hi, rfl⟩
  | tryOk hacq =>
    obtain ⟨i1, hav, ht, _⟩ := acquirePermits_inv hi hacq
    refine ⟨i1, ?_⟩
    simp only [acquiredBy, releasedBy, permitsOf, ht]
    omega
  | newAcq =>
    obtain ⟨i1, hp, ha⟩ := hi.newAcquire _ _ _
    exact ⟨i1, by simp only [acquiredBy, releasedBy, permitsOf, hp, ha]⟩
  | @poll wid me cx clk w0 po hw hnc hpp =>
    have sp := pollPure_spec hi hw hnc hpp
    exact ⟨sp.inv, (permitsOf_polled hw me cx clk po.res).symm ▸ sp.cons⟩
  | @dropQueued _ wid w s' _ hw hq hrm =>
    obtain ⟨w', hw', _, rs⟩ := removeWaiterPure_spec fin hi hrm
    rw [hw] at hw'; cases hw'
    obtain ⟨i2, p2⟩ := rs.inv.dropW rs.getW rfl
    refine ⟨i2, ?_⟩
    have e : wpend ({ w with isQueued := false } : Waiter) = 0 :=
      wpend_zero (Or.inl (hi.tq.queuedOk w (tget_some_mem hw).1 hq).1)
    have c := rs.cons
    rw [permitsOf_dropped]
    simp only [releasedBy, permitsOf, dropW_avail] at p2 ⊢
    omega
  | dropUnqueued hw hq =>
    obtain ⟨i2, p2⟩ := hi.dropW hw hq
    refine ⟨i2, ?_⟩
    rw [permitsOf_dropped]
    simp only [releasedBy, permitsOf, dropW_avail]
    omega
  | release hn =>
    obtain ⟨i1, c⟩ := releasePure_spec fin _ _ hi
    refine ⟨i1, ?_⟩
    simp only [acquiredBy, releasedBy, permitsOf, hn, if_false]
    omega
  | close =>
    obtain ⟨i1, ha, hp, _⟩ := closePure_spec fin hi
    exact ⟨i1, by simp only [acquiredBy, releasedBy, permitsOf, ha, hp]⟩
  | poison hn =>
    obtain ⟨i1, c, _⟩ := releasePoison_spec _ hi
    refine ⟨i1, ?_⟩
    simp only [acquiredBy, releasedBy, permitsOf, hn, if_false]
    omega

/-- permits available + permits granted to uncompleted acquisitions + permits held by completed,
unreleased acquisitions = initial permits + permits added -/
def Balance (n0 : Nat) (g : G) : Prop :=
  g.s.avail + pend g.s.table + heldSum g.held = n0 + g.added

theorem heldSum_erase {l : List (Nat × Nat)} {p : Nat × Nat} (h : p ∈ l) :
    heldSum (l.erase p) + p.2 = heldSum l := by
  induction l with
  | nil => cases h
  | cons x l ih =>
    obtain ⟨t, n⟩ := x
    by_cases e : (t, n) = p
    · subst e; simp [heldSum]; omega
    · rw [List.erase_cons_tail (by simpa using e)]
      have := ih ((List.mem_cons.mp h).resolve_left fun h => e h.symm)
      simp only [heldSum]
      omega

/-- `added - held` grows by `permitsOf r`, written without subtraction -/
theorem giveBack_spec (g : G) (r : Option (Nat × Nat)) :
    (giveBack g r).s = g.s ∧
      heldSum (giveBack g r).held + permitsOf r + g.added = heldSum g.held + (giveBack g r).added := by
  cases r with
  | none => exact ⟨rfl, by simp [giveBack, permitsOf]⟩
  | some p =>
    obtain ⟨t, n⟩ := p
    simp only [giveBack, permitsOf]
    by_cases hm : (t, n) ∈ g.held
    · rw [if_pos hm]
      have := heldSum_erase hm
      exact ⟨rfl, by simp only; omega⟩
    · rw [if_neg hm]
      exact ⟨rfl, by simp only; omega⟩

theorem take_spec (g : G) (r : Option (Nat × Nat)) :
    (take g r).s = g.s ∧ (take g r).added = g.added ∧
      heldSum (take g r).held = heldSum g.held + permitsOf r := by
  cases r with
  | none => exact ⟨rfl, rfl, by simp [take, permitsOf]⟩
  | some p =>
    obtain ⟨t, n⟩ := p
    exact ⟨rfl, rfl, by simp [take, permitsOf, heldSum]; omega⟩

theorem gstep_spec (fin : Nat → Bool) {g g' : G} {op : SemOp} {out : Out} {effs : List Eff} {n0 : Nat}
    (hi : Inv g.s) (hb : Balance n0 g) (h : gstep fin g op = .ok (g', out, effs)) :
    Inv g'.s ∧ Balance n0 g' := by
  unfold gstep at h
  split at h
  · cases h
  · next o hs =>
    cases h
    obtain ⟨i1, c⟩ := step_spec fin hi hs
    refine ⟨i1, ?_⟩
    obtain ⟨g1s, g1b⟩ := giveBack_spec g (releasedBy op)
    obtain ⟨_, g2a, g2h⟩ := take_spec (giveBack g (releasedBy op)) (acquiredBy g.s op o.out)
    unfold Balance at hb ⊢
    simp only
    omega

theorem reach_Inv_Balance_of {s0 : SemState} {n0 : Nat} (h0 : Inv s0)
    (hb0 : s0.avail + pend s0.table = n0) {g : G} (hr : Reach s0 g) : Inv g.s ∧ Balance n0 g := by
  induction hr with
  | init => exact ⟨h0, by simp [Balance, heldSum]; omega⟩
  | step _ hstep ih => exact gstep_spec _ ih.1 ih.2 hstep

/-- `BatchSemaphore::new(n, fairness)` or `const_new(n, fairness)` -/
def Initial (n : Nat) (s0 : SemState) : Prop :=
  (∃ fair c, s0 = SemState.new n fair c) ∨ (∃ fair, s0 = SemState.constNew n fair)

theorem Initial.inv {n : Nat} {s0 : SemState} (h0 : Initial n s0) :
    Inv s0 ∧ s0.avail + pend s0.table = n := by
  rcases h0 with ⟨fair, c, rfl⟩ | ⟨fair, rfl⟩
  · exact ⟨Inv.new n fair c, by simp [SemState.new]⟩
  · exact ⟨Inv.constNew n fair, by simp [SemState.constNew]⟩

theorem reach_Inv_Balance {n : Nat} {s0 : SemState} (h0 : Initial n s0) {g : G} (hr : Reach s0 g) :
    Inv g.s ∧ Balance n g :=
  reach_Inv_Balance_of h0.inv.1 h0.inv.2 hr

end SemLts
end ShuttleModel

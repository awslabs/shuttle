import ShuttleModel.Sched.Pct

/-!
The association-list model of `HashMap<TaskId, usize>` (`ShuttleModel.Pct.mapGet/mapInsert`) and its invariant.
When the keys of `m` are exactly `a, a+1, …, a+len-1` (in that order), `mapGet`/`mapInsert` are plain list indexing /
`List.set` / append on the list of values.  `MInv` is the scheduler's invariant on the map; the three elementary updates
`next_task` performs (`MInv.insert_known`, `insert_new_fresh`, `insert_new_swap`) keep it.
-/

namespace ShuttleProofs.Pct
open ShuttleModel ShuttleModel.Pct

def keys (m : List (Nat × Nat)) : List Nat := m.map Prod.fst
/-- The values of the map, in list order (= indexed by task id when `keys m = List.range m.length`). -/
def vals (m : List (Nat × Nat)) : List Nat := m.map Prod.snd

@[simp] theorem keys_nil : keys [] = [] := rfl
@[simp] theorem vals_nil : vals [] = [] := rfl
@[simp] theorem keys_cons (p) (m) : keys (p :: m) = p.1 :: keys m := rfl
@[simp] theorem vals_cons (p) (m) : vals (p :: m) = p.2 :: vals m := rfl
@[simp] theorem keys_length (m) : (keys m).length = m.length := by simp [keys]
@[simp] theorem vals_length (m) : (vals m).length = m.length := by simp [vals]
@[simp] theorem keys_append (m m') : keys (m ++ m') = keys m ++ keys m' := by simp [keys]
@[simp] theorem vals_append (m m') : vals (m ++ m') = vals m ++ vals m' := by simp [vals]

theorem mapGet_range' (m : List (Nat × Nat)) : ∀ (a i : Nat), keys m = List.range' a m.length →
    mapGet m (a + i) = (vals m)[i]? := by
  induction m with
  | nil => intro a i _; rfl
  | cons p m ih =>
    intro a i h
    obtain ⟨k', v'⟩ := p
    simp only [keys_cons, List.length_cons, List.range'_succ, List.cons.injEq] at h
    obtain ⟨rfl, h⟩ := h
    cases i with
    | zero => exact if_pos rfl
    | succ j =>
      rw [mapGet, if_neg (Nat.ne_of_gt (Nat.lt_add_of_pos_right (Nat.succ_pos j))), ← Nat.add_assoc,
        Nat.add_right_comm]
      exact ih (k' + 1) j h

theorem mapInsert_range'_lt (m : List (Nat × Nat)) : ∀ (a i v : Nat), keys m = List.range' a m.length →
    i < m.length → keys (mapInsert m (a + i) v) = keys m ∧ vals (mapInsert m (a + i) v) = (vals m).set i v := by
  induction m with
  | nil => intro a i v _ h; cases h
  | cons p m ih =>
    intro a i v h hlt
    obtain ⟨k', v'⟩ := p
    simp only [keys_cons, List.length_cons, List.range'_succ, List.cons.injEq] at h
    obtain ⟨rfl, h⟩ := h
    cases i with
    | zero => rw [Nat.add_zero, mapInsert, if_pos rfl]; exact ⟨rfl, rfl⟩
    | succ j =>
      obtain ⟨h1, h2⟩ := ih (k' + 1) j v h (Nat.lt_of_succ_lt_succ hlt)
      rw [mapInsert, if_neg (Nat.ne_of_gt (Nat.lt_add_of_pos_right (Nat.succ_pos j))),
        if_neg (Nat.not_lt.2 (Nat.le_add_right _ _)), ← Nat.add_assoc, Nat.add_right_comm, keys_cons, vals_cons, h1, h2]
      exact ⟨rfl, rfl⟩

theorem mapInsert_range'_end (m : List (Nat × Nat)) : ∀ (a v : Nat), keys m = List.range' a m.length →
    mapInsert m (a + m.length) v = m ++ [(a + m.length, v)] := by
  induction m with
  | nil => intro a v _; rfl
  | cons p m ih =>
    intro a v h
    obtain ⟨k', v'⟩ := p
    simp only [keys_cons, List.length_cons, List.range'_succ, List.cons.injEq] at h
    obtain ⟨rfl, h⟩ := h
    have := ih (k' + 1) v h
    rw [Nat.add_right_comm, Nat.add_assoc] at this
    simp only [mapInsert, List.length_cons, List.cons_append]
    rw [if_neg (Nat.ne_of_gt (Nat.lt_add_of_pos_right (Nat.succ_pos _))),
      if_neg (Nat.not_lt.2 (Nat.le_add_right _ _)), this]

def KeysOk (m : List (Nat × Nat)) : Prop := keys m = List.range m.length

theorem KeysOk.range' {m : List (Nat × Nat)} (h : KeysOk m) : keys m = List.range' 0 m.length :=
  h.trans List.range_eq_range'

theorem mapGet_eq {m : List (Nat × Nat)} (h : KeysOk m) (k : Nat) : mapGet m k = (vals m)[k]? := by
  rw [← mapGet_range' m 0 k h.range', Nat.zero_add]

theorem mapGet_isSome_iff {m : List (Nat × Nat)} (h : KeysOk m) (k : Nat) :
    (mapGet m k).isSome ↔ k < m.length := by
  rw [mapGet_eq h]; simp

theorem mapGet_eq_none_iff {m : List (Nat × Nat)} (h : KeysOk m) (k : Nat) :
    mapGet m k = none ↔ m.length ≤ k := by
  rw [mapGet_eq h]; simp

theorem mapGet_lt {m : List (Nat × Nat)} (h : KeysOk m) {k v : Nat} (hg : mapGet m k = some v) :
    k < m.length := by
  rw [← mapGet_isSome_iff h, hg]; rfl

theorem vals_insert_lt {m : List (Nat × Nat)} (h : KeysOk m) {k : Nat} (hk : k < m.length) (v : Nat) :
    vals (mapInsert m k v) = (vals m).set k v := by
  rw [← (mapInsert_range'_lt m 0 k v h.range' hk).2, Nat.zero_add]

theorem length_insert_lt {m : List (Nat × Nat)} (h : KeysOk m) {k : Nat} (hk : k < m.length) (v : Nat) :
    (mapInsert m k v).length = m.length := by
  rw [← vals_length, vals_insert_lt h hk, List.length_set, vals_length]

theorem keysOk_insert_lt {m : List (Nat × Nat)} (h : KeysOk m) {k : Nat} (hk : k < m.length) (v : Nat) :
    KeysOk (mapInsert m k v) := by
  unfold KeysOk
  have := (mapInsert_range'_lt m 0 k v h.range' hk).1
  rw [Nat.zero_add] at this
  rw [length_insert_lt h hk, this]
  exact h

theorem mapInsert_end {m : List (Nat × Nat)} (h : KeysOk m) (v : Nat) :
    mapInsert m m.length v = m ++ [(m.length, v)] := by
  have := mapInsert_range'_end m 0 v h.range'
  rwa [Nat.zero_add] at this

theorem keysOk_insert_end {m : List (Nat × Nat)} (h : KeysOk m) (v : Nat) :
    KeysOk (mapInsert m m.length v) := by
  rw [mapInsert_end h]; unfold KeysOk at *
  simp [h, List.range_succ]

theorem vals_insert_end {m : List (Nat × Nat)} (h : KeysOk m) (v : Nat) :
    vals (mapInsert m m.length v) = vals m ++ [v] := by
  rw [mapInsert_end h]; simp

theorem length_insert_end {m : List (Nat × Nat)} (h : KeysOk m) (v : Nat) :
    (mapInsert m m.length v).length = m.length + 1 := by
  rw [mapInsert_end h]; simp

theorem mapGet_mapInsert (m : List (Nat × Nat)) (k v j : Nat) :
    mapGet (mapInsert m k v) j = if j = k then some v else mapGet m j := by
  fun_induction mapInsert m k v with
  | case1 k v => rfl
  | case2 v' m k v => rw [mapGet, mapGet]; split <;> rfl
  | case3 k' v' m k v hne hlt => rfl
  | case4 k' v' m k v hne hlt ih =>
    rw [mapGet, mapGet, ih]
    split
    · next h => rw [if_neg (h ▸ Ne.symm hne)]
    · rfl

/-- Invariant of the priority map `m` with next fresh priority `np`: keys are exactly `0..len-1` (each once, in order),
    all priority values are pairwise distinct, all are `< np`. -/
structure MInv (m : List (Nat × Nat)) (np : Nat) : Prop where
  keys : KeysOk m
  nodup : (vals m).Nodup
  bound : ∀ v ∈ vals m, v < np

/-- pct.rs:25 "every TaskId in [0, len) appears as a key exactly once; all values are distinct", plus
    "every value is below `next_priority`". -/
def Inv (s : PctState) : Prop := MInv s.priorities s.nextPriority

theorem perm_set_append {l : List Nat} {t : Nat} (ht : t < l.length) (a : Nat) :
    (l.set t a ++ [l[t]]).Perm (l ++ [a]) := by
  induction l generalizing t with
  | nil => cases ht
  | cons x xs ih =>
    cases t with
    | zero =>
      exact (List.perm_append_singleton x (a :: xs)).trans
        ((List.Perm.swap a x xs).trans (List.perm_append_singleton a (x :: xs)).symm)
    | succ t => exact (ih (Nat.lt_of_succ_lt_succ ht)).cons x

/-- Every update of `next_task` uses up the fresh priority `np`: the new values, together with any that were
    overwritten (`extra`), are the old ones and `np`. -/
theorem MInv.of_perm {m m' : List (Nat × Nat)} {np : Nat} (h : MInv m np) (hk : KeysOk m') (extra : List Nat)
    (hp : (vals m' ++ extra).Perm (vals m ++ [np])) : MInv m' (np + 1) := by
  refine ⟨hk, ((hp.nodup_iff).2 ?_).sublist (List.sublist_append_left _ _), fun v hv => ?_⟩
  · exact List.nodup_append.2 ⟨h.nodup, List.nodup_cons.2 ⟨List.not_mem_nil, List.nodup_nil⟩, fun a ha b hb =>
      by rw [List.mem_singleton.1 hb]; exact Nat.ne_of_lt (h.bound a ha)⟩
  · rcases List.mem_append.1 ((hp.mem_iff).1 (List.mem_append_left _ hv)) with hv | hv
    · exact Nat.lt_succ_of_lt (h.bound v hv)
    · rw [List.mem_singleton.1 hv]; exact Nat.lt_succ_self _

/-- Effect of `insert(k, next_priority); next_priority += 1` for a known `k`. -/
theorem MInv.insert_known {m np} (h : MInv m np) {k : Nat} (hk : k < m.length) :
    MInv (mapInsert m k np) (np + 1) :=
  h.of_perm (keysOk_insert_lt h.keys hk np) [(vals m)[k]'(by rwa [vals_length])]
    (by rw [vals_insert_lt h.keys hk]; exact perm_set_append _ np)

/-- Effect of `insert(len, next_priority); next_priority += 1` (new task takes the fresh priority). -/
theorem MInv.insert_new_fresh {m np} (h : MInv m np) : MInv (mapInsert m m.length np) (np + 1) :=
  h.of_perm (keysOk_insert_end h.keys np) [] (by rw [vals_insert_end h.keys, List.append_nil])

/-- Effect of `old = insert(t, next_priority); insert(len, old); next_priority += 1` (swap with known task `t`). -/
theorem MInv.insert_new_swap {m np} (h : MInv m np) {t old : Nat} (ht : mapGet m t = some old) :
    MInv (mapInsert (mapInsert m t np) m.length old) (np + 1) := by
  have htl : t < m.length := mapGet_lt h.keys ht
  have hk1 := keysOk_insert_lt h.keys htl np
  rw [← length_insert_lt h.keys htl np]
  refine h.of_perm (keysOk_insert_end hk1 old) [] ?_
  rw [List.append_nil, vals_insert_end hk1, vals_insert_lt h.keys htl]
  rw [mapGet_eq h.keys] at ht
  obtain ⟨ht', rfl⟩ := List.getElem?_eq_some_iff.1 ht
  exact perm_set_append ht' np

theorem MInv.length_insert_new_swap {m np} (h : MInv m np) {t : Nat} (ht : t < m.length) (old : Nat) :
    (mapInsert (mapInsert m t np) m.length old).length = m.length + 1 := by
  have := length_insert_end (h.insert_known ht).keys old
  rwa [length_insert_lt h.keys ht] at this

theorem MInv.get_inj {m np} (h : MInv m np) {j k v : Nat} (hj : mapGet m j = some v) (hk : mapGet m k = some v) :
    j = k := by
  rw [mapGet_eq h.keys] at hj hk
  obtain ⟨hj1, hj2⟩ := List.getElem?_eq_some_iff.1 hj
  obtain ⟨hk1, hk2⟩ := List.getElem?_eq_some_iff.1 hk
  exact (List.getElem_inj h.nodup).1 (hj2.trans hk2.symm)

theorem MInv.get_lt {m np} (h : MInv m np) {k v : Nat} (hk : mapGet m k = some v) : v < np := by
  rw [mapGet_eq h.keys] at hk
  exact h.bound v (List.mem_of_getElem? hk)

theorem MInv.get_of_lt {m np} (h : MInv m np) {k : Nat} (hk : k < m.length) : ∃ v, mapGet m k = some v :=
  Option.isSome_iff_exists.1 ((mapGet_isSome_iff h.keys k).2 hk)

instance (m) : Decidable (KeysOk m) := by unfold KeysOk; infer_instance

instance (m np) : Decidable (MInv m np) :=
  decidable_of_iff (KeysOk m ∧ (vals m).Nodup ∧ ∀ v ∈ vals m, v < np)
    ⟨fun ⟨a, b, c⟩ => ⟨a, b, c⟩, fun ⟨a, b, c⟩ => ⟨a, b, c⟩⟩

instance (s) : Decidable (Inv s) := by unfold Inv; infer_instance

end ShuttleProofs.Pct

import ShuttleProofs.Lemmas.ChanLts
/-
  C06 — what the pure transitions of ShuttleModel/Prim/Chan.lean and the segments built from them
  return, case by case.
  1. Pure transitions; `pushNext` / `popUb` name whom a push / a pop unblocks, `pushRc` / `ackRc`
     what it leaves in `receiver_clock`.
  2. Segments: one inductive per segment, one constructor per way it ends (`sendSeg1_cases` …).
  3. `fire` as a segment followed by the ghost bookkeeping (`map_eq_ok`, `fire_*`, `after*_*`).
-/
namespace ShuttleModel.C06
open ShuttleModel

/-! ### 1. The pure transitions -/

@[simp] theorem ubOf_nil : ubOf [] = [] := rfl
@[simp] theorem ubOf_append (a b : List Eff) : ubOf (a ++ b) = ubOf a ++ ubOf b := by
  simp [ubOf]
@[simp] theorem ubOf_cons_unblock (t : Nat) (r : List Eff) : ubOf (Eff.unblock t :: r) = t :: ubOf r := by
  simp [ubOf]
@[simp] theorem ubOf_map (l : List Nat) : ubOf (l.map Eff.unblock) = l := by
  induction l with
  | nil => rfl
  | cons a l ih => simp [ih]

theorem isRdv_iff (s : ChanState) : s.isRdv = true ↔ s.bound = some 0 := by
  simp [ChanState.isRdv]

theorem senderMustBlock_iff (s : ChanState) :
    s.senderMustBlock = true ↔
      (∃ b, s.bound = some b ∧ max b 1 ≤ s.messages.length) ∨ s.waitingSenders ≠ [] ∨
      (s.bound = some 0 ∧ s.waitingReceivers = []) := by
  unfold ChanState.senderMustBlock
  cases hb : s.bound with
  | none => simp
  | some b => simp [or_assoc]

theorem receiverMustBlock_iff (s : ChanState) :
    s.receiverMustBlock = true ↔ s.messages = [] ∨ s.waitingReceivers ≠ [] := by
  simp [ChanState.receiverMustBlock]

/-- head of the sender queue that a push of one more message unblocks -/
def pushNext (s : ChanState) : List Nat :=
  match s.waitingSenders.head?, s.bound with
  | some h, some b => if s.messages.length + 1 < b then [h] else []
  | _, _ => []

theorem mem_pushNext {s : ChanState} {x : Nat} : x ∈ pushNext s ↔
    s.waitingSenders.head? = some x ∧ ∃ b, s.bound = some b ∧ s.messages.length + 1 < b := by
  unfold pushNext
  rcases s.waitingSenders.head? with _ | h
  · simp
  · rcases s.bound with _ | b
    · simp
    · by_cases hlt : s.messages.length + 1 < b <;> simp [hlt, eq_comm]

theorem ubOf_opt (o : Option Nat) :
    ubOf (match o with | some t => [Eff.unblock t] | none => []) = o.toList := by
  cases o <;> simp

theorem ubOf_opt_append (a b : Option Nat) :
    ubOf ((match a with | some t => [Eff.unblock t] | none => []) ++
      (match b with | some t => [Eff.unblock t] | none => [])) = a.toList ++ b.toList := by
  rw [ubOf_append, ubOf_opt, ubOf_opt]

theorem nextSender_ok {s : ChanState} {x : Nat × Clock} {next : Option Nat}
    (h : ({ s with messages := s.messages ++ [x] } : ChanState).nextSenderAfterPush = .ok next) :
    pushNext s = next.toList := by
  unfold ChanState.nextSenderAfterPush at h
  unfold pushNext
  rcases hw : s.waitingSenders with _ | ⟨w, ws⟩ <;> rcases hb : s.bound with _ | b <;>
    simp [hw, hb] at h ⊢
  · exact h.symm ▸ rfl
  · exact h.symm ▸ rfl
  · subst h; split <;> simp

/-- `receiver_clock` after a successful push -/
def pushRc (s : ChanState) : Option (List Clock) :=
  if s.bound = some 0 then s.receiverClock else s.receiverClock.map List.tail

theorem sendPush_state {s s' : ChanState} {v : Nat} {c : Clock} {o : PushOut} {e : List Eff}
    (h : s.sendPush v c = .ok (s', o, e)) :
    s' = { s with messages := s.messages ++ [(v, c)], receiverClock := pushRc s } ∧
    ubOf e = s.waitingReceivers.head?.toList ++ pushNext s := by
  unfold ChanState.sendPush at h
  simp only [] at h
  split at h
  · simp at h
  · rename_i next hn
    -- the effects are the same in every branch that returns
    have hu := nextSender_ok hn ▸ ubOf_opt_append s.waitingReceivers.head? next
    simp only [ChanState.isRdv] at h
    by_cases hz : s.bound = some 0
    · simp [hz] at h
      obtain ⟨rfl, rfl, rfl⟩ := h
      exact ⟨by simp [pushRc, hz], hu⟩
    · simp [hz] at h
      rcases hc : s.receiverClock with _ | _ | ⟨x, l⟩
      · simp [hc] at h
        obtain ⟨rfl, rfl, rfl⟩ := h
        exact ⟨by simp [pushRc, hz, hc], hu⟩
      · simp [hc] at h
      · simp [hc] at h
        obtain ⟨rfl, rfl, rfl⟩ := h
        exact ⟨by simp [pushRc, hz, hc], hu⟩

/-- tasks unblocked by taking the first message when `rest` remains -/
def popUb (s : ChanState) (rest : List (Nat × Clock)) : List Nat :=
  (match s.waitingSenders.head?, s.bound with
   | some h, some b => if 0 < b ∨ s.waitingReceivers ≠ [] then [h] else []
   | _, _ => []) ++
  (match s.waitingReceivers.head? with
   | some r => if rest ≠ [] then [r] else []
   | none => [])

/-- with no receiver left waiting, taking a message unblocks the head sender of a bounded
(non-rendezvous) channel and nobody else -/
theorem mem_popUb {s : ChanState} {rest : List (Nat × Clock)} {x : Nat}
    (hwr : s.waitingReceivers = []) : x ∈ popUb s rest ↔
      s.waitingSenders.head? = some x ∧ ∃ b, s.bound = some b ∧ 0 < b := by
  unfold popUb
  rw [hwr]
  rcases s.waitingSenders.head? with _ | h
  · simp
  · rcases s.bound with _ | b
    · simp
    · by_cases hlt : 0 < b <;> simp [hlt, eq_comm]

theorem recvPop_ok {s s' : ChanState} {item : Nat × Clock} {e : List Eff}
    (h : s.recvPop = .ok (s', item, e)) :
    ∃ rest, s.messages = item :: rest ∧ s' = { s with messages := rest } ∧ ubOf e = popUb s rest := by
  unfold ChanState.recvPop at h
  rcases hm : s.messages with _ | ⟨it, rest⟩
  · simp [hm] at h
  · refine ⟨rest, ?_⟩
    simp only [hm] at h
    unfold popUb
    rcases hw : s.waitingSenders.head? with _ | w
    · simp only [hw] at h
      cases h
      refine ⟨rfl, rfl, ?_⟩
      rcases s.waitingReceivers.head? with _ | r
      · rfl
      · cases rest <;> rfl
    · rcases hb : s.bound with _ | b
      · simp [hw, hb] at h
      · simp only [hw, hb] at h
        cases h
        refine ⟨rfl, rfl, ?_⟩
        rcases s.waitingReceivers with _ | ⟨r, wr⟩
        · by_cases hb0 : 0 < b <;> simp [hb0]
        · cases rest <;> simp

/-- `receiver_clock` after the acknowledgement of a receive -/
def ackRc (s : ChanState) (mine : Clock) : Option (List Clock) :=
  match s.receiverClock, s.bound with
  | some l, some (_ + 1) => some (l ++ [mine])
  | rc, _ => rc

theorem recvAck_state {s s' : ChanState} {mine : Clock} {e : List Eff}
    (h : s.recvAck mine = .ok (s', (), e)) :
    e = [] ∧ s' = { s with receiverClock := ackRc s mine } := by
  rcases s with ⟨b, m, rc, ks, kr, ws, wr⟩
  unfold ChanState.recvAck at h
  unfold ackRc
  rcases rc with _ | l
  · simp at h ⊢
    obtain ⟨rfl, rfl⟩ := h
    simp
  · rcases b with _ | _ | k
    · simp at h
    · simp at h ⊢
      obtain ⟨rfl, rfl⟩ := h
      simp
    · -- bounded: `mine` is appended, unless the length assertion panics
      simp at h ⊢
      split at h <;> simp at h
      obtain ⟨rfl, rfl⟩ := h
      simp

/-! ### 2. The segments -/

/-- the push stage returns `Ok` with the message appended, or panics with `send_push` -/
theorem sendSeg_push_ok {s s' : ChanState} {v : Nat} {c : Clock} {r : Option SendRes} {e : List Eff}
    (h : sendSeg (.ok (s, .push, [])) v c = .ok (s', r, e)) :
    r = some .ok ∧ s' = { s with messages := s.messages ++ [(v, c)], receiverClock := pushRc s } ∧
    ubOf e = s.waitingReceivers.head?.toList ++ pushNext s := by
  simp only [sendSeg, bindStep] at h
  rcases hp : s.sendPush v c with p | ⟨s2, o, e2⟩
  · simp [hp] at h
  · simp [hp] at h
    obtain ⟨rfl, rfl, rfl⟩ := h
    obtain ⟨rfl, hu⟩ := sendPush_state hp
    exact ⟨rfl, rfl, hu⟩

@[simp] theorem sendSeg_done (s : ChanState) (r : SendRes) (e : List Eff) (v : Nat) (c : Clock) :
    sendSeg (.ok (s, .done r, e)) v c = .ok (s, some r, e) := by
  simp [sendSeg, bindStep]

@[simp] theorem sendSeg_blocked (s : ChanState) (e : List Eff) (v : Nat) (c : Clock) :
    sendSeg (.ok (s, .blocked, e)) v c = .ok (s, none, e) := by
  simp [sendSeg, bindStep]

@[simp] theorem sendSeg_error (p : ChanPanic) (v : Nat) (c : Clock) : sendSeg (.error p) v c = .error p := rfl

/-- the first segment of `send` (`cb`) / `try_send`: it returns, queues the sender, or goes on to push -/
inductive SendStartCase (s : ChanState) (me v : Nat) (cb : Bool) (c : Clock) : Prop
  | disconnected (h0 : s.knownReceivers = 0)
      (heq : sendSeg1 s me v cb c = .ok (s, some .disconnected, []))
  | full (h0 : s.knownReceivers ≠ 0) (hm : s.senderMustBlock = true) (hcb : cb = false)
      (heq : sendSeg1 s me v cb c = .ok (s, some .full, []))
  | queued (h0 : s.knownReceivers ≠ 0) (hm : s.senderMustBlock = true) (hcb : cb = true)
      (heq : sendSeg1 s me v cb c =
        .ok ({ s with waitingSenders := s.waitingSenders ++ [me] }, none, []))
  | push (h0 : s.knownReceivers ≠ 0) (hm : s.senderMustBlock = false)
      (heq : sendSeg1 s me v cb c = sendSeg (.ok (s, .push, [])) v c)

theorem sendSeg1_cases (s : ChanState) (me v : Nat) (cb : Bool) (c : Clock) :
    SendStartCase s me v cb c := by
  by_cases h0 : s.knownReceivers = 0
  · exact .disconnected h0 (by simp [sendSeg1, ChanState.sendStart, h0])
  · cases hm : s.senderMustBlock
    · exact .push h0 hm (by simp [sendSeg1, ChanState.sendStart, h0, hm])
    · cases cb
      · exact .full h0 hm rfl (by simp [sendSeg1, ChanState.sendStart, h0, hm])
      · exact .queued h0 hm rfl (by simp [sendSeg1, ChanState.sendStart, h0, hm])

/-- the second segment: a woken sender fails without a receiver, pushes if it is the head of the
queue, and panics otherwise (`assert_eq!(head, me)`) -/
inductive SendWakeCase (s : ChanState) (me v : Nat) (c : Clock) : Prop
  | disconnected (h0 : s.knownReceivers = 0)
      (heq : sendSeg2 s me v c =
        .ok ({ s with waitingSenders := s.waitingSenders.filter (· != me) }, some .disconnected, []))
  | push (h0 : s.knownReceivers ≠ 0) (rest : List Nat) (hw : s.waitingSenders = me :: rest)
      (heq : sendSeg2 s me v c = sendSeg (.ok ({ s with waitingSenders := rest }, .push, [])) v c)
  | panic (h0 : s.knownReceivers ≠ 0) (hne : s.waitingSenders.head? ≠ some me) (p : ChanPanic)
      (heq : sendSeg2 s me v c = .error p)

theorem sendSeg2_cases (s : ChanState) (me v : Nat) (c : Clock) : SendWakeCase s me v c := by
  by_cases h0 : s.knownReceivers = 0
  · exact .disconnected h0 (by simp [sendSeg2, ChanState.sendWake, h0])
  · rcases hw : s.waitingSenders with _ | ⟨a, rest⟩
    · exact .panic h0 (by simp [hw]) _ (by simp [sendSeg2, ChanState.sendWake, h0, hw, ChanState.popHead]; rfl)
    · by_cases ha : a = me
      · exact .push h0 rest (ha ▸ hw)
          (by simp [sendSeg2, ChanState.sendWake, h0, hw, ChanState.popHead, ha])
      · exact .panic h0 (by simp [hw, ha]) _
          (by simp [sendSeg2, ChanState.sendWake, h0, hw, ChanState.popHead, ha]; rfl)

/-- the pop stage returns the first message and acknowledges it, or panics -/
theorem recvSeg_pop_ok {s s' : ChanState} {mine : Clock} {r : Option RecvRes} {e : List Eff}
    (h : recvSeg (.ok (s, .pop, [])) mine = .ok (s', r, e)) :
    ∃ item rest, s.messages = item :: rest ∧ r = some (.ok item.1) ∧ ubOf e = popUb s rest ∧
      s' = { s with messages := rest, receiverClock := ackRc s mine } := by
  simp only [recvSeg, bindStep] at h
  rcases hp : s.recvPop with p | ⟨s2, item, e2⟩
  · simp [hp] at h
  · rcases ha : s2.recvAck mine with p | ⟨s3, u, e3⟩
    · simp [hp, ha] at h
    · simp [hp, ha] at h
      obtain ⟨rfl, rfl, rfl⟩ := h
      obtain ⟨rfl, rfl⟩ := recvAck_state ha
      obtain ⟨rest, hm, rfl, hu⟩ := recvPop_ok hp
      exact ⟨item, rest, hm, rfl, by simpa using hu, rfl⟩

@[simp] theorem recvSeg_done (s : ChanState) (r : RecvRes) (e : List Eff) (mine : Clock) :
    recvSeg (.ok (s, .done r, e)) mine = .ok (s, some r, e) := by
  simp [recvSeg, bindStep]

@[simp] theorem recvSeg_blocked (s : ChanState) (e : List Eff) (mine : Clock) :
    recvSeg (.ok (s, .blocked, e)) mine = .ok (s, none, e) := by
  simp [recvSeg, bindStep]

@[simp] theorem recvSeg_error (p : ChanPanic) (mine : Clock) : recvSeg (.error p) mine = .error p := rfl

/-- the first segment of `recv` (`cb`) / `try_recv`: it returns, queues the receiver, or goes on to pop -/
inductive RecvStartCase (s : ChanState) (me : Nat) (cb : Bool) (mine : Clock) : Prop
  | disconnected (hm : s.messages = []) (hk : s.knownSenders = 0)
      (heq : recvSeg1 s me cb mine = .ok (s, some .disconnected, []))
  | empty (hm : s.messages = []) (hk : s.knownSenders ≠ 0) (hcb : cb = false)
      (hz : ¬ (s.bound = some 0 ∧ s.waitingSenders ≠ []))
      (heq : recvSeg1 s me cb mine = .ok (s, some .empty, []))
  /-- on a rendezvous channel even a `try_recv` unblocks the head sender and then blocks -/
  | queued (hm : s.messages = []) (hk : s.knownSenders ≠ 0)
      (hcb : cb = true ∨ (s.bound = some 0 ∧ s.waitingSenders ≠ [])) (e : List Eff)
      (heq : recvSeg1 s me cb mine = .ok ({ s with waitingReceivers := [me] }, none, e))
      (hu : ubOf e = if s.bound = some 0 then s.waitingSenders.head?.toList else [])
  | pop (hm : s.messages ≠ [])
      (heq : recvSeg1 s me cb mine = recvSeg (.ok (s, .pop, [])) mine)

/-- the receiver is alone: `waiting_receivers = []` when its `recv` starts -/
theorem recvSeg1_cases (s : ChanState) (me : Nat) (cb : Bool) (mine : Clock)
    (hwr : s.waitingReceivers = []) : RecvStartCase s me cb mine := by
  have hdef : recvSeg1 s me cb mine = recvSeg (s.recvStart me cb) mine := rfl
  unfold ChanState.recvStart at hdef
  simp only [ChanState.receiverMustBlock, ChanState.isRdv, hwr] at hdef
  rcases hm : s.messages with _ | ⟨it, rest⟩
  · by_cases hk : s.knownSenders = 0
    · exact .disconnected hm hk (by simpa [hm, hk] using hdef)
    · by_cases hz : s.bound = some 0
      · rcases hw : s.waitingSenders with _ | ⟨w, ws⟩
        · cases cb
          · exact .empty hm hk rfl (by simp [hw]) (by simpa [hm, hk, hz, hw] using hdef)
          · exact .queued hm hk (.inl rfl) [] (by simpa [hm, hk, hz, hw] using hdef) (by simp [hz, hw])
        · exact .queued hm hk (.inr ⟨hz, by simp [hw]⟩) [Eff.unblock w]
            (by cases cb <;> simpa [hm, hk, hz, hw] using hdef) (by simp [hz, hw])
      · cases cb
        · exact .empty hm hk rfl (by simp [hz]) (by simpa [hm, hk, hz] using hdef)
        · exact .queued hm hk (.inl rfl) [] (by simpa [hm, hk, hz] using hdef) (by simp [hz])
  · exact .pop (by simp [hm]) (by simpa [hm] using hdef)

/-- the second segment: a woken receiver reports disconnection, pops if it is the head of the queue,
and panics otherwise -/
inductive RecvWakeCase (s : ChanState) (me : Nat) (mine : Clock) : Prop
  | disconnected (hm : s.messages = []) (hk : s.knownSenders = 0)
      (heq : recvSeg2 s me mine =
        .ok ({ s with waitingReceivers := s.waitingReceivers.filter (· != me) },
          some .disconnected, []))
  | pop (h0 : ¬ (s.messages = [] ∧ s.knownSenders = 0)) (rest : List Nat)
      (hw : s.waitingReceivers = me :: rest)
      (heq : recvSeg2 s me mine = recvSeg (.ok ({ s with waitingReceivers := rest }, .pop, [])) mine)
  | panic (h0 : ¬ (s.messages = [] ∧ s.knownSenders = 0)) (hne : s.waitingReceivers.head? ≠ some me)
      (p : ChanPanic) (heq : recvSeg2 s me mine = .error p)

theorem recvSeg2_cases (s : ChanState) (me : Nat) (mine : Clock) : RecvWakeCase s me mine := by
  by_cases h0 : s.messages = [] ∧ s.knownSenders = 0
  · exact .disconnected h0.1 h0.2 (by simp [recvSeg2, ChanState.recvWake, h0.1, h0.2])
  · have h0' : ¬ (s.messages.isEmpty = true ∧ s.knownSenders = 0) := by simpa using h0
    have hdef : recvSeg2 s me mine = recvSeg (s.recvWake me) mine := rfl
    unfold ChanState.recvWake at hdef
    simp only [Bool.and_eq_true, beq_iff_eq, h0', if_false] at hdef
    rcases hw : s.waitingReceivers with _ | ⟨a, rest⟩
    · exact .panic h0 (by simp [hw]) _ (by simpa [hw, ChanState.popHead] using hdef)
    · by_cases ha : a = me
      · exact .pop h0 rest (ha ▸ hw) (by simpa [hw, ChanState.popHead, ha] using hdef)
      · exact .panic h0 (by simp [hw, ha]) _ (by simpa [hw, ChanState.popHead, ha] using hdef)

/-! ### 3. `fire` and the ghost bookkeeping

Each `after*_*` updates only the fields that change, so that `{ hi with … }` carries the other
clauses of the invariant. -/

theorem map_eq_ok {ε α β : Type} {f : α → β} {x : Except ε α} {y : β} (h : x.map f = .ok y) :
    ∃ a, x = .ok a ∧ y = f a := by
  cases x with
  | error p => cases h
  | ok a => exact ⟨a, rfl, (Except.ok.inj h).symm⟩

theorem fire_sendStart {c : Cfg} {t v : Nat} {cb : Bool} {clk : Clock} :
    fire c (.sendStart t v cb clk) = (sendSeg1 c.ch t v cb clk).map (c.afterSend t v · false) := by
  rw [fire]; cases sendSeg1 c.ch t v cb clk <;> rfl

theorem fire_sendWake {c : Cfg} {t : Nat} {clk : Clock} :
    fire c (.sendWake t clk) = (sendSeg2 c.ch t (c.pv t) clk).map (c.afterSend t (c.pv t) · true) := by
  rw [fire]; cases sendSeg2 c.ch t (c.pv t) clk <;> rfl

theorem fire_recvStart {c : Cfg} {t : Nat} {cb : Bool} {mine : Clock} :
    fire c (.recvStart t cb mine) = (recvSeg1 c.ch t cb mine).map (c.afterRecv t · false) := by
  rw [fire]; cases recvSeg1 c.ch t cb mine <;> rfl

theorem fire_recvWake {c : Cfg} {t : Nat} {mine : Clock} :
    fire c (.recvWake t mine) = (recvSeg2 c.ch t mine).map (c.afterRecv t · true) := by
  rw [fire]; cases recvSeg2 c.ch t mine <;> rfl

theorem afterSend_blocked (c : Cfg) (t v : Nat) (s' : ChanState) :
    c.afterSend t v (s', none, []) false =
      { c with ch := s', pv := fun y => if y = t then v else c.pv y } := by
  simp [Cfg.afterSend]

theorem afterSend_ok (c : Cfg) (t v : Nat) (s' : ChanState) (e : List Eff) (wake : Bool) :
    c.afterSend t v (s', some .ok, e) wake =
      { c with ch := s', ub := (if wake then c.ub.filter (· != t) else c.ub) ++ ubOf e,
               sent := c.sent ++ [(t, v)] } := by
  simp [Cfg.afterSend]

theorem afterSend_disc_wake (c : Cfg) (t v : Nat) (s' : ChanState) :
    c.afterSend t v (s', some .disconnected, []) true =
      { c with ch := s', ub := c.ub.filter (· != t) } := by
  simp [Cfg.afterSend]

theorem afterRecv_blocked (c : Cfg) (t : Nat) (s' : ChanState) (e : List Eff) :
    c.afterRecv t (s', none, e) false = { c with ch := s', ub := c.ub ++ ubOf e } := by
  simp [Cfg.afterRecv]

theorem afterRecv_ok (c : Cfg) (t v : Nat) (s' : ChanState) (e : List Eff) (wake : Bool) :
    c.afterRecv t (s', some (.ok v), e) wake =
      { c with ch := s', ub := (if wake then c.ub.filter (· != t) else c.ub) ++ ubOf e,
               received := c.received ++ [v] } := by
  simp [Cfg.afterRecv]

theorem afterRecv_disc_wake (c : Cfg) (t : Nat) (s' : ChanState) :
    c.afterRecv t (s', some .disconnected, []) true =
      { c with ch := s', ub := c.ub.filter (· != t) } := by
  simp [Cfg.afterRecv]

theorem fire_cloneS (c : Cfg) : fire c .cloneS =
    .ok { c with ch := { c.ch with knownSenders := c.ch.knownSenders + 1 }, liveS := c.liveS + 1 } := by
  simp [fire, ChanState.cloneSenderStep]

theorem fire_dropS_skip (c : Cfg) :
    fire c (.dropS true) = .ok { c with liveS := c.liveS - 1, skipped := true } := by
  simp [fire, ChanState.dropSenderStep]

theorem fire_dropS_ok {c : Cfg} (h : c.ch.knownSenders ≠ 0) :
    fire c (.dropS false) = .ok { c with
      ch := { c.ch with knownSenders := c.ch.knownSenders - 1 }
      ub := c.ub ++ (if c.ch.knownSenders - 1 = 0 then c.ch.waitingReceivers else [])
      liveS := c.liveS - 1 } := by
  by_cases h1 : c.ch.knownSenders - 1 = 0 <;> simp [fire, ChanState.dropSenderStep, h, h1]

theorem fire_dropR_skip (c : Cfg) :
    fire c (.dropR true) = .ok { c with liveR := false, skipped := true } := by
  simp [fire, ChanState.dropReceiverStep]

theorem fire_dropR_ok {c : Cfg} (h : c.ch.knownReceivers ≠ 0) :
    fire c (.dropR false) = .ok { c with
      ch := { c.ch with knownReceivers := c.ch.knownReceivers - 1 }
      ub := c.ub ++ (if c.ch.knownReceivers - 1 = 0 then c.ch.waitingSenders else [])
      liveR := false } := by
  by_cases h1 : c.ch.knownReceivers - 1 = 0 <;> simp [fire, ChanState.dropReceiverStep, h, h1]

end ShuttleModel.C06

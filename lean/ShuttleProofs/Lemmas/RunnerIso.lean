import ShuttleModel.Runner
import ShuttleProofs.Lemmas.KernelLoop
/-
  `Runner::run` hands an execution nothing but the scheduler: helper definitions and lemmas for C14.
-/
namespace ShuttleProofs.RunnerIso
open ShuttleModel ShuttleProofs.Kernel

variable {P : Program} {σ : Type}

/-- `Chain s es`: starting with scheduler state `s`, each element `(seed, r)` of `es` is what a stand-alone
`Execution::run` produces from the state `new_execution` returned, and the next element starts from the
scheduler state that execution left behind — and from nothing else -/
inductive Chain (P : Program) (F : FullScheduler σ) (ms : MaxSteps) (fuel segFuel : Nat) :
    σ → List (Nat × Result P σ) → Prop
  | nil (s : σ) : Chain P F ms fuel segFuel s []
  | cons {s s' : σ} {seed : Nat} {rest : List (Nat × Result P σ)}
      (hnew : F.newExec s = .some seed s')
      (hrest : Chain P F ms fuel segFuel (execute P F.sched ms seed s' fuel segFuel).st.sch rest) :
      Chain P F ms fuel segFuel s ((seed, execute P F.sched ms seed s' fuel segFuel) :: rest)

theorem runner_step_ok (F : FullScheduler σ) (ms : MaxSteps) (fuel segFuel n : Nat) {s s' : σ} {seed : Nat}
    (acc : List (Nat × Result P σ)) (hne : F.newExec s = .some seed s')
    (hf : (execute P F.sched ms seed s' fuel segFuel).outcome.isFailure = false) :
    runner P F ms fuel segFuel (n + 1) s acc =
      runner P F ms fuel segFuel n (execute P F.sched ms seed s' fuel segFuel).st.sch
        ((seed, execute P F.sched ms seed s' fuel segFuel) :: acc) := by
  rw [runner]; simp only [hne, hf]; simp

theorem runner_step_fail (F : FullScheduler σ) (ms : MaxSteps) (fuel segFuel n : Nat) {s s' : σ} {seed : Nat}
    (acc : List (Nat × Result P σ)) (hne : F.newExec s = .some seed s')
    (hf : (execute P F.sched ms seed s' fuel segFuel).outcome.isFailure = true) :
    runner P F ms fuel segFuel (n + 1) s acc =
      { execs := ((seed, execute P F.sched ms seed s' fuel segFuel) :: acc).reverse, count := none,
        final := (execute P F.sched ms seed s' fuel segFuel).st.sch } := by
  rw [runner]; simp only [hne, hf]; simp

/-- the accumulator of `runner` is only ever prepended to the result -/
theorem runner_acc (F : FullScheduler σ) (ms : MaxSteps) (fuel segFuel : Nat) :
    ∀ (iters : Nat) (s : σ) (acc : List (Nat × Result P σ)),
      (runner P F ms fuel segFuel iters s acc).execs =
        acc.reverse ++ (runner P F ms fuel segFuel iters s []).execs ∧
      (runner P F ms fuel segFuel iters s acc).final = (runner P F ms fuel segFuel iters s []).final ∧
      (runner P F ms fuel segFuel iters s acc).newExecPanic = (runner P F ms fuel segFuel iters s []).newExecPanic := by
  intro iters
  induction iters with
  | zero => intro s acc; simp [runner]
  | succ n ih =>
    intro s acc
    cases hne : F.newExec s with
    | none => simp [runner, hne]
    | panic msg => simp [runner, hne]
    | some seed s' =>
      cases hf : (execute P F.sched ms seed s' fuel segFuel).outcome.isFailure with
      | true => rw [runner_step_fail F ms fuel segFuel n acc hne hf, runner_step_fail F ms fuel segFuel n [] hne hf]; simp
      | false =>
        rw [runner_step_ok F ms fuel segFuel n acc hne hf, runner_step_ok F ms fuel segFuel n [] hne hf]
        have h1 := ih (execute P F.sched ms seed s' fuel segFuel).st.sch
          ((seed, execute P F.sched ms seed s' fuel segFuel) :: acc)
        have h2 := ih (execute P F.sched ms seed s' fuel segFuel).st.sch
          [(seed, execute P F.sched ms seed s' fuel segFuel)]
        refine ⟨?_, ?_, ?_⟩
        · rw [h1.1, h2.1]; simp
        · rw [h1.2.1, h2.2.1]
        · rw [h1.2.2, h2.2.2]

theorem runner_chain (F : FullScheduler σ) (ms : MaxSteps) (fuel segFuel : Nat) :
    ∀ (iters : Nat) (s : σ), Chain P F ms fuel segFuel s (runner P F ms fuel segFuel iters s []).execs := by
  intro iters
  induction iters with
  | zero => intro s; simp [runner]; exact .nil s
  | succ n ih =>
    intro s
    cases hne : F.newExec s with
    | none => simp only [runner, hne]; exact .nil s
    | panic msg => simp only [runner, hne]; exact .nil s
    | some seed s' =>
      cases hf : (execute P F.sched ms seed s' fuel segFuel).outcome.isFailure with
      | true =>
        rw [runner_step_fail F ms fuel segFuel n [] hne hf]
        exact .cons hne (.nil _)
      | false =>
        rw [runner_step_ok F ms fuel segFuel n [] hne hf, (runner_acc F ms fuel segFuel n _ _).1]
        exact .cons hne (ih _)

/-- element `i` of a chain, with the scheduler state the runner held just before it -/
theorem Chain.get {F : FullScheduler σ} {ms : MaxSteps} {fuel segFuel : Nat} {s : σ}
    {es : List (Nat × Result P σ)} (h : Chain P F ms fuel segFuel s es) :
    ∀ (i : Nat) (hi : i < es.length),
      ∃ sBefore s', F.newExec sBefore = .some es[i].1 s' ∧
        es[i].2 = execute P F.sched ms es[i].1 s' fuel segFuel ∧
        (i = 0 → sBefore = s) ∧
        (∀ j (hj : j + 1 = i), sBefore = (es[j]'(by omega)).2.st.sch) := by
  induction h with
  | nil s => intro i hi; simp at hi
  | @cons s s' seed rest hnew hrest ih =>
    intro i hi
    cases i with
    | zero => exact ⟨s, s', hnew, rfl, fun _ => rfl, fun j hj => by omega⟩
    | succ j =>
      have hj : j < rest.length := by simpa using hi
      obtain ⟨sb, s'', h1, h2, h3, h4⟩ := ih j hj
      refine ⟨sb, s'', by simpa using h1, by simpa using h2, fun h => by omega, ?_⟩
      intro j' hj'
      have : j' = j := by omega
      subst this
      cases j' with
      | zero => simpa using h3 rfl
      | succ j'' => simpa using h4 j'' rfl

end ShuttleProofs.RunnerIso

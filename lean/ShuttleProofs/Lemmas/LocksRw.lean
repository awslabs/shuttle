import ShuttleProofs.Lemmas.LocksMutex
/-
  C04 (lock part), RwLock: what `takeGuard` / `dropGuard` do, the successful steps of the
  most-general-client LTS `RReach` of `LocksLts.lean` as a relation (`RStep`), the invariant they keep
  (`RInv`: guards = `holder`, permit balance), the permit leak of a re-entrant try_read (F3), the poison
  flag, and concrete runs. The statements of the property are in `C04.lean`.
-/
namespace ShuttleModel
namespace LocksLts
open SemLts

theorem MAX_READS_pos : 1 ≤ Generated.MAX_READS := by decide

theorem permits_pos (write : Bool) : 0 < RwLock.permits write := by
  cases write <;> simp [RwLock.permits, Generated.MAX_READS]

theorem rresult_ne_wouldBlock (m : RwLockState) : m.result ≠ .wouldBlock := by
  unfold RwLockState.result; split <;> simp

theorem takeGuard_ok_cases {m m' : RwLockState} {t : Nat} {write p : Bool}
    (h : m.takeGuard t write p = .ok m') :
    (write = true ∧ m.holder = .none ∧ m' = { m with holder := .write t, wGuardPanicking := p }) ∨
    (write = false ∧ m.holder = .none ∧ m' = { m with holder := .read [t] }) ∨
    (write = false ∧ ∃ rs, m.holder = .read rs ∧ t ∉ rs ∧ m' = { m with holder := .read (rs ++ [t]) }) := by
  revert h
  fun_cases RwLockState.takeGuard m t write p <;> intro h <;> cases h
  next hh => exact Or.inl ⟨rfl, hh, rfl⟩
  next hh => exact Or.inr (Or.inl ⟨rfl, hh, rfl⟩)
  next rs hh hc => exact Or.inr (Or.inr ⟨rfl, rs, hh, by simpa using hc, rfl⟩)

theorem takeGuard_already {m : RwLockState} {t : Nat} {write p : Bool}
    (h : m.takeGuard t write p = .already) : write = false ∧ ∃ rs, m.holder = .read rs ∧ t ∈ rs := by
  revert h
  fun_cases RwLockState.takeGuard m t write p <;> intro h <;> cases h
  next rs hh hc => exact ⟨rfl, rs, hh, by simpa using hc⟩

theorem takeGuard_incompatible {m : RwLockState} {t : Nat} {write p : Bool}
    (h : m.takeGuard t write p = .incompatible) :
    (write = true ∧ ∃ rs, m.holder = .read rs) ∨ (∃ w, m.holder = .write w) := by
  cases hh : m.holder with
  | write w => exact Or.inr ⟨w, rfl⟩
  | read rs =>
    cases write with
    | true => exact Or.inl ⟨rfl, rs, rfl⟩
    | false => simp only [RwLockState.takeGuard, hh] at h; split at h <;> cases h
  | none => cases write <;> simp only [RwLockState.takeGuard, hh] at h <;> cases h

theorem dropGuard_ok_cases {m m' : RwLockState} {t : Nat} {write p : Bool}
    (h : m.dropGuard t write p = (m', none)) :
    (write = true ∧ m.holder = .write t ∧
      m' = { m with poisoned := m.poisoned || (p && !m.wGuardPanicking), holder := .none }) ∨
    (write = false ∧ ∃ rs, m.holder = .read rs ∧ t ∈ rs ∧
      m' = { m with holder := if (rs.filter (· != t)).isEmpty then .none else .read (rs.filter (· != t)) }) := by
  revert h
  fun_cases RwLockState.dropGuard m t write p <;> intro h
  -- in all branches but two an assertion fails
  all_goals obtain ⟨rfl, h2⟩ := Prod.mk.inj h; cases h2
  next rs hh hc _ => exact Or.inr ⟨rfl, rs, hh, by simpa using hc, rfl⟩
  next w hh _ hw =>
    obtain rfl : w = t := by simpa using hw
    exact Or.inl ⟨rfl, hh, rfl⟩

theorem takeGuard_ok_frame {m m' : RwLockState} {t : Nat} {write p : Bool}
    (h : m.takeGuard t write p = .ok m') : m'.sem = m.sem ∧ m'.poisoned = m.poisoned := by
  rcases takeGuard_ok_cases h with ⟨_, _, rfl⟩ | ⟨_, _, rfl⟩ | ⟨_, _, _, _, rfl⟩ <;> exact ⟨rfl, rfl⟩

theorem takeGuard_ok_not_holds {m m' : RwLockState} {t : Nat} {write p : Bool}
    (h : m.takeGuard t write p = .ok m') : m.holds t = false := by
  rcases takeGuard_ok_cases h with ⟨_, hh, _⟩ | ⟨_, hh, _⟩ | ⟨_, rs, hh, hn, _⟩ <;>
    simp only [RwLockState.holds, hh]
  simpa using hn

theorem takeGuard_already_holds {m : RwLockState} {t : Nat} {write p : Bool}
    (h : m.takeGuard t write p = .already) : m.holds t = true := by
  obtain ⟨_, rs, hrs, hin⟩ := takeGuard_already h
  simp only [RwLockState.holds, hrs]
  simpa using hin

theorem takeGuard_ok_holder {m m' : RwLockState} {t : Nat} {write p : Bool}
    (h : m.takeGuard t write p = .ok m') :
    if write then m.holder = .none ∧ m'.holder = .write t
    else (m.holder = .none ∧ m'.holder = .read [t]) ∨
      ∃ rs, m.holder = .read rs ∧ t ∉ rs ∧ m'.holder = .read (rs ++ [t]) := by
  rcases takeGuard_ok_cases h with ⟨rfl, hh, rfl⟩ | ⟨rfl, hh, rfl⟩ | ⟨rfl, rs, hh, hn, rfl⟩
  · exact ⟨hh, rfl⟩
  · exact Or.inl ⟨hh, rfl⟩
  · exact Or.inr ⟨rs, hh, hn, rfl⟩

/-- the ghost guard lists agree with the `holder` field; the readers of a `read` holder are non-empty and
duplicate-free -/
def HM : RwHolder → List Nat → List Nat → Prop
  | .none, rg, wg => rg = [] ∧ wg = []
  | .read rs, rg, wg => rg = rs ∧ wg = [] ∧ rs ≠ [] ∧ rs.Nodup
  | .write w, rg, wg => rg = [] ∧ wg = [w]

/-- what `HM` says about the ghost lists whatever the holder is: at most one writer, no reader beside a
writer, no task twice among the readers -/
theorem HM.lists {h : RwHolder} {rg wg : List Nat} (hm : HM h rg wg) :
    wg.length ≤ 1 ∧ (rg = [] ∨ wg = []) ∧ rg.Nodup := by
  cases h <;> simp only [HM] at hm
  · obtain ⟨rfl, rfl⟩ := hm; exact ⟨Nat.zero_le _, .inl rfl, List.nodup_nil⟩
  · obtain ⟨rfl, rfl, _, hnd⟩ := hm; exact ⟨Nat.zero_le _, .inr rfl, hnd⟩
  · obtain ⟨rfl, rfl⟩ := hm; exact ⟨Nat.le_refl _, .inl rfl, List.nodup_nil⟩

/-- a guard handed out by `takeGuard` is recorded by pushing its owner on the matching ghost list -/
theorem takeGuard_ok_hm {m m' : RwLockState} {t : Nat} {write p : Bool} {rg wg : List Nat}
    (h : m.takeGuard t write p = .ok m') (hm : HM m.holder rg wg) :
    wg = [] ∧ (if write then HM m'.holder rg [t] ∧ rg = [] else HM m'.holder (rg ++ [t]) wg) := by
  rcases takeGuard_ok_cases h with ⟨rfl, hh, rfl⟩ | ⟨rfl, hh, rfl⟩ | ⟨rfl, rs, hh, hn, rfl⟩ <;>
    rw [hh] at hm
  · obtain ⟨rfl, rfl⟩ := hm
    exact ⟨rfl, ⟨rfl, rfl⟩, rfl⟩
  · obtain ⟨rfl, rfl⟩ := hm
    exact ⟨rfl, rfl, rfl, by simp, by simp⟩
  · obtain ⟨rfl, rfl, hne, hnd⟩ := hm
    refine ⟨rfl, rfl, rfl, by simp, ?_⟩
    exact List.nodup_append.mpr ⟨hnd, by simp, fun a ha b hb => by
      rw [List.mem_singleton.mp hb]; exact fun e => hn (e ▸ ha)⟩

/-- … and one released by `dropGuard` by erasing its owner -/
theorem dropGuard_ok_hm {m m' : RwLockState} {t : Nat} {write p : Bool} {rg wg : List Nat}
    (h : m.dropGuard t write p = (m', none)) (hm : HM m.holder rg wg) :
    if write then rg = [] ∧ wg = [t] ∧ HM m'.holder [] []
    else t ∈ rg ∧ wg = [] ∧ HM m'.holder (rg.erase t) [] := by
  rcases dropGuard_ok_cases h with ⟨rfl, hh, rfl⟩ | ⟨rfl, rs, hh, hin, rfl⟩ <;> rw [hh] at hm
  · exact ⟨hm.1, hm.2, rfl, rfl⟩
  · obtain ⟨rfl, rfl, hne, hnd⟩ := hm
    refine ⟨hin, rfl, ?_⟩
    rw [hnd.erase_eq_filter t]
    show HM (if _ then _ else _) _ _
    cases hem : (List.filter (fun x => x != t) rg).isEmpty with
    | true => exact ⟨List.isEmpty_iff.mp hem, rfl⟩
    | false => exact ⟨rfl, rfl, (fun e => by rw [e] at hem; cases hem), hnd.filter _⟩

theorem dropGuard_ok_frame {m m' : RwLockState} {t : Nat} {write p : Bool}
    (h : m.dropGuard t write p = (m', none)) :
    m'.sem = m.sem ∧ (m.poisoned = true → m'.poisoned = true) := by
  rcases dropGuard_ok_cases h with ⟨_, _, rfl⟩ | ⟨_, _, _, _, rfl⟩
  · exact ⟨rfl, fun hp => by simp [hp]⟩
  · exact ⟨rfl, id⟩

/-- The successful steps of `rstep`, as `MStep` for `mstep`. -/
inductive RStep (fin : Nat → Bool) (p : Bool) (m : RwLockState) : ROp → RwLockState → ROut → Prop
  | lockStart (t : Nat) (write : Bool) (clk : Clock) : m.holds t = false →
      RStep fin p m (.lockStart t write clk)
        { m with sem := (m.sem.newAcquire t (RwLock.permits write) clk).2 }
        (.started (m.sem.newAcquire t (RwLock.permits write) clk).1)
  | pending {t wid : Nat} {write : Bool} {clk : Clock} {s' : SemState} :
      pollDrop fin m.sem t wid clk = .ok (s', .pending) →
      RStep fin p m (.lockPoll t wid write clk) { m with sem := s' } .pending
  | locked {t wid : Nat} {write : Bool} {clk : Clock} {s' : SemState} {m' : RwLockState} :
      pollDrop fin m.sem t wid clk = .ok (s', .ready true) →
      ({ m with sem := s' } : RwLockState).takeGuard t write p = .ok m' →
      RStep fin p m (.lockPoll t wid write clk) m' (.locked m.result)
  | lockPoisoned {t : Nat} {write : Bool} {m' : RwLockState} : m.takeGuard t write p = .ok m' →
      RStep fin p m (.lockPoisoned t write) m' (.locked m.result)
  | tryOk {t : Nat} {write : Bool} {clk pc : Clock} {s' : SemState} {m' : RwLockState} :
      m.sem.acquirePermits (RwLock.permits write) clk = .ok (.ok (s', pc)) →
      ({ m with sem := s' } : RwLockState).takeGuard t write p = .ok m' →
      RStep fin p m (.tryLock t write clk) m' (.tried m.result false)
  | tryAlready {t : Nat} {write : Bool} {clk pc : Clock} {s' : SemState} :
      m.sem.acquirePermits (RwLock.permits write) clk = .ok (.ok (s', pc)) →
      ({ m with sem := s' } : RwLockState).takeGuard t write p = .already →
      RStep fin p m (.tryLock t write clk) { m with sem := s' } (.tried .wouldBlock true)
  | tryIncompatible {t : Nat} {write : Bool} {clk pc : Clock} {s' : SemState} :
      m.sem.acquirePermits (RwLock.permits write) clk = .ok (.ok (s', pc)) →
      ({ m with sem := s' } : RwLockState).takeGuard t write p = .incompatible →
      RStep fin p m (.tryLock t write clk) { m with sem := s' } (.tried m.result false)
  | tryFail {t : Nat} {write : Bool} {clk : Clock} {e : TryErr} :
      m.sem.acquirePermits (RwLock.permits write) clk = .ok (.error e) →
      RStep fin p m (.tryLock t write clk) m (.tried .wouldBlock false)
  | giveBack {t : Nat} {clk : Clock} {o : StepOut} : step fin m.sem (relOp p t 1 clk) = .ok o →
      RStep fin p m (.tryGiveBack t clk) { m with sem := o.s } .gaveBack
  | unlock {t : Nat} {write : Bool} {clk : Clock} {o : StepOut} {m' : RwLockState} :
      step fin m.sem (relOp p t (RwLock.permits write) clk) = .ok o →
      ({ m with sem := o.s } : RwLockState).dropGuard t write p = (m', none) →
      RStep fin p m (.unlock t write clk) m' .unlocked
  | write (t v : Nat) : RStep fin p m (.write t v) { m with value := v } .wrote

theorem takeOrPanic_ok {m m' : RwLockState} {t : Nat} {write p : Bool} {out : ROut}
    (h : takeOrPanic m t write p = .ok (m', out)) :
    m.takeGuard t write p = .ok m' ∧ out = .locked m.result := by
  unfold takeOrPanic at h
  split at h
  · next htg => cases h; exact ⟨htg, rfl⟩
  · cases h
  · cases h

theorem rstep_ok {fin : Nat → Bool} {p : Bool} {m m' : RwLockState} {op : ROp} {out : ROut}
    (h : rstep fin p m op = .ok (m', out)) : RStep fin p m op m' out := by
  -- the branches of `rstep` that do not panic, in the order of its definition; the two that end in
  -- `takeOrPanic` are not yet of the form `.ok _ = .ok _`
  revert h
  fun_cases rstep fin p m op <;> intro h <;> try cases h
  next t write clk hh => exact .lockStart t write clk (by simpa using hh)
  next hpd => exact .pending hpd
  next hpd =>
    obtain ⟨htg, rfl⟩ := takeOrPanic_ok h
    exact .locked hpd htg
  next =>
    obtain ⟨htg, rfl⟩ := takeOrPanic_ok h
    exact .lockPoisoned htg
  next h1 hout htg =>
    cases step_ok_iff.mp h1 with
    | tryOk hacq => exact .tryOk hacq htg
    | tryErr => cases hout
  next h1 hout htg =>
    cases step_ok_iff.mp h1 with
    | tryOk hacq => exact .tryAlready hacq htg
    | tryErr => cases hout
  next h1 hout htg =>
    cases step_ok_iff.mp h1 with
    | tryOk hacq => exact .tryIncompatible hacq htg
    | tryErr => cases hout
  next h1 hout =>
    cases step_ok_iff.mp h1 with
    | tryOk => exact absurd rfl hout
    | tryErr hacq => exact .tryFail hacq
  next h1 => exact .giveBack h1
  next h1 hd => exact .unlock h1 hd
  next t v => exact .write t v

theorem pushGuard_m (g : RG) (t : Nat) (w : Bool) : (pushGuard g t w).m = g.m := by
  cases w <;> rfl

theorem pushGuard_owed (g : RG) (t : Nat) (w : Bool) : (pushGuard g t w).owed = g.owed := by
  cases w <;> rfl

theorem rnext_m (g : RG) (m' : RwLockState) (op : ROp) (out : ROut) : (rnext g m' op out).m = m' := by
  fun_cases rnext g m' op out <;> simp only [pushGuard_m]

theorem rnext_owed_len (g : RG) (m' : RwLockState) (op : ROp) (out : ROut)
    (hop : ∀ t clk, op ≠ .tryGiveBack t clk) : g.owed.length ≤ (rnext g m' op out).owed.length := by
  fun_cases rnext g m' op out <;>
    simp only [pushGuard_owed, List.length_append, Nat.le_refl, Nat.le_add_right]
  -- left: the branch of `tryGiveBack`
  exact absurd rfl (hop _ _)

structure RInv (g : RG) : Prop where
  sem : Inv g.m.sem
  fair : g.m.sem.fair = false
  hm : HM g.m.holder g.rguards g.wguards
  /-- permit balance (while the semaphore is open) -/
  bal : g.m.sem.closed = false →
    g.m.sem.avail + pend g.m.sem.table + g.rguards.length + Generated.MAX_READS * g.wguards.length
      + g.owed.length = Generated.MAX_READS

theorem RInv.init : RInv {} := by
  refine ⟨Inv.constNew _ false, rfl, ⟨rfl, rfl⟩, fun _ => ?_⟩
  simp [SemState.constNew]

theorem RInv.semBal {g : RG} (hI : RInv g) :
    SemBal g.m.sem Generated.MAX_READS
      (g.rguards.length + Generated.MAX_READS * g.wguards.length + g.owed.length) :=
  ⟨hI.sem, hI.fair, fun hc => by have := hI.bal hc; omega⟩

theorem RInv.of_semBal {g : RG}
    (h : SemBal g.m.sem Generated.MAX_READS
      (g.rguards.length + Generated.MAX_READS * g.wguards.length + g.owed.length))
    (hm : HM g.m.holder g.rguards g.wguards) : RInv g :=
  ⟨h.sem, h.fair, hm, fun hc => by have := h.bal hc; omega⟩

/-- `sb` already counts the permits of the guard that is handed out -/
theorem takeGuard_ok_inv {g : RG} {m' : RwLockState} {s' : SemState} {t : Nat} {write p : Bool}
    (sb : SemBal s' Generated.MAX_READS
      (g.rguards.length + Generated.MAX_READS * g.wguards.length + g.owed.length + RwLock.permits write))
    (hm : HM g.m.holder g.rguards g.wguards)
    (htg : ({ g.m with sem := s' } : RwLockState).takeGuard t write p = .ok m') :
    RInv (pushGuard { g with m := m' } t write) := by
  obtain ⟨m0, rg, wg, ow⟩ := g
  obtain ⟨hwg, h5⟩ := takeGuard_ok_hm htg (rg := rg) (wg := wg) hm
  have h1 : m'.sem = s' := (takeGuard_ok_frame htg).1
  have sb' : SemBal m'.sem _ _ := h1 ▸ sb
  subst hwg
  cases write with
  | true =>
    obtain ⟨h5, rfl⟩ := h5
    exact .of_semBal (sb'.held_eq (by simp [pushGuard, RwLock.permits]; omega)) h5
  | false => exact .of_semBal (sb'.held_eq (by simp [pushGuard, RwLock.permits]; omega)) h5

/-- under the invariant a successful `tryAcquire` is never followed by the `incompatible` branch of
`try_lock` (the branch that would return a guard without recording the holder): a reader or a writer
holds permits, so a writer's resp. anybody's `tryAcquire` fails -/
theorem try_take_compatible {g : RG} (hI : RInv g) {t : Nat} {write p : Bool}
    {clk : Clock} {s' : SemState} {pc : Clock}
    (hacq : g.m.sem.acquirePermits (RwLock.permits write) clk = .ok (.ok (s', pc))) :
    ({ g.m with sem := s' } : RwLockState).takeGuard t write p ≠ .incompatible := by
  intro htg
  have hav := (acquirePermits_inv hI.sem hacq).2.1
  have hb0 := hI.bal (acquirePermits_ok hacq).2.1
  have hm := hI.hm
  rcases takeGuard_incompatible htg with ⟨rfl, rs, hrs⟩ | ⟨w, hw⟩
  · rw [show g.m.holder = .read rs from hrs] at hm
    have : 0 < g.rguards.length := by rw [hm.1]; exact List.length_pos_iff.mpr hm.2.2.1
    simp only [RwLock.permits, if_true] at hav
    omega
  · rw [show g.m.holder = .write w from hw] at hm
    have := permits_pos write
    rw [hm.2] at hb0
    simp only [List.length_singleton] at hb0
    omega

theorem rstep_inv {fx : Bool} {fin : Nat → Bool} {p : Bool} {g : RG} {op : ROp} {m' : RwLockState}
    {out : ROut} (hI : RInv g) (hen : REnabled fx g op) (h : rstep fin p g.m op = .ok (m', out)) :
    RInv (rnext g m' op out) := by
  have sb := hI.semBal
  have hm := hI.hm
  -- the semaphore share follows the semaphore move; `hm` moves where a guard is taken or dropped
  cases rstep_ok h with
  | lockStart t write clk _ => exact .of_semBal (sb.newAcquire t _ clk) hm
  | pending hpd =>
    obtain ⟨w0, hw, _⟩ := hen
    exact .of_semBal (sb.pollDrop hw hpd) hm
  | locked hpd htg =>
    obtain ⟨w0, hw, hn⟩ := hen
    exact takeGuard_ok_inv ((sb.pollDrop hw hpd).held_eq (by simp [hn])) hm htg
  | lockPoisoned htg => exact takeGuard_ok_inv (s' := g.m.sem) (.of_closed hI.sem hI.fair hen) hm htg
  | tryOk hacq htg =>
    simp only [rnext, Bool.false_eq_true, if_false, rresult_ne_wouldBlock]
    exact takeGuard_ok_inv (sb.acquire hacq) hm htg
  | tryAlready hacq htg =>
    obtain ⟨rfl, _⟩ := takeGuard_already htg
    exact .of_semBal ((sb.acquire hacq).held_eq (by simp [rnext, RwLock.permits]; omega)) hm
  | tryIncompatible hacq htg => exact absurd htg (try_take_compatible hI hacq)
  | tryFail hacq => exact hI
  | @giveBack t clk o h1 =>
    have hmem : t ∈ g.owed := hen.2
    have := List.length_pos_of_mem hmem
    refine .of_semBal ((sb.held_eq ?_).release (Nat.succ_pos 0) h1) hm
    simp only [rnext, List.length_erase_of_mem hmem]
    omega
  | @unlock t write clk o m' h1 hd =>
    have hsem : m'.sem = o.s := (dropGuard_ok_frame hd).1
    have hdm := dropGuard_ok_hm hd (rg := g.rguards) (wg := g.wguards) hm
    cases write with
    | true =>
      obtain ⟨hrg, hwg, hm'⟩ := hdm
      simp only [rnext, if_true, hrg, hwg, List.erase_cons_head]
      refine .of_semBal (hsem ▸ (sb.held_eq ?_).release (permits_pos true) h1) hm'
      simp only [hrg, hwg, RwLock.permits, List.length_nil, List.length_singleton, if_true]
      omega
    | false =>
      obtain ⟨hmem, hwg, hm'⟩ := hdm
      have := List.length_pos_of_mem hmem
      simp only [rnext, Bool.false_eq_true, if_false, hwg]
      refine .of_semBal (hsem ▸ (sb.held_eq ?_).release (permits_pos false) h1) hm'
      simp only [hwg, List.length_erase_of_mem hmem, List.length_nil, RwLock.permits, Bool.false_eq_true,
        if_false]
      omega
  | write t v => exact .of_semBal sb hm

theorem rreach_inv {fx : Bool} {g : RG} (h : RReach fx g) : RInv g := by
  induction h with
  | init => exact RInv.init
  | step fin p op _ hen hs ih => exact rstep_inv ih hen hs

/-- at most one task holds the lock for writing (poisoned or not) -/
theorem rwlock_writer_exclusive {fx : Bool} {g : RG} (h : RReach fx g) : g.wguards.length ≤ 1 :=
  (rreach_inv h).hm.lists.1

/-- no task holds the lock for reading while it is held for writing (poisoned or not) -/
theorem rwlock_no_reader_with_writer {fx : Bool} {g : RG} (h : RReach fx g) :
    g.rguards = [] ∨ g.wguards = [] :=
  (rreach_inv h).hm.lists.2.1

/-- a task holds at most one read guard -/
theorem rwlock_readers_nodup {fx : Bool} {g : RG} (h : RReach fx g) : g.rguards.Nodup :=
  (rreach_inv h).hm.lists.2.2

/-- the step of a re-entrant `try_read` (`owes = true`) -/
theorem rwlock_tryLock_owes {fin : Nat → Bool} {p : Bool} {m m' : RwLockState} {t : Nat}
    {write : Bool} {clk : Clock} {r : LockRes}
    (h : rstep fin p m (.tryLock t write clk) = .ok (m', .tried r true)) :
    r = .wouldBlock ∧ write = false ∧ m.holds t = true ∧
      ∃ s' pc, m.sem.acquirePermits 1 clk = .ok (.ok (s', pc)) ∧ m' = { m with sem := s' } := by
  cases rstep_ok h with
  | tryAlready hacq htg =>
    obtain ⟨rfl, _⟩ := takeGuard_already htg
    exact ⟨rfl, rfl, (takeGuard_already_holds htg :), _, _, hacq, rfl⟩

inductive RSteps (fx : Bool) : RG → RG → Prop
  | refl (g : RG) : RSteps fx g g
  | step {g g1 : RG} {m' : RwLockState} {out : ROut} (fin : Nat → Bool) (p : Bool) (op : ROp) :
      RSteps fx g g1 → REnabled fx g1 op → rstep fin p g1.m op = .ok (m', out) →
      RSteps fx g (rnext g1 m' op out)

theorem rsteps_reach {fx : Bool} {g g' : RG} (hr : RReach fx g) (h : RSteps fx g g') : RReach fx g' := by
  induction h with
  | refl => exact hr
  | step fin p op _ hen hs ih => exact RReach.step fin p op ih hen hs

/-- original code (`fixedF3 = false`): a leaked permit is never given back -/
theorem rsteps_owed_unfixed {g g' : RG} (h : RSteps false g g') : g.owed.length ≤ g'.owed.length := by
  induction h with
  | refl => exact Nat.le_refl _
  | step fin p op _ hen hs ih =>
    refine Nat.le_trans ih (rnext_owed_len _ _ _ _ ?_)
    intro t clk e
    subst e
    exact absurd hen.1 (by simp)

/-- F3 (original code): once a re-entrant `try_read` has leaked a permit, no `try_write` ever
succeeds again, in any continuation -/
theorem leak_blocks_try_write_forever {g g' : RG} (hr : RReach false g) (ho : g.owed ≠ [])
    (hs : RSteps false g g') {fin : Nat → Bool} {p : Bool} {t : Nat} {clk : Clock} {m' : RwLockState}
    {out : ROut} (h : rstep fin p g'.m (.tryLock t true clk) = .ok (m', out)) :
    out = .tried .wouldBlock false ∧ m' = g'.m := by
  have hI := rreach_inv (rsteps_reach hr hs)
  have h1 : 0 < g.owed.length := List.length_pos_iff.mpr ho
  have h2 := rsteps_owed_unfixed hs
  cases rstep_ok h with
  | tryOk hacq | tryAlready hacq | tryIncompatible hacq =>
    -- a `try_write` that gets its permits finds all `MAX_READS` of them
    have hav := (acquirePermits_inv hI.sem hacq).2.1
    have hb := hI.bal (acquirePermits_ok hacq).2.1
    simp only [RwLock.permits, if_true] at hav
    omega
  | tryFail => exact ⟨rfl, rfl⟩

/-- … and no blocking `write()` ever returns while the lock is not poisoned -/
theorem leak_blocks_write_forever {g g' : RG} (hr : RReach false g) (ho : g.owed ≠ [])
    (hs : RSteps false g g') {fin : Nat → Bool} {p : Bool} {t wid : Nat} {clk : Clock}
    {m' : RwLockState} {r : LockRes} (hen : REnabled false g' (.lockPoll t wid true clk))
    (hc : g'.m.sem.closed = false)
    (h : rstep fin p g'.m (.lockPoll t wid true clk) = .ok (m', .locked r)) : False := by
  have hI := rreach_inv (rsteps_reach hr hs)
  have h1 : 0 < g.owed.length := List.length_pos_iff.mpr ho
  have h2 := rsteps_owed_unfixed hs
  obtain ⟨w0, hw, hn⟩ := hen
  cases rstep_ok h with
  | locked hpd _ =>
    obtain ⟨_, _, c1, _⟩ := pollDrop_spec hI.sem hw hpd
    have hb := hI.bal hc
    simp only [if_true, hn, RwLock.permits] at c1
    omega

theorem rstep_poison_mono {fx : Bool} {fin : Nat → Bool} {p : Bool} {g : RG} {op : ROp}
    {m' : RwLockState} {out : ROut} (hI : RInv g) (hen : REnabled fx g op)
    (h : rstep fin p g.m op = .ok (m', out)) :
    (g.m.poisoned = true → m'.poisoned = true) ∧ (g.m.sem.closed = true → m'.sem.closed = true) := by
  cases rstep_ok h with
  | lockStart | tryFail | write => exact ⟨id, id⟩
  | pending hpd =>
    obtain ⟨w0, hw, _⟩ := hen
    exact ⟨id, pollDrop_closed_mono hI.sem hw hpd⟩
  | locked hpd htg =>
    obtain ⟨w0, hw, _⟩ := hen
    obtain ⟨h1, h2⟩ := takeGuard_ok_frame htg
    exact ⟨fun hp => h2 ▸ hp, fun hc => h1 ▸ pollDrop_closed_mono hI.sem hw hpd hc⟩
  | lockPoisoned htg =>
    obtain ⟨h1, h2⟩ := takeGuard_ok_frame htg
    exact ⟨fun hp => h2 ▸ hp, fun hc => h1 ▸ hc⟩
  | tryOk hacq htg =>
    refine ⟨fun hp => (takeGuard_ok_frame htg).2 ▸ hp, fun hc => ?_⟩
    rw [(acquirePermits_ok hacq).2.1] at hc; cases hc
  | tryAlready hacq | tryIncompatible hacq =>
    refine ⟨id, fun hc => ?_⟩
    rw [(acquirePermits_ok hacq).2.1] at hc; cases hc
  | giveBack h1 => exact ⟨id, step_closed_mono fin h1⟩
  | unlock h1 hd =>
    obtain ⟨hsem, hpm⟩ := dropGuard_ok_frame hd
    exact ⟨hpm, fun hc => hsem ▸ step_closed_mono fin h1 hc⟩

/-- observation (model = shuttle, differs from std): `try_read`/`try_write` on a poisoned RwLock
return `WouldBlock` (the semaphore is closed), not `Err(Poisoned)` -/
theorem rwlock_try_on_poisoned {fin : Nat → Bool} {p : Bool} {m m' : RwLockState} {t : Nat}
    {write : Bool} {clk : Clock} {out : ROut} (hc : m.sem.closed = true)
    (h : rstep fin p m (.tryLock t write clk) = .ok (m', out)) :
    out = .tried .wouldBlock false ∧ m' = m := by
  cases rstep_ok h with
  | tryOk hacq | tryAlready hacq | tryIncompatible hacq =>
    rw [(acquirePermits_ok hacq).2.1] at hc; cases hc
  | tryFail => exact ⟨rfl, rfl⟩

/-- 1 (read) or `MAX_READS` (write) -/
def RwAmount (n : Nat) : Prop := ∃ write : Bool, n = RwLock.permits write

theorem rwlock_all_waiters_amount {fx : Bool} {g : RG} (hr : RReach fx g) :
    AllN RwAmount g.m.sem.table := by
  induction hr with
  | init => intro w hw; simp [SemState.constNew] at hw
  | step fin p op hr _ hs ih =>
    have hi := (rreach_inv hr).sem
    rw [rnext_m]
    cases rstep_ok hs with
    | lockStart t write clk => exact newAcquire_allN _ ih t _ clk ⟨write, rfl⟩
    | pending hpd => exact pollDrop_allN _ hi ih hpd
    | locked hpd htg => rw [(takeGuard_ok_frame htg).1]; exact pollDrop_allN _ hi ih hpd
    | lockPoisoned htg => rw [(takeGuard_ok_frame htg).1]; exact ih
    | tryOk hacq htg => rw [(takeGuard_ok_frame htg).1]; exact (acquirePermits_inv hi hacq).2.2.1 ▸ ih
    | tryAlready hacq | tryIncompatible hacq => exact (acquirePermits_inv hi hacq).2.2.1 ▸ ih
    | tryFail | write => exact ih
    | giveBack h1 => exact relOp_allN _ hi ih h1
    | unlock h1 hd => rw [(dropGuard_ok_frame hd).1]; exact relOp_allN _ hi ih h1

namespace RwExample

def nf : Nat → Bool := fun _ => false
def c0 : Clock := Clock.new
def sem0 (a : Nat) (b : List (Nat × Clock)) (nx : Nat) : SemState :=
  { fair := false, avail := a, batches := some b, nextWid := nx }
def w1 : Waiter := { wid := 0, taskId := 1, n := 1, clock := c0 }
def w3a : Waiter := { wid := 1, taskId := 3, n := 536870911, clock := c0 }
def w3b : Waiter := { w3a with isQueued := true, waker := some 3, neverPolled := false }

/-- t1 has created its read `Acquire` -/
def a1 : RwLockState :=
  { sem := { fair := false, avail := 536870911, batches := none, table := [w1], nextWid := 1 } }
/-- t1 reads -/
def a2 : RwLockState := { sem := sem0 536870910 [(536870910, c0)] 1, holder := .read [1] }
/-- t2's `try_read` succeeded: t1, t2 read -/
def a3 : RwLockState := { sem := sem0 536870909 [(536870909, c0)] 1, holder := .read [1, 2] }
/-- t3 has created its write `Acquire` -/
def a4 : RwLockState := { a3 with sem := { a3.sem with table := [w3a], nextWid := 2 } }
/-- t3 has polled: `Pending`, queued -/
def a5 : RwLockState := { a3 with sem := { a3.sem with table := [w3b], queue := [1], nextWid := 2 } }
/-- t1 has dropped its read guard -/
def a6 : RwLockState :=
  { sem := { sem0 536870910 [(536870909, c0), (1, c0)] 2 with table := [w3b], queue := [1] },
    holder := .read [2] }
/-- t2 has dropped its read guard -/
def a7 : RwLockState :=
  { sem := { sem0 536870911 [(536870909, c0), (1, c0), (1, c0)] 2 with table := [w3b], queue := [1] } }
/-- t3 has polled again and writes -/
def a8 : RwLockState := { sem := sem0 0 [] 2, holder := .write 3 }
/-- t3 has dropped its write guard while panicking -/
def a9 : RwLockState :=
  { sem := { sem0 536870911 [(536870911, c0)] 2 with closed := true }, poisoned := true }

variable {fx : Bool}
theorem r1 : RReach fx ⟨a1, [], [], []⟩ := RReach.step nf false (.lockStart 1 false c0) .init rfl rfl
theorem r2 : RReach fx ⟨a2, [1], [], []⟩ :=
  RReach.step nf false (.lockPoll 1 0 false c0) r1 ⟨_, rfl, rfl⟩ rfl
theorem r3 : RReach fx ⟨a3, [1, 2], [], []⟩ := RReach.step nf false (.tryLock 2 false c0) r2 trivial rfl
theorem r4 : RReach fx ⟨a4, [1, 2], [], []⟩ := RReach.step nf false (.lockStart 3 true c0) r3 rfl rfl
theorem r5 : RReach fx ⟨a5, [1, 2], [], []⟩ :=
  RReach.step nf false (.lockPoll 3 1 true c0) r4 ⟨_, rfl, rfl⟩ rfl
theorem r6 : RReach fx ⟨a6, [2], [], []⟩ :=
  RReach.step nf false (.unlock 1 false c0) r5 (List.mem_cons_self ..) rfl
theorem r7 : RReach fx ⟨a7, [], [], []⟩ :=
  RReach.step nf false (.unlock 2 false c0) r6 (List.mem_cons_self ..) rfl
theorem r8 : RReach fx ⟨a8, [], [3], []⟩ :=
  RReach.step nf false (.lockPoll 3 1 true c0) r7 ⟨_, rfl, rfl⟩ rfl
theorem r9 : RReach fx ⟨a9, [], [], []⟩ :=
  RReach.step nf true (.unlock 3 true c0) r8 (List.mem_cons_self ..) rfl

/-- non-vacuity of `rwlock_exclusive` & co: two readers, a writer queues behind them, the readers
leave, the writer polls again and writes -/
example : ∃ g, RReach fx g ∧ g.m.holder = .write 3 ∧ g.wguards = [3] ∧ g.rguards = [] ∧
    g.m.sem.avail = 0 ∧ g.m.sem.closed = false := ⟨_, r8, rfl, rfl, rfl, rfl, rfl⟩
/-- two readers and a queued writer -/
example : ∃ g, RReach fx g ∧ g.m.holder = .read [1, 2] ∧ g.rguards = [1, 2] ∧ g.wguards = [] ∧
    g.m.sem.queue = [1] := ⟨_, r5, rfl, rfl, rfl, rfl⟩
/-- `try_write` with readers fails and changes nothing; `try_read` with a queued writer barges -/
example : rstep nf false a5 (.tryLock 4 true c0) = .ok (a5, .tried .wouldBlock false) := rfl
example : ∃ m', rstep nf false a5 (.tryLock 4 false c0) = .ok (m', .tried (.ok 0) false) ∧
    m'.holder = .read [1, 2, 4] := ⟨_, rfl, rfl⟩
/-- re-entrant `read()` / `write()` in reachable states -/
example : rstep nf false a3 (.lockStart 2 true c0) =
    .error s!"deadlock! task TaskId({2}) tried to acquire a RwLock it already holds" :=
  rfl
example : rstep nf false a8 (.lockStart 3 false c0) =
    .error s!"deadlock! task TaskId({3}) tried to acquire a RwLock it already holds" :=
  rfl
/-- poisoning by the panicking writer t3, and what later operations see -/
example : RReach fx ⟨a9, [], [], []⟩ ∧ a9.poisoned = true ∧ a9.sem.closed = true ∧ a9.sem.queue = [] ∧
    a9.holder = .none :=
  ⟨r9, rfl, rfl, rfl, rfl⟩
example : ∃ m', rstep nf false a9 (.lockPoisoned 4 false) = .ok (m', .locked (.poisoned 0)) ∧
    m'.holder = .read [4] := ⟨_, rfl, rfl⟩
example : rstep nf false a9 (.tryLock 4 false c0) = .ok (a9, .tried .wouldBlock false) := rfl
/-- on the poisoned lock only the holder assertions keep readers and writers apart: a `write()` while
t4 reads panics -/
example : ∃ m', rstep nf false a9 (.lockPoisoned 4 false) = .ok (m', .locked (.poisoned 0)) ∧
    rstep nf false m' (.lockPoisoned 5 true) = .error incompatibleMsg := ⟨_, rfl, rfl⟩

/-- t1 reads (via `try_read`) -/
def b1 : RwLockState := { sem := sem0 536870910 [(536870910, c0)] 0, holder := .read [1] }
/-- t1's second `try_read` returned `WouldBlock` — and took a permit -/
def b2 : RwLockState := { sem := sem0 536870909 [(536870909, c0)] 0, holder := .read [1] }
/-- original code: t1 has dropped its read guard; nobody holds the lock, one permit is missing -/
def b3 : RwLockState := { sem := sem0 536870910 [(536870909, c0), (1, c0)] 0 }
/-- repaired code: t1 has given the permit back -/
def b2' : RwLockState := { sem := sem0 536870910 [(536870909, c0), (1, c0)] 0, holder := .read [1] }

theorem q1 : RReach fx ⟨b1, [1], [], []⟩ := RReach.step nf false (.tryLock 1 false c0) .init trivial rfl
theorem q2 : RReach fx ⟨b2, [1], [], [1]⟩ := RReach.step nf false (.tryLock 1 false c0) q1 trivial rfl
theorem q3 : RReach fx ⟨b3, [], [], [1]⟩ :=
  RReach.step nf false (.unlock 1 false c0) q2 (List.mem_cons_self ..) rfl
theorem q3' : RReach true ⟨b2', [1], [], []⟩ :=
  RReach.step nf false (.tryGiveBack 1 c0) q2 ⟨rfl, List.mem_cons_self ..⟩ rfl

/-- F3 on the run `b1`, `b2`, `b3` of the original code: t1's second `try_read` fails yet takes a permit, and
after t1 has unlocked every `try_write` fails, in every continuation -/
theorem failed_try_read_leaks_permit_witness :
    RReach false ⟨b1, [1], [], []⟩ ∧
    rstep nf false b1 (.tryLock 1 false c0) = .ok (b2, .tried .wouldBlock true) ∧
    b2.sem.avail + 1 = b1.sem.avail ∧ b2 ≠ b1 ∧
    RReach false ⟨b3, [], [], [1]⟩ ∧ b3.holder = .none ∧ b3.sem.avail + 1 = Generated.MAX_READS ∧
    rstep nf false b3 (.tryLock 2 true c0) = .ok (b3, .tried .wouldBlock false) ∧
    (∀ g', RSteps false ⟨b3, [], [], [1]⟩ g' → ∀ fin p t clk m' out,
      rstep fin p g'.m (.tryLock t true clk) = .ok (m', out) → out = .tried .wouldBlock false) := by
  refine ⟨q1, rfl, rfl, ?_, q3, rfl, rfl, rfl, ?_⟩
  · intro h
    have : b2.sem.avail = b1.sem.avail := by rw [h]
    cases this
  · intro g' hs fin p t clk m' out h
    exact (leak_blocks_try_write_forever q3 (by simp) hs h).1

/-- repaired code (`fixedF3 = true`): after `tryGiveBack` all permits are accounted for again and a
writer can get the lock once t1 has unlocked -/
example : RReach true ⟨b2', [1], [], []⟩ ∧ b2'.sem.avail = b1.sem.avail ∧ b2'.holder = b1.holder ∧
    (∃ m3 m4, rstep nf false b2' (.unlock 1 false c0) = .ok (m3, .unlocked) ∧
      rstep nf false m3 (.tryLock 2 true c0) = .ok (m4, .tried (.ok 0) false) ∧
      m4.holder = .write 2) :=
  ⟨q3', rfl, rfl, _, _, rfl, rfl, rfl⟩

end RwExample

end LocksLts
end ShuttleModel

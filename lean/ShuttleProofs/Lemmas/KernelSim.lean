import ShuttleProofs.Lemmas.KernelProps
/-!
# The configured `MaxSteps` is only ever read by `schedule()`'s bound check

A task segment, and the part of `schedule()` after the bound check, commute with any rewriting `reCfg onMS onSeed` of
the fields `maxSteps` and `seed`, since neither reads or writes them (`runSegment_reCfg`, `scheduleCore_reCfg`);
`schedule()` itself does whenever its bound check comes out the same (`schedule_reCfg`).  So a loop iteration commutes
with `withMS ms` (which sets the `maxSteps` field) as long as the bound is not reached (`loopStep_stMS`); `runLoop_stMS`
lifts this to runs.

`withMS ms` / `stMS` / `resMS` / `stepMS` are `reCfg` / `stCfg` / … / `stepCfg` at `(fun _ => ms) id`, under the names
the statements of `C13` use.
-/

namespace ShuttleProofs.Kernel
open ShuttleModel

variable {P : Program} {σ : Type}

def withMS (ms : MaxSteps) (k : Kernel) : Kernel := { k with maxSteps := ms }

def stMS (ms : MaxSteps) (st : ExecState P σ) : ExecState P σ := { st with k := withMS ms st.k }

/-- rewrite the two configuration fields -/
def reCfg (onMS : MaxSteps → MaxSteps) (onSeed : Nat → Nat) (k : Kernel) : Kernel :=
  { k with maxSteps := onMS k.maxSteps, seed := onSeed k.seed }

def stCfg (onMS : MaxSteps → MaxSteps) (onSeed : Nat → Nat) (st : ExecState P σ) : ExecState P σ :=
  { st with k := reCfg onMS onSeed st.k }

def endCfg (onMS : MaxSteps → MaxSteps) (onSeed : Nat → Nat) : SegEnd P σ → SegEnd P σ
  | .atSwitch st => .atSwitch (stCfg onMS onSeed st)
  | .returned st => .returned (stCfg onMS onSeed st)
  | .panicked m st => .panicked m (stCfg onMS onSeed st)
  | .schedPanic m st => .schedPanic m (stCfg onMS onSeed st)
  | .outOfFuel st => .outOfFuel (stCfg onMS onSeed st)
  | .aborted m st => .aborted m (stCfg onMS onSeed st)

def opCfg (onMS : MaxSteps → MaxSteps) (onSeed : Nat → Nat) {β : Type} : OpRes P σ β → OpRes P σ β
  | .next st x => .next (stCfg onMS onSeed st) x
  | .stop e => .stop (endCfg onMS onSeed e)

section segment
variable (onMS : MaxSteps → MaxSteps) (onSeed : Nat → Nat)

theorem spawnTask_reCfg (k : Kernel) (me : Nat) :
    (reCfg onMS onSeed k).spawnTask (some me) =
      ((k.spawnTask (some me)).1, reCfg onMS onSeed (k.spawnTask (some me)).2) := by
  simp only [Kernel.spawnTask, Kernel.getTask?]
  show (match k.tasks[me]? with
    | none => _
    | some ptk => _) = _
  cases k.tasks[me]? <;> rfl

theorem modTask_reCfg (k : Kernel) (t : Nat) (f : Task → Except String Task) :
    (reCfg onMS onSeed k).modTask t f =
      match k.modTask t f with
      | .ok k' => .ok (reCfg onMS onSeed k')
      | .error e => .error e := by
  unfold Kernel.modTask Kernel.getTask?
  show (match k.tasks[t]? with
    | none => _
    | some tk => _) = _
  cases k.tasks[t]? with
  | none => rfl
  | some tk => simp only; cases f tk <;> rfl

theorem taskOp_reCfg {β : Type} (st : ExecState P σ) (t : Nat) (missing : String)
    (f : Task → Except String (β × Task)) :
    taskOp (stCfg onMS onSeed st) t missing f = opCfg onMS onSeed (taskOp st t missing f) := by
  unfold taskOp
  show (match st.k.tasks[t]? with
    | none => _
    | some tk => _) = _
  cases st.k.tasks[t]? with
  | none => rfl
  | some tk => simp only; cases f tk <;> rfl

theorem stepOp_reCfg (S : Scheduler σ) (me : Nat) (st : ExecState P σ) {β : Type} (o : KOp P.U β)
    (kont : β → Prog P.U Unit) :
    stepOp S me (stCfg onMS onSeed st) o kont = opCfg onMS onSeed (stepOp S me st o kont) := by
  cases o with
  | switch | me | getU | setU | emit | isFinished | requestYield | clock | clockOf | exitTruncates | resetSteps
  | ctxSwitches | isPanicking => rfl
  | block | blockTask | sleepUnlessWoken | unblock | park | unpark | setWaiter | takeWaiter | detach
  | updateClock | incClock | joinClockOf => exact taskOp_reCfg onMS onSeed st _ _ _
  | wake t =>
    show (if wakeSkips st.k t then _ else _) = opCfg onMS onSeed (if wakeSkips st.k t then _ else _)
    split
    · rfl
    · exact taskOp_reCfg onMS onSeed st _ _ _
  | rand =>
    show (match S.nextU64 st.sch with | (.ok v, s') => _ | (.error e, s') => _) =
      opCfg onMS onSeed (match S.nextU64 st.sch with | (.ok v, s') => _ | (.error e, s') => _)
    rcases S.nextU64 st.sch with ⟨r, s'⟩
    cases r <;> rfl
  | spawn fut body =>
    show OpRes.next { stCfg onMS onSeed st with k := ((reCfg onMS onSeed st.k).spawnTask (some me)).2, conts := _ }
      ((reCfg onMS onSeed st.k).spawnTask (some me)).1 = _
    rw [spawnTask_reCfg]
    rfl

theorem runSegment_reCfg (S : Scheduler σ) (me : Nat) :
    ∀ (fuel : Nat) (st : ExecState P σ) (p : Prog P.U Unit),
      runSegment S me fuel (stCfg onMS onSeed st) p = endCfg onMS onSeed (runSegment S me fuel st p)
  | 0, st, p => by rw [runSegment_zero, runSegment_zero]; rfl
  | fuel + 1, st, .pure () => by
    rw [runSegment_pure, runSegment_pure]
    have hp : (stCfg onMS onSeed st).k.panicking = st.k.panicking := rfl
    have ha : (stCfg onMS onSeed st).k.alsoPanicking = st.k.alsoPanicking := rfl
    rw [hp, ha]
    cases st.k.panicking with
    | none => rfl
    | some x =>
      obtain ⟨t, m⟩ := x
      simp only [apply_ite (endCfg onMS onSeed)]
      cases st.k.alsoPanicking.find? (·.1 == me) <;> rfl
  | fuel + 1, st, .panic msg => by
    rw [runSegment_panic, runSegment_panic]
    have hp : (stCfg onMS onSeed st).k.panicking = st.k.panicking := rfl
    have ha : (stCfg onMS onSeed st).k.alsoPanicking = st.k.alsoPanicking := rfl
    rw [hp, ha]
    split
    · split
      · rfl
      · exact runSegment_reCfg S me fuel
          { st with k := { st.k with alsoPanicking := st.k.alsoPanicking ++ [(me, msg)] } } _
    · exact runSegment_reCfg S me fuel { st with k := { st.k with panicking := some (me, msg) } } _
  | fuel + 1, st, .op o kont => by
    rw [runSegment_op_eq, runSegment_op_eq, stepOp_reCfg]
    cases stepOp S me st o kont with
    | next st' x => exact runSegment_reCfg S me fuel st' (kont x)
    | stop e => rfl

theorem advance_reCfg (k : Kernel) : (reCfg onMS onSeed k).advance = reCfg onMS onSeed k.advance := by
  obtain ⟨tasks, current, next, hy, cs, ra, sr, seed, ms, pk, apk⟩ := k
  cases next <;> rfl

theorem afterSched_stCfg (st : ExecState P σ) (k : Kernel) (s : σ) (ev : Option Ev) :
    afterSched (stCfg onMS onSeed st) (reCfg onMS onSeed k) s ev = stCfg onMS onSeed (afterSched st k s ev) := by
  unfold afterSched
  rw [advance_reCfg]
  rfl

theorem finishSeg_endCfg (t : Nat) (e : SegEnd P σ) :
    finishSeg t (endCfg onMS onSeed e) =
      Sum.map (fun r => ⟨r.outcome, stCfg onMS onSeed r.st⟩) (stCfg onMS onSeed) (finishSeg t e) := by
  cases e with
  | returned st' =>
    show (match (reCfg onMS onSeed st'.k).modTask t (fun x => x.finish) with | .ok k' => _ | .error e => _) =
      Sum.map _ _ (match st'.k.modTask t (fun x => x.finish) with | .ok k' => _ | .error e => _)
    rw [modTask_reCfg]
    cases st'.k.modTask t (fun x => x.finish) <;> rfl
  | _ => rfl

/-- what `run_to_completion` does after `schedule()` reads the configuration only in `byBound`, and that only when
the execution was stopped -/
theorem afterOk_stCfg (S : Scheduler σ) (segFuel : Nat) (st1 : ExecState P σ) (ev : Option Ev)
    (hb : st1.k.current = .stopped → byBound (reCfg onMS onSeed st1.k) ev = byBound st1.k ev) :
    afterOk S segFuel (stCfg onMS onSeed st1) ev =
      Sum.map (fun r => ⟨r.outcome, stCfg onMS onSeed r.st⟩) (stCfg onMS onSeed) (afterOk S segFuel st1 ev) := by
  unfold afterOk
  show (match st1.k.current with
    | .none => _
    | .stopped => Sum.inl (Result.mk (if byBound (reCfg onMS onSeed st1.k) ev = true then _ else _) _)
    | .finished => Sum.inl (if st1.k.unfinishedAttached = true then _ else _)
    | .some t => match st1.conts[t]? with
      | none => _
      | some p => _) = _
  cases hc : st1.k.current with
  | none => rfl
  | stopped => dsimp only; rw [hb hc]; rfl
  | finished => dsimp only; cases st1.k.unfinishedAttached <;> rfl
  | some t =>
    dsimp only
    cases st1.conts[t]? with
    | none => rfl
    | some p =>
      exact (congrArg (finishSeg t) (runSegment_reCfg onMS onSeed S t segFuel st1 p)).trans
        (finishSeg_endCfg onMS onSeed t _)

end segment

def resMS (ms : MaxSteps) (r : Result P σ) : Result P σ := ⟨r.outcome, stMS ms r.st⟩

theorem spawnTask_withMS (ms : MaxSteps) (k : Kernel) (me : Nat) :
    (withMS ms k).spawnTask (some me) =
      ((k.spawnTask (some me)).1, withMS ms (k.spawnTask (some me)).2) :=
  spawnTask_reCfg (fun _ => ms) id k me

def stepMS {σ : Type} (ms : MaxSteps) : Kernel.SchedStep σ → Kernel.SchedStep σ
  | .ok k s ev => .ok (withMS ms k) s ev
  | .err e k s => .err e (withMS ms k) s
  | .schedPanic m k s => .schedPanic m (withMS ms k) s

def stepCfg {σ : Type} (onMS : MaxSteps → MaxSteps) (onSeed : Nat → Nat) :
    Kernel.SchedStep σ → Kernel.SchedStep σ
  | .ok k s ev => .ok (reCfg onMS onSeed k) s ev
  | .err e k s => .err e (reCfg onMS onSeed k) s
  | .schedPanic m k s => .schedPanic m (reCfg onMS onSeed k) s

theorem scheduleCore_reCfg (S : Scheduler σ) (onMS : MaxSteps → MaxSteps) (onSeed : Nat → Nat) (k : Kernel)
    (s : σ) :
    scheduleCore S (reCfg onMS onSeed k) s = stepCfg onMS onSeed (scheduleCore S k s) := by
  unfold scheduleCore
  show (if endsHere k then _ else
    match ask S k s with
    | (.panic msg, s') => _
    | (.choose none, s') => _
    | (.choose (some t), s') => match k.tasks[t]? with | none => _ | some tk => _) = _
  cases endsHere k with
  | true => rfl
  | false =>
    rcases ask S k s with ⟨ans, s'⟩
    cases ans with
    | panic msg => rfl
    | choose ch =>
      cases ch with
      | none => rfl
      | some t =>
        show (match k.tasks[t]? with | none => _ | some tk => _) =
          stepCfg onMS onSeed (match k.tasks[t]? with | none => _ | some tk => _)
        cases k.tasks[t]? with
        | none => rfl
        | some tk =>
          simp only
          -- `stepCfg` goes through the `if`s; what is left is the same tree of conditions with matching leaves
          cases tk.unblock <;> simp only [apply_ite (stepCfg onMS onSeed)] <;> rfl

theorem schedule_reCfg (S : Scheduler σ) (onMS : MaxSteps → MaxSteps) (onSeed : Nat → Nat) (k : Kernel) (s : σ)
    (h : boundCheck (reCfg onMS onSeed k) = boundCheck k) :
    (reCfg onMS onSeed k).schedule S s = stepCfg onMS onSeed (k.schedule S s) := by
  rw [schedule_eq_boundCheck, schedule_eq_boundCheck, h, scheduleCore_reCfg]
  show (if k.next != .none then _ else _) = _
  split
  · rfl
  · cases boundCheck k with
    | none => rfl
    | some f => cases f <;> rfl

/-- below the bound, `schedule()` under `FailAfter n`/`ContinueAfter n` does exactly what it does without
a bound -/
theorem schedule_withMS (S : Scheduler σ) (ms : MaxSteps) (k : Kernel) (s : σ) (hk : k.maxSteps = .none)
    (hb : ∀ n, boundOf ms = some n → k.stepBoundExceeded n = false) :
    (withMS ms k).schedule S s = stepMS ms (k.schedule S s) := by
  have h : boundCheck (withMS ms k) = boundCheck k := by
    have h0 : boundCheck k = none := by unfold boundCheck; rw [hk]
    rw [h0]
    cases ms with
    | none => rfl
    | failAfter n => show (if k.stepBoundExceeded n then some true else none) = none; rw [hb n rfl]; rfl
    | continueAfter n => show (if k.stepBoundExceeded n then some false else none) = none; rw [hb n rfl]; rfl
  refine (schedule_reCfg S (fun _ => ms) id k s h).trans ?_
  cases k.schedule S s <;> rfl

theorem loopStep_stMS (S : Scheduler σ) (segFuel : Nat) (ms : MaxSteps) (st : ExecState P σ)
    (hn : st.k.next = .none) (hk : st.k.maxSteps = .none)
    (hb : ∀ n, boundOf ms = some n → st.k.stepBoundExceeded n = false) :
    loopStep S segFuel (stMS ms st) = Sum.map (resMS ms) (stMS ms) (loopStep S segFuel st) := by
  have hs := schedule_spec S st.k st.sch
  have e1 : (stMS ms st).k.schedule S (stMS ms st).sch = stepMS ms (st.k.schedule S st.sch) :=
    schedule_withMS S ms st.k st.sch hk hb
  -- after an answer `ok k s ev` both sides go through `afterSched` and `afterOk`
  have ok : ∀ k s ev, ((afterSched st k s ev).k.current = .stopped → ∃ e, ev = some e) →
      afterOk S segFuel (afterSched (stMS ms st) (withMS ms k) s ev) ev =
        Sum.map (resMS ms) (stMS ms) (afterOk S segFuel (afterSched st k s ev) ev) := fun k s ev h =>
    (congrArg (afterOk S segFuel · ev) (afterSched_stCfg (fun _ => ms) id st k s ev)).trans
      (afterOk_stCfg (fun _ => ms) id S segFuel _ ev fun hc => by
        obtain ⟨e, rfl⟩ := h hc
        exact (byBound_some _ e).trans (byBound_some _ e).symm)
  unfold loopStep
  rw [e1]
  generalize st.k.schedule S st.sch = r at hs
  cases hs with
  | already h => exact absurd hn h
  | boundFail n _ h2 _ | boundStop n _ h2 _ => rw [hk] at h2; cases h2
  | finished h1 h2 h3 => exact ok _ _ none nofun
  | schedPanic _ _ _ _ | choseBad _ _ _ _ _ _ => rfl
  -- a consultation is logged, so `afterOk` does not look at the bound
  | choseNone _ _ _ | chose _ _ _ _ _ => exact ok _ _ (some _) fun _ => ⟨_, rfl⟩

/-- if no loop head of the unbounded run reaches the bound, the bounded run is the same run (same outcome, same final
state up to the `maxSteps` field) -/
theorem runLoop_stMS (S : Scheduler σ) (segFuel : Nat) (ms : MaxSteps) :
    ∀ (fuel : Nat) (st : ExecState P σ), LoopInv .none st →
      (∀ st', Reach S segFuel st st' → ∀ n, boundOf ms = some n → st'.k.stepBoundExceeded n = false) →
      runLoop S segFuel fuel (stMS ms st) = resMS ms (runLoop S segFuel fuel st)
  | 0, st, _, _ => by rw [runLoop_zero, runLoop_zero]; rfl
  | fuel + 1, st, hi, hb => by
    rw [runLoop_succ, runLoop_succ,
      loopStep_stMS S segFuel ms st hi.next hi.maxSteps (hb st (Reach.refl S segFuel st))]
    cases h : loopStep S segFuel st with
    | inl r => rfl
    | inr st' =>
      apply runLoop_stMS S segFuel ms fuel st' (hi.step h)
      intro st'' ⟨n, hr⟩
      exact hb st'' ⟨n + 1, .head h hr⟩

end ShuttleProofs.Kernel

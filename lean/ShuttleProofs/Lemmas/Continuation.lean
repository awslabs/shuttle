import ShuttleModel.Continuation
/-
  Invariants of the continuation life-cycle (`ShuttleModel/Continuation.lean`).
-/
namespace ShuttleProofs.Continuation
open ShuttleModel ShuttleModel.Continuation

variable {F : Type}

/-- at rest (between calls) the cell holds a function exactly in state `Initialized`, and the coroutine stack
holds a suspended function exactly in state `Ready` -/
structure ContWF (c : Cont F) : Prop where
  fn : c.function.isSome = true ↔ c.state = .initialized
  stack : c.onStack.isSome = true ↔ c.state = .ready

/-- the documented pool invariant ("if c is in this queue, c.reusable() == true"), strengthened by what makes
reuse safe: a pooled continuation holds no function, neither in its cell nor on its stack -/
def PoolInv (p : Pool F) : Prop :=
  ∀ c ∈ p.queue, c.reusable = true ∧ c.function = none ∧ c.onStack = none

theorem ContWF.function_eq_none {c : Cont F} (h : ContWF c) (hs : c.state ≠ .initialized) : c.function = none :=
  Option.not_isSome_iff_eq_none.mp fun hf => hs (h.fn.1 hf)

theorem ContWF.onStack_eq_none {c : Cont F} (h : ContWF c) (hs : c.state ≠ .ready) : c.onStack = none :=
  Option.not_isSome_iff_eq_none.mp fun hf => hs (h.stack.1 hf)

theorem reusable_iff (c : Cont F) : c.reusable = true ↔ c.state = .notReady ∨ c.state = .finishedIteration := by
  unfold Cont.reusable; cases c.state <;> simp

theorem wf_of_pooled {c : Cont F} (h : c.reusable = true ∧ c.function = none ∧ c.onStack = none) : ContWF c := by
  obtain ⟨h1, h2, h3⟩ := h
  rcases (reusable_iff c).1 h1 with e | e <;> exact ⟨by simp [h2, e], by simp [h3, e]⟩

theorem new_wf : ContWF (Cont.new : Cont F) := ⟨by simp [Cont.new], by simp [Cont.new]⟩

theorem poolInv_new : PoolInv (Pool.new : Pool F) := by intro c hc; simp [Pool.new] at hc

theorem init_spec {c : Cont F} (h : ContWF c) (f : F) :
    (c.reusable = true → ∃ c', c.init f = .ok c' ∧ ContWF c' ∧ c'.state = .initialized ∧
        c'.function = some f ∧ c'.onStack = none) ∧
    (c.reusable = false → ∃ e, c.init f = .error e) := by
  constructor
  · intro hr
    have hfn : c.function = none := h.function_eq_none fun e => by simp [Cont.reusable, e] at hr
    have hst : c.onStack = none := h.onStack_eq_none fun e => by simp [Cont.reusable, e] at hr
    refine ⟨{ c with function := some f, state := .initialized }, by simp [Cont.init, hr, hfn], ⟨by simp, by simp [hst]⟩,
      rfl, rfl, hst⟩
  · intro hr; exact ⟨"shouldn't replace a function before it completes", by simp [Cont.init, hr]⟩

theorem resume_spec {c : Cont F} (h : ContWF c) (o : Cont.StepOutcome) :
    match c.resume o with
    | .ok fin c' fate =>
      (c.state = .initialized ∨ c.state = .ready) ∧ ContWF c' ∧ c'.function = none ∧
        (fin = true ↔ o = .finished) ∧
        (fin = true → c'.state = .finishedIteration ∧ c'.onStack = none ∧ ∃ f, fate = some (.completed f)) ∧
        (fin = false → c'.state = .ready ∧ fate = none)
    | .userPanic c' fate =>
      (c.state = .initialized ∨ c.state = .ready) ∧ o = .panicked ∧ ContWF c' ∧ c'.state = .running ∧
        c'.function = none ∧ c'.onStack = none ∧ ∃ f, fate = .panicked f
    | .assertFailed _ => c.state ≠ .initialized ∧ c.state ≠ .ready := by
  unfold Cont.resume
  cases hs : c.state with
  | initialized =>
    cases hf : c.function with
    | none => have := h.fn.2 hs; simp [hf] at this
    | some f => cases o <;> simp <;> constructor <;> simp
  | ready =>
    cases hf : c.onStack with
    | none => have := h.stack.2 hs; simp [hf] at this
    | some f =>
      have hfn : c.function = none := h.function_eq_none (by simp [hs])
      cases o <;> simp [hfn] <;> constructor <;> simp
  | notReady => simp
  | running => simp
  | finishedIteration => simp
  | exited => simp

theorem acquire_spec {p : Pool F} (h : PoolInv p) :
    ContWF p.acquire.1 ∧ p.acquire.1.reusable = true ∧ p.acquire.1.function = none ∧ p.acquire.1.onStack = none ∧
      PoolInv p.acquire.2 := by
  unfold Pool.acquire
  cases hq : p.queue with
  | nil => exact ⟨new_wf, by simp [Cont.new, Cont.reusable], rfl, rfl, h⟩
  | cons c rest =>
    have hc := h c (by simp [hq])
    refine ⟨wf_of_pooled hc, hc.1, hc.2.1, hc.2.2, ?_⟩
    intro d hd
    exact h d (by simp [hq]; exact .inr hd)

/-- spawning a task from a well-formed pool never trips the `debug_assert!`s of `initialize` -/
theorem spawn_spec {p : Pool F} (h : PoolInv p) (f : F) :
    ∃ c p', p.spawn f = .ok (c, p') ∧ ContWF c ∧ c.state = .initialized ∧ c.function = some f ∧
      c.onStack = none ∧ PoolInv p' := by
  obtain ⟨wf, hr, _, _, hp⟩ := acquire_spec h
  obtain ⟨c', e, wf', hs, hf, ho⟩ := (init_spec wf f).1 hr
  refine ⟨c', p.acquire.2, ?_, wf', hs, hf, ho, hp⟩
  unfold Pool.spawn
  simp only [e]

theorem poolInv_push {p : Pool F} (h : PoolInv p) {c : Cont F}
    (hc : c.reusable = true ∧ c.function = none ∧ c.onStack = none) : PoolInv { queue := p.queue ++ [c] } := by
  intro d hd
  simp only [List.mem_append, List.mem_singleton] at hd
  rcases hd with hd | rfl
  · exact h d hd
  · exact hc

/-- everything `Drop for PooledContinuation` can do, by the state of the continuation -/
theorem dropPooled_spec {p : Pool F} (hp : PoolInv p) {c : Cont F} (h : ContWF c) (panicking : Bool)
    (beh : FunctionBehavior) :
    let r := p.dropPooled c panicking beh
    PoolInv r.pool ∧
    (r.pooled = true ↔ c.state = .notReady ∨ c.state = .finishedIteration ∨ c.state = .initialized) ∧
    (c.reusable = true → r.pool.queue = p.queue ++ [c] ∧ r.fate = none) ∧
    (c.state = .initialized → ∃ f, c.function = some f ∧
        r.pool.queue = p.queue ++ [{ c with function := none, state := .notReady }] ∧
        r.fate = some (if panicking = true ∧ beh = .leak then .forgotten f else .droppedUnrun f)) ∧
    (c.state = .ready → r.pooled = false ∧ r.pool = p ∧ ∃ f, c.onStack = some f ∧
        r.fate = some (if panicking = true then .leaked f else .unwound f)) ∧
    (c.state = .running ∨ c.state = .exited → r.pooled = false ∧ r.pool = p ∧ r.fate = none) := by
  have hfn := h.function_eq_none
  have hstk := h.onStack_eq_none
  obtain ⟨st, fn, stk⟩ := c
  simp only at hfn hstk
  -- with the state known, `dropPooled` computes
  cases st with
  | notReady =>
    cases hfn nofun; cases hstk nofun
    exact ⟨poolInv_push hp ⟨rfl, rfl, rfl⟩, ⟨fun _ => .inl rfl, fun _ => rfl⟩, fun _ => ⟨rfl, rfl⟩, nofun, nofun,
      fun h => h.elim nofun nofun⟩
  | finishedIteration =>
    cases hfn nofun; cases hstk nofun
    exact ⟨poolInv_push hp ⟨rfl, rfl, rfl⟩, ⟨fun _ => .inr (.inl rfl), fun _ => rfl⟩, fun _ => ⟨rfl, rfl⟩, nofun,
      nofun, fun h => h.elim nofun nofun⟩
  | initialized =>
    cases hstk nofun
    cases fn with
    | none => exact absurd (h.fn.2 rfl) nofun
    | some f =>
      refine ⟨poolInv_push hp ⟨rfl, rfl, rfl⟩, ⟨fun _ => .inr (.inr rfl), fun _ => rfl⟩, nofun,
        fun _ => ⟨f, rfl, rfl, ?_⟩, nofun, fun h => h.elim nofun nofun⟩
      cases panicking <;> cases beh <;> rfl
  | ready =>
    cases stk with
    | none => exact absurd (h.stack.2 rfl) nofun
    | some f =>
      refine ⟨hp, ⟨nofun, fun h => h.elim nofun (fun h => h.elim nofun nofun)⟩, nofun, nofun,
        fun _ => ⟨rfl, rfl, f, rfl, ?_⟩, fun h => h.elim nofun nofun⟩
      cases panicking <;> rfl
  | running =>
    cases hstk nofun
    exact ⟨hp, ⟨nofun, fun h => h.elim nofun (fun h => h.elim nofun nofun)⟩, nofun, nofun, nofun,
      fun _ => ⟨rfl, rfl, rfl⟩⟩
  | exited =>
    exact ⟨hp, ⟨nofun, fun h => h.elim nofun (fun h => h.elim nofun nofun)⟩, nofun, nofun, nofun,
      fun _ => ⟨rfl, rfl, rfl⟩⟩

end ShuttleProofs.Continuation

import ShuttleModel.Wrap.PlLocks
/-
  The pure strictly fair semaphore `FSem` (ShuttleModel/Wrap/PlLocks.lean), sums over the phase list
  of the most-general client, and `PlCfg.advance`: what granting a prefix of a queue does to the
  phases of the clients.
-/
namespace ShuttleProofs.Pl
open ShuttleModel

/-- the permits a list of requests asks for -/
def reqSum : List (Nat × Nat) → Nat
  | [] => 0
  | (_, n) :: q => n + reqSum q

theorem tryAcq_eq_some {s s' : FSem} {n : Nat} :
    s.tryAcq n = some s' ↔ s.queue = [] ∧ n ≤ s.avail ∧ s' = { s with avail := s.avail - n } := by
  unfold FSem.tryAcq
  split
  · next h =>
    simp only [Bool.and_eq_true, decide_eq_true_eq, List.isEmpty_iff] at h
    exact ⟨fun e => ⟨h.1, h.2, (Option.some.inj e).symm⟩, fun e => congrArg some e.2.2.symm⟩
  · next h =>
    simp only [Bool.and_eq_true, decide_eq_true_eq, List.isEmpty_iff] at h
    exact ⟨nofun, fun e => absurd ⟨e.1, e.2.1⟩ h⟩

/-- strict fairness: nobody overtakes a queued request -/
theorem tryAcq_queued {s : FSem} (h : s.queue ≠ []) (n : Nat) : s.tryAcq n = none := by
  simp [FSem.tryAcq, h]

theorem acq_queued {s : FSem} (h : s.queue ≠ []) (t n : Nat) :
    s.acq t n = (false, { s with queue := s.queue ++ [(t, n)] }) := by
  rw [FSem.acq, tryAcq_queued h]

theorem grant_spec (q : List (Nat × Nat)) (a : Nat) :
    q = (FSem.grant q a).1 ++ (FSem.grant q a).2.1 ∧
    (FSem.grant q a).2.2 + reqSum (FSem.grant q a).1 = a := by
  fun_induction FSem.grant q a with
  | case1 => exact ⟨rfl, rfl⟩
  | case2 t n q a h r ih => exact ⟨congrArg _ ih.1, by have := ih.2; simp only [reqSum, r]; omega⟩
  | case3 => exact ⟨rfl, rfl⟩

/-- every granted request fit into what was available -/
theorem grant_head_le (t n : Nat) (q : List (Nat × Nat)) (a : Nat)
    (h : (t, n) ∈ (FSem.grant q a).1) : n ≤ a := by
  fun_induction FSem.grant q a with
  | case1 => cases h
  | case2 t' n' q a h' r ih =>
    rcases List.mem_cons.mp h with h | h
    · cases h; exact h'
    · have := ih h; omega
  | case3 => cases h

theorem grant_blocked (t n : Nat) (q : List (Nat × Nat)) (a : Nat) (h : ¬ n ≤ a) :
    FSem.grant ((t, n) :: q) a = ([], (t, n) :: q, a) := by
  simp [FSem.grant, h]

/-- `PlCfg.phase` as a function of the phase list alone -/
abbrev phAt (ph : List PlPhase) (t : Nat) : PlPhase := (ph[t]?).getD .idle

theorem phase_eq (c : PlCfg) (t : Nat) : c.phase t = phAt c.ph t := rfl

def total (f : PlPhase → Nat) (ph : List PlPhase) : Nat := (ph.map f).sum

theorem total_cons (f : PlPhase → Nat) (x : PlPhase) (xs : List PlPhase) :
    total f (x :: xs) = f x + total f xs := List.sum_cons

theorem total_set (f : PlPhase → Nat) (ph : List PlPhase) (t : Nat) (p : PlPhase) (h : t < ph.length) :
    total f (ph.set t p) + f (phAt ph t) = total f ph + f p := by
  induction ph generalizing t with
  | nil => cases h
  | cons x xs ih =>
    cases t with
    | zero => show f p + total f xs + f x = f x + total f xs + f p; omega
    | succ t =>
      have := ih t (Nat.lt_of_succ_lt_succ h)
      simp only [List.set_cons_succ, total_cons, phAt, List.getElem?_cons_succ] at this ⊢
      omega

theorem phAt_of_not_lt {ph : List PlPhase} {t : Nat} (h : ¬ t < ph.length) : phAt ph t = .idle := by
  rw [phAt, List.getElem?_eq_none (Nat.not_lt.mp h)]; rfl

theorem phAt_set_eq {ph : List PlPhase} {t : Nat} {p : PlPhase} (h : t < ph.length) :
    phAt (ph.set t p) t = p := by
  simp [phAt, h]

theorem phAt_set_ne {ph : List PlPhase} {t u : Nat} {p : PlPhase} (h : t ≠ u) :
    phAt (ph.set t p) u = phAt ph u := by
  simp [phAt, List.getElem?_set_ne h]

/-- no bound on `t` is needed when idle clients count for nothing: compare with the list in which
`t` is idle -/
theorem total_ge (f : PlPhase → Nat) (h0 : f .idle = 0) (ph : List PlPhase) (t : Nat) :
    f (phAt ph t) ≤ total f ph := by
  by_cases ht : t < ph.length
  · have := total_set f ph t .idle ht; omega
  · rw [phAt_of_not_lt ht, h0]; exact Nat.zero_le _

theorem total_ge_two (f : PlPhase → Nat) (h0 : f .idle = 0) (ph : List PlPhase) (t u : Nat) (hne : t ≠ u) :
    f (phAt ph t) + f (phAt ph u) ≤ total f ph := by
  by_cases ht : t < ph.length
  · have h1 := total_set f ph t .idle ht
    have h2 := total_ge f h0 (ph.set t .idle) u
    rw [phAt_set_ne hne] at h2
    omega
  · have := total_ge f h0 ph u
    rw [phAt_of_not_lt ht, h0]; omega

/-- every queue entry names an existing task whose phase waits for exactly that request -/
def QOk (w : PlPhase → Option Nat) (q : List (Nat × Nat)) (ph : List PlPhase) : Prop :=
  ∀ e ∈ q, e.1 < ph.length ∧ w (phAt ph e.1) = some e.2

/-- the phase of `t` matters to the queue only if `t` is queued -/
theorem QOk_set {w : PlPhase → Option Nat} {q : List (Nat × Nat)} {ph : List PlPhase} {t : Nat}
    {p : PlPhase} (h : QOk w q ph) (hw : t ∈ q.map (·.1) → w p = w (phAt ph t)) : QOk w q (ph.set t p) := by
  intro e he
  have := h e he
  rw [List.length_set]
  refine ⟨this.1, ?_⟩
  by_cases hte : t = e.1
  · subst hte; rw [phAt_set_eq this.1, hw (List.mem_map_of_mem he)]; exact this.2
  · rw [phAt_set_ne hte]; exact this.2

section
variable {β : Type} {g : PlPhase → PlPhase} {gs : List (Nat × Nat)} {ph : List PlPhase} {t : Nat}

theorem advance_map_eq (f : PlPhase → β) (h : ∀ p, f (g p) = f p) :
    (PlCfg.advance g gs ph).map f = ph.map f := by
  fun_induction PlCfg.advance g gs ph with
  | case1 => rfl
  | case2 t n gs ph ih =>
    rw [ih, List.map_set, h]
    apply List.ext_getElem?
    intro i
    rw [List.getElem?_set]
    split
    · next hi =>
      subst hi
      by_cases hl : t < ph.length
      · simp [hl]
      · simp [Nat.not_lt.mp hl]
    · rfl

theorem advance_length : (PlCfg.advance g gs ph).length = ph.length := by
  fun_induction PlCfg.advance g gs ph with
  | case1 => rfl
  | case2 t n gs ph ih => rw [ih, List.length_set]

theorem advance_pointwise (f : PlPhase → β) (h : ∀ p, f (g p) = f p) :
    f (phAt (PlCfg.advance g gs ph) t) = f (phAt ph t) := by
  have e : ∀ l : List PlPhase, f (phAt l t) = ((l.map f)[t]?).getD (f .idle) := fun l => by
    rw [List.getElem?_map, Option.getD_map]
  rw [e, e, advance_map_eq f h]

theorem advance_not_mem (h : t ∉ gs.map (·.1)) : phAt (PlCfg.advance g gs ph) t = phAt ph t := by
  fun_induction PlCfg.advance g gs ph with
  | case1 => rfl
  | case2 u n gs ph ih =>
    rw [List.map_cons, List.mem_cons, not_or] at h
    rw [ih h.2]
    exact phAt_set_ne (Ne.symm h.1)

theorem advance_total {f : PlPhase → Nat} {w : PlPhase → Option Nat}
    (hstep : ∀ p n, w p = some n → f (g p) = n + f p) (hq : QOk w gs ph) (hnd : (gs.map (·.1)).Nodup) :
    total f (PlCfg.advance g gs ph) = total f ph + reqSum gs := by
  fun_induction PlCfg.advance g gs ph with
  | case1 => rfl
  | case2 u n gs ph ih =>
    rw [List.map_cons, List.nodup_cons] at hnd
    have ht : u < ph.length ∧ w (phAt ph u) = some n := hq _ List.mem_cons_self
    rw [ih (QOk_set (fun e he => hq e (List.mem_cons_of_mem _ he)) fun hm => absurd hm hnd.1) hnd.2, reqSum]
    have h1 := total_set f ph u (g (phAt ph u)) ht.1
    have h2 := hstep _ _ ht.2
    unfold phAt at h1 h2
    omega

end

theorem advance_mem (g : PlPhase → PlPhase) (gs : List (Nat × Nat)) (ph : List PlPhase) (t : Nat)
    (hm : t ∈ gs.map (·.1)) (hnd : (gs.map (·.1)).Nodup) (hl : t < ph.length) :
    phAt (PlCfg.advance g gs ph) t = g (phAt ph t) := by
  fun_induction PlCfg.advance g gs ph with
  | case1 => cases hm
  | case2 u n gs ph ih =>
    rw [List.map_cons, List.nodup_cons] at hnd
    by_cases hu : t = u
    · subst hu
      rw [advance_not_mem hnd.1]
      exact phAt_set_eq hl
    · rcases List.mem_cons.mp hm with h | h
      · exact absurd h hu
      · rw [ih h hnd.2 (by simpa using hl), phAt_set_ne (Ne.symm hu)]

end ShuttleProofs.Pl

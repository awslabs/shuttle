/-
  The character level: hex digits are not whitespace, `hex::decode` inverts `hex::encode` on bytes,
  and the wrapped text has the chunks of the hex text as its lines (`linesOf`) and the hex text as
  its non-newline characters.
-/
import ShuttleModel.Serialize

namespace ShuttleModel

theorem hexVal_hexDigit : ∀ n, n < 16 → hexVal (hexDigit n) = some n := by decide

theorem isWhitespace_hexDigit : ∀ n, n < 16 → isWhitespace (hexDigit n) = false := by decide

theorem isWhitespace_newline : isWhitespace '\n' = true := by decide

theorem hexVal_eq_some {c : Char} {x : Nat} (h : hexVal c = some x) :
    x < 16 ∧ 48 ≤ c.toNat ∧ c.toNat ≤ 102 := by
  revert h
  fun_cases hexVal c <;> intro h <;> cases h <;> omega

/-- A hex digit is never whitespace (so the two rejection/skip classes are disjoint). -/
theorem hexVal_isSome_not_ws (c : Char) (h : (hexVal c).isSome) : isWhitespace c = false := by
  obtain ⟨x, hx⟩ := Option.isSome_iff_exists.1 h
  obtain ⟨_, h1, h2⟩ := hexVal_eq_some hx
  unfold isWhitespace
  generalize c.toNat = n at h1 h2
  simp only [Bool.or_eq_false_iff, Bool.and_eq_false_iff, decide_eq_false_iff_not,
    beq_eq_false_iff_ne]
  omega

theorem filter_not_ws_eq_self {l : List Char} (h : ∀ c ∈ l, isWhitespace c = false) :
    l.filter (fun c => !isWhitespace c) = l :=
  List.filter_eq_self.2 fun c hc => by rw [h c hc]; rfl

@[simp] theorem encodeHex_length (bs : List Nat) : (encodeHex bs).length = 2 * bs.length := by
  fun_induction encodeHex bs <;> simp [*, Nat.mul_add]

theorem encodeHex_append (as bs : List Nat) : encodeHex (as ++ bs) = encodeHex as ++ encodeHex bs := by
  fun_induction encodeHex as <;> simp [encodeHex, *]

theorem encodeHex_take (j : Nat) (bs : List Nat) :
    (encodeHex bs).take (2 * j) = encodeHex (bs.take j) := by
  induction j generalizing bs with
  | zero => rfl
  | succ j ih =>
    cases bs with
    | nil => rfl
    | cons b bs => rw [Nat.mul_add_one, encodeHex, List.take_succ_cons, List.take_succ_cons, ih]; rfl

theorem encodeHex_not_ws (bs : List Nat) (h : ∀ b ∈ bs, b < 256) :
    ∀ c ∈ encodeHex bs, isWhitespace c = false := by
  fun_induction encodeHex bs with
  | case1 => intro c hc; cases hc
  | case2 b bs ih =>
    rw [List.forall_mem_cons] at h
    rw [List.forall_mem_cons, List.forall_mem_cons]
    exact ⟨isWhitespace_hexDigit _ (by omega), isWhitespace_hexDigit _ (by omega), ih h.2⟩

theorem decodeHex_encodeHex (bs : List Nat) (h : ∀ b ∈ bs, b < 256) :
    decodeHex (encodeHex bs) = some bs := by
  fun_induction encodeHex bs with
  | case1 => rfl
  | case2 b bs ih =>
    rw [List.forall_mem_cons] at h
    rw [decodeHex, hexVal_hexDigit _ (by omega), hexVal_hexDigit _ (by omega), ih h.2]
    simp only [Nat.div_add_mod' b 16]

theorem decodeHex_spec (l : List Char) (bs : List Nat) (h : decodeHex l = some bs) :
    l.length = 2 * bs.length ∧ (∀ c ∈ l, (hexVal c).isSome) ∧ ∀ b ∈ bs, b < 256 := by
  /- the cases of `decodeHex`: `[]`, one character, two digits and a decodable rest, anything else -/
  fun_induction decodeHex l generalizing bs with
  | case1 => cases h; simp
  | case2 => cases h
  | case3 hi lo rest x y bs' hr hy hx ih =>
    cases h
    obtain ⟨h1, h2, h3⟩ := ih bs' hr
    have := (hexVal_eq_some hx).1
    have := (hexVal_eq_some hy).1
    exact ⟨by rw [List.length_cons, List.length_cons, h1, List.length_cons]; omega,
      List.forall_mem_cons.2 ⟨by rw [hx]; rfl, List.forall_mem_cons.2 ⟨by rw [hy]; rfl, h2⟩⟩,
      List.forall_mem_cons.2 ⟨by omega, h3⟩⟩
  | case4 => cases h

theorem decodeHex_lt : ∀ (l : List Char) (bs : List Nat),
    decodeHex l = some bs → ∀ b ∈ bs, b < 256 :=
  fun l bs h => (decodeHex_spec l bs h).2.2

/-- The lines of a text: maximal `'\n'`-free segments (like `str.split('\n')`; the empty text has
    one empty line). -/
def linesOf : List Char → List (List Char)
  | [] => [[]]
  | c :: cs =>
    if c = '\n' then [] :: linesOf cs
    else
      match linesOf cs with
      | [] => [[c]]
      | l :: ls => (c :: l) :: ls

/-- A newline-free segment in front of a text that starts a new line (the empty text, or one that
    begins with `'\n'`) is the first line. -/
theorem linesOf_append (a t : List Char) (ls : List (List Char)) (h : '\n' ∉ a)
    (ht : linesOf t = [] :: ls) : linesOf (a ++ t) = a :: ls := by
  induction a with
  | nil => exact ht
  | cons c a ih =>
    rw [List.mem_cons, not_or] at h
    rw [List.cons_append, linesOf, if_neg (fun e => h.1 e.symm), ih h.2]

theorem linesOf_joinLines (cs : List (List Char)) (hne : cs ≠ []) (hc : ∀ c ∈ cs, '\n' ∉ c) :
    linesOf (joinLines cs) = cs := by
  fun_induction joinLines cs with
  | case1 => exact absurd rfl hne
  | case2 c => simpa using linesOf_append c [] [] (hc c (List.mem_cons_self ..)) rfl
  | case3 c c' cs ih =>
    rw [List.forall_mem_cons] at hc
    rw [linesOf_append c _ _ hc.1 (by rw [linesOf, if_pos rfl]), ih (List.cons_ne_nil _ _) hc.2]

theorem filter_joinLines (p : Char → Bool) (hp : p '\n' = false) (cs : List (List Char)) :
    (joinLines cs).filter p = cs.flatten.filter p := by
  fun_induction joinLines cs with
  | case1 => rfl
  | case2 c => rw [List.flatten_singleton]
  | case3 c c' cs ih =>
    rw [List.flatten_cons, List.filter_append, List.filter_append,
      List.filter_cons_of_neg (by simp [hp]), ih]

theorem chunksAux_flatten (n : Nat) (hn : 0 < n) (fuel : Nat) (l : List Char)
    (h : l.length ≤ fuel) : (chunksAux n fuel l).flatten = l := by
  fun_induction chunksAux n fuel l with
  | case1 l => exact (List.eq_nil_of_length_eq_zero (Nat.le_zero.1 h)).symm
  | case2 fuel l hl => exact (List.isEmpty_iff.1 hl).symm
  | case3 fuel l hl ih =>
    have := List.length_pos_iff.2 (mt List.isEmpty_iff.2 hl)
    rw [List.flatten_cons, ih (by rw [List.length_drop]; omega), List.take_append_drop]

theorem chunksAux_spec (n fuel : Nat) (l : List Char) :
    ∀ c ∈ chunksAux n fuel l, c.length ≤ n ∧ ∀ x ∈ c, x ∈ l := by
  fun_induction chunksAux n fuel l with
  | case1 | case2 => intro c hc; cases hc
  | case3 fuel l _ ih =>
    rw [List.forall_mem_cons]
    exact ⟨⟨List.length_take_le .., fun x => List.mem_of_mem_take⟩,
      fun c hc => ⟨(ih c hc).1, fun x hx => List.mem_of_mem_drop ((ih c hc).2 x hx)⟩⟩

theorem chunks_flatten (n : Nat) (hn : 0 < n) (l : List Char) : (chunks n l).flatten = l :=
  chunksAux_flatten n hn _ l (Nat.le_refl _)

theorem chunks_ne_nil (n : Nat) (l : List Char) (hl : l ≠ []) : chunks n l ≠ [] := by
  cases l with
  | nil => exact absurd rfl hl
  | cons a l => simp [chunks, chunksAux]

end ShuttleModel

import ShuttleProofs.C18
import ShuttleModel.Wrap.TokioMpsc
/-
  The most-general client of the tokio-wrapper mpsc channel over the PURE transitions of
  `ShuttleModel/Wrap/TokioMpsc.lean` and of the two `BatchSemaphore`s (`SemLts.step`, the layer the
  C18 theorems talk about).

  One `MOp` is one atomic state update a `Prog` wrapper of `Mpsc` performs between two scheduling
  points:

  * `sendSem op`  — any acquisition-side step on `send_semaphore` (`try_acquire`, `Acquire::new`,
                    a poll, `Drop for Acquire`, `close`): permits it hands out become `reserved`;
  * `unreserve`   — the `release(n)` by which a cancelled, already granted `Acquire` gives its
                    permits back (`Drop for Acquire`, second half);
  * `push v`      — `Channel::send` by a sender that holds a reserved permit (bounded channel);
                    when the channel is closed the message is refused and the permit stays reserved;
  * `recvSem op`  — any step on `recv_semaphore` (frame for the statements below);
  * `pop kind`    — `Channel::recv` (the pop itself) inside `recv` / `try_recv` / `blocking_recv`;
  * `giveSlot`    — the `send_semaphore.release(1)` that follows a pop in `recv` and `try_recv`
                    (and in the repaired `blocking_recv`);
  * `takeMessages`— `drop_receiver` discarding the buffered messages;
  * `cloneSender` / `dropSender` — the sender count.

  Ghost fields: `reserved` (send permits acquired whose message is not pushed yet), `owed` (pops
  whose `release(1)` is still to come), `leaked` (slots of popped / discarded messages that nobody
  will give back), `pushed` / `popped` / `discarded` (histories).
-/
namespace ShuttleModel
namespace Tokio
namespace MpscLts
open SemLts

inductive RecvKind where
  | recv
  | tryRecv
  | blockingRecv
deriving Repr, DecidableEq

inductive MOp where
  | sendSem (op : SemOp)
  | unreserve (task n : Nat) (clk : Clock)
  | push (v : Nat)
  | recvSem (op : SemOp)
  | pop (kind : RecvKind)
  | giveSlot (task : Nat) (clk : Clock)
  | takeMessages
  | cloneSender
  | dropSender
deriving Repr

structure M where
  s : TMpsc
  reserved : Nat := 0
  owed : Nat := 0
  leaked : Nat := 0
  pushed : List Nat := []
  popped : List Nat := []
  discarded : List Nat := []

def acqSide : SemOp → Bool
  | .release _ _ _ => false
  | .poisonRelease _ _ => false
  | _ => true

/-- does this pop give its slot back later? (`fixedF4 = false`: `blocking_recv` before its repair, F4) -/
def returnsSlot (fixedF4 : Bool) : RecvKind → Bool
  | .blockingRecv => fixedF4
  | _ => true

/-- one atomic step; `none` = not enabled (or the wrapper panics) -/
def mstep (fixedF4 : Bool) (fin : Nat → Bool) (m : M) : MOp → Option M
  | .sendSem op =>
    if acqSide op then
      match step fin m.s.sendSem op with
      | .ok o => some { m with s := { m.s with sendSem := o.s },
                               reserved := m.reserved + permitsOf (acquiredBy m.s.sendSem op o.out) }
      | .error _ => none
    else none
  | .unreserve task n clk =>
    if n ≤ m.reserved then
      match step fin m.s.sendSem (.release task n clk) with
      | .ok o => some { m with s := { m.s with sendSem := o.s }, reserved := m.reserved - n }
      | .error _ => none
    else none
  | .push v =>
    if m.s.isBounded && m.reserved == 0 then none
    else match m.s.push v with
      | .ok s' => some { m with s := s', reserved := if m.s.isBounded then m.reserved - 1 else m.reserved,
                                pushed := m.pushed ++ [v] }
      | .closed => some m
      | .overflow => none
  | .recvSem op =>
    match step fin m.s.recvSem op with
    | .ok o => some { m with s := { m.s with recvSem := o.s } }
    | .error _ => none
  | .pop kind =>
    match m.s.pop with
    | none => none
    | some (v, s', _) =>
      if returnsSlot fixedF4 kind then
        some { m with s := s', popped := m.popped ++ [v], owed := if m.s.isBounded then m.owed + 1 else m.owed }
      else
        some { m with s := s', popped := m.popped ++ [v], leaked := if m.s.isBounded then m.leaked + 1 else m.leaked }
  | .giveSlot task clk =>
    if 0 < m.owed then
      match step fin m.s.sendSem (.release task 1 clk) with
      | .ok o => some { m with s := { m.s with sendSem := o.s }, owed := m.owed - 1 }
      | .error _ => none
    else none
  | .takeMessages =>
    some { m with s := m.s.takeMessages, discarded := m.discarded ++ m.s.messages,
                  leaked := if m.s.isBounded then m.leaked + m.s.messages.length else m.leaked }
  | .cloneSender => some { m with s := m.s.cloneSenderPure }
  | .dropSender =>
    match m.s.dropSenderPure with
    | .ok (s', _) => some { m with s := s' }
    | .error _ => none

/-- the states the most general client reaches from a fresh `channel(b)` / `unbounded_channel()`;
the list records the operations performed, newest first -/
inductive Reach (fixedF4 : Bool) (bound : Option Nat) (c : Clock) : M → List MOp → Prop
  | init : Reach fixedF4 bound c { s := TMpsc.new bound c } []
  | step {m m' : M} {ops : List MOp} {fin : Nat → Bool} {op : MOp} :
      Reach fixedF4 bound c m ops → mstep fixedF4 fin m op = some m' → Reach fixedF4 bound c m' (op :: ops)

structure MInv (b : Nat) (m : M) : Prop where
  bounded : m.s.bound = some b
  semInv : Inv m.s.sendSem
  balance : m.s.sendSem.avail + pend m.s.sendSem.table + m.s.messages.length + m.reserved + m.owed + m.leaked = b
  /-- while nothing was discarded (the receiver is alive) -/
  hist : m.discarded = [] → m.popped ++ m.s.messages = m.pushed

theorem acq_balance (fin : Nat → Bool) {s : SemState} {op : SemOp} {o : StepOut}
    (hi : Inv s) (ha : acqSide op = true) (h : step fin s op = .ok o) :
    Inv o.s ∧ o.s.avail + pend o.s.table + permitsOf (acquiredBy s op o.out) = s.avail + pend s.table := by
  have sp := step_spec fin hi h
  have hr : releasedBy op = none := by cases op <;> first | rfl | cases ha
  rw [hr] at sp
  exact sp

theorem release_balance (fin : Nat → Bool) {s : SemState} {task n : Nat} {clk : Clock} {o : StepOut}
    (hi : Inv s) (h : step fin s (.release task n clk) = .ok o) :
    Inv o.s ∧ o.s.avail + pend o.s.table = s.avail + pend s.table + n := by
  have sp := step_spec fin hi h
  have ha : acquiredBy s (.release task n clk) o.out = none := by cases o.out <;> rfl
  have hr : permitsOf (releasedBy (.release task n clk)) = n := by
    show permitsOf (if n = 0 then none else some (task, n)) = n
    split
    · exact Eq.symm ‹n = 0›
    · rfl
  rw [ha, hr] at sp
  exact sp

theorem push_ok {s s' : TMpsc} {v : Nat} (h : s.push v = .ok s') :
    s' = { s with messages := s.messages ++ [v] } := by
  revert h
  fun_cases TMpsc.push s v <;> intro h <;> cases h <;> rfl

theorem pop_some {s s' : TMpsc} {v : Nat} {cl : Bool} (h : s.pop = some (v, s', cl)) :
    s.messages = v :: s'.messages ∧ s'.sendSem = s.sendSem ∧ s'.bound = s.bound := by
  revert h
  fun_cases TMpsc.pop s <;> intro h <;> cases h
  next hm => exact ⟨hm, rfl, rfl⟩

theorem dropSender_ok {s s' : TMpsc} {last : Bool} (h : s.dropSenderPure = .ok (s', last)) :
    s' = { s with knownSenders := s.knownSenders - 1 } := by
  revert h
  fun_cases TMpsc.dropSenderPure s <;> intro h <;> cases h <;> rfl

/-- a pop keeps the invariant wherever the slot of the popped message is booked -/
theorem MInv.pop {b : Nat} {m : M} (hi : MInv b m) {v : Nat} {s' : TMpsc} {cl : Bool}
    (hp : m.s.pop = some (v, s', cl)) {owed leaked : Nat} (h : owed + leaked = m.owed + m.leaked + 1) :
    MInv b { m with s := s', popped := m.popped ++ [v], owed := owed, leaked := leaked } := by
  obtain ⟨hm, hsem, hbound⟩ := pop_some hp
  refine ⟨hbound.trans hi.bounded, hsem ▸ hi.semInv, ?_, fun hd => ?_⟩
  · dsimp only
    rw [← hi.balance, hm, List.length_cons, hsem, Nat.add_assoc _ owed, h]
    ac_rfl
  · rw [List.append_assoc, ← hi.hist hd, hm]; rfl

/-- One step keeps the invariant, and a slot is `leaked` only by `takeMessages` or by a
`blocking_recv` pop of the unrepaired code.

`MInv` reads `bound`, `sendSem` and `messages` of the channel and the ghost fields.  An operation
that writes none of them (`recvSem`, `cloneSender`, `dropSender`) keeps every clause as it is; each
of the others moves slots between two summands of the balance, so the new balance is the old one
with its terms rearranged.  The enabled branches of `mstep` come in its order: `sendSem`, `unreserve`,
`push` (accepted, refused), `recvSem`, `pop` (slot owed, slot leaked), `giveSlot`, `takeMessages`,
`cloneSender`, `dropSender`. -/
theorem mstep_spec {fx : Bool} {fin : Nat → Bool} {b : Nat} {m m' : M} {op : MOp}
    (hi : MInv b m) (h : mstep fx fin m op = some m') :
    MInv b m' ∧ (m'.leaked = m.leaked ∨ op = .takeMessages ∨ (op = .pop .blockingRecv ∧ fx = false)) := by
  have hb : m.s.isBounded = true := by rw [TMpsc.isBounded, hi.bounded]; rfl
  have hbal := hi.balance
  revert h
  fun_cases mstep fx fin m op <;> intro h <;> cases h
  next op ha o ho =>
    obtain ⟨hinv, hsum⟩ := acq_balance fin hi.semInv ha ho
    refine ⟨⟨hi.bounded, hinv, ?_, hi.hist⟩, Or.inl rfl⟩
    dsimp only
    rw [← hbal, ← hsum]
    ac_rfl
  next task n clk hle o ho =>
    obtain ⟨hinv, hsum⟩ := release_balance fin hi.semInv ho
    refine ⟨⟨hi.bounded, hinv, ?_, hi.hist⟩, Or.inl rfl⟩
    rw [← Nat.sub_add_cancel hle] at hbal
    dsimp only
    rw [← hbal, hsum]
    ac_rfl
  next v hne s' hp =>
    cases push_ok hp
    have hres : 0 < m.reserved := Nat.pos_of_ne_zero fun h0 => hne (by rw [hb, h0]; rfl)
    refine ⟨⟨hi.bounded, hi.semInv, ?_, fun hd => ?_⟩, Or.inl rfl⟩
    · rw [← Nat.sub_add_cancel (m := 1) hres] at hbal
      dsimp only
      rw [← hbal, if_pos hb, List.length_append, List.length_singleton]
      ac_rfl
    · exact (List.append_assoc ..).symm.trans (congrArg (· ++ [v]) (hi.hist hd))
  next => exact ⟨hi, Or.inl rfl⟩
  next => exact ⟨⟨hi.bounded, hi.semInv, hbal, hi.hist⟩, Or.inl rfl⟩
  next kind v s' cl hp hr => exact ⟨hi.pop hp (by rw [if_pos hb, Nat.add_right_comm]), Or.inl rfl⟩
  next kind v s' cl hp hr =>
    refine ⟨hi.pop hp (by rw [if_pos hb]; rfl), Or.inr (Or.inr ?_)⟩
    cases kind <;> first | exact absurd rfl hr | exact ⟨rfl, Bool.eq_false_iff.mpr hr⟩
  next task clk hpos o ho =>
    obtain ⟨hinv, hsum⟩ := release_balance fin hi.semInv ho
    refine ⟨⟨hi.bounded, hinv, ?_, hi.hist⟩, Or.inl rfl⟩
    rw [← Nat.sub_add_cancel (m := 1) hpos] at hbal
    dsimp only
    rw [← hbal, hsum]
    ac_rfl
  next =>
    refine ⟨⟨hi.bounded, hi.semInv, ?_, fun hd => ?_⟩, Or.inr (Or.inl rfl)⟩
    · dsimp only [TMpsc.takeMessages, List.length_nil]
      rw [← hbal, if_pos hb, Nat.add_zero]
      ac_rfl
    · obtain ⟨hd, hm⟩ := List.append_eq_nil_iff.mp hd
      exact (congrArg (m.popped ++ ·) hm.symm).trans (hi.hist hd)
  next => exact ⟨⟨hi.bounded, hi.semInv, hbal, hi.hist⟩, Or.inl rfl⟩
  next s' last hd =>
    cases dropSender_ok hd
    exact ⟨⟨hi.bounded, hi.semInv, hbal, hi.hist⟩, Or.inl rfl⟩

end MpscLts
end Tokio
end ShuttleModel

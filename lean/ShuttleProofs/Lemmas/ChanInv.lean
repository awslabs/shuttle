import ShuttleProofs.Lemmas.ChanSteps
/-
  C06 — the inductive invariant of the channel LTS.

  Preservation is proved clause by clause.  A transition rewrites a few fields of `Cfg`, so
  `{ hi with … }` carries over every clause that reads none of them (the proof of the clause for `c`
  has the type of the clause for the successor once the record update is projected away); only the
  clauses listed need an argument, and each says which facts about `c` it rests on.  The same proof
  also records that the bound is unchanged and which step of the abstract FIFO (`AStep` under `abs`)
  the transition is (`GoodStep`).

  Clause names: `ws`/`wr` waiting senders/receivers, `ks`/`kr` known senders/receivers, `rc`
  `receiver_clock`; `ub_sub`: `ub` ⊆ the queues; `sub_*`: a sender in `ub`; `rub`: a receiver in
  `ub`; `unb`/`rdv`: unbounded/rendezvous channel; `exact`: counts exact while no drop was skipped;
  `ns_*`: no stranded waiter, one clause per condition waited for.
-/
namespace ShuttleModel.C06
open ShuttleModel

theorem mem_filter_ne {l : List Nat} {t x : Nat} : x ∈ l.filter (· != t) ↔ x ∈ l ∧ x ≠ t := by simp

theorem head?_concat {l : List Nat} {t h : Nat} (hh : (l ++ [t]).head? = some h) :
    l.head? = some h ∨ (l = [] ∧ h = t) := by
  cases l with
  | nil => exact .inr ⟨rfl, (Option.some.inj hh).symm⟩
  | cons a l => exact .inl hh

theorem mem_of_mem_head?_toList {l : List Nat} {x : Nat} (h : x ∈ l.head?.toList) : x ∈ l :=
  List.mem_of_mem_head? (Option.mem_toList.mp h)

/-- room for one more message: a free slot or, on a rendezvous channel, an empty buffer and a
waiting receiver -/
def Room (s : ChanState) : Prop :=
  ∀ k, s.bound = some k →
    (0 < k → s.messages.length < k) ∧ (k = 0 → s.messages = [] ∧ s.waitingReceivers ≠ [])

theorem not_mustBlock {s : ChanState} (h : s.senderMustBlock = false) :
    s.waitingSenders = [] ∧ Room s := by
  have := senderMustBlock_iff s
  rw [h] at this
  simp at this
  refine ⟨this.2.1, fun b hb => ⟨fun h0 => ?_, fun h0 => ?_⟩⟩
  · have := this.1 b hb
    omega
  · subst h0
    have hm := this.1 0 hb
    simp at hm
    exact ⟨hm, this.2.2 hb⟩

structure Inv (c : Cfg) : Prop where
  ws_nodup : c.ch.waitingSenders.Nodup
  wr_le : c.ch.waitingReceivers.length ≤ 1
  disj : ∀ t ∈ c.ch.waitingSenders, t ∉ c.ch.waitingReceivers
  ub_sub : ∀ t ∈ c.ub, t ∈ c.ch.waitingSenders ∨ t ∈ c.ch.waitingReceivers
  /-- unbounded channels never have waiting senders -/
  unb : c.ch.bound = none → c.ch.waitingSenders = [] ∧ c.ch.receiverClock = none
  /-- `receiver_clock` holds one clock per free slot -/
  rc : ∀ k, c.ch.bound = some k →
    ∃ l, c.ch.receiverClock = some l ∧ (0 < k → l.length + c.ch.messages.length = k)
  /-- rendezvous: a message is in the buffer only while the waiting receiver has been unblocked to
  take it -/
  rdv : c.ch.bound = some 0 → c.ch.messages.length ≤ 1 ∧
    (c.ch.messages ≠ [] → ∃ r, c.ch.waitingReceivers = [r] ∧ r ∈ c.ub)
  /-- only the head of the sender queue is ever unblocked while a receiver exists … -/
  sub_head : c.ch.knownReceivers ≠ 0 → ∀ t ∈ c.ub, t ∈ c.ch.waitingSenders →
    c.ch.waitingSenders.head? = some t
  /-- … and then a slot (rendezvous: a waiting receiver) is reserved for it -/
  sub_room : c.ch.knownReceivers ≠ 0 → ∀ t ∈ c.ub, t ∈ c.ch.waitingSenders → ∀ k, c.ch.bound = some k →
    (0 < k → c.ch.messages.length < k) ∧ (k = 0 → c.ch.messages = [] ∧ c.ch.waitingReceivers ≠ [])
  /-- a receiver is unblocked only for a message or for disconnection -/
  rub : ∀ r ∈ c.ub, r ∈ c.ch.waitingReceivers → c.ch.messages ≠ [] ∨ c.ch.knownSenders = 0
  /-- endpoint counts -/
  ks_ge : c.liveS ≤ c.ch.knownSenders
  kr_ge : c.liveR = true → 1 ≤ c.ch.knownReceivers
  kr_le : c.ch.knownReceivers ≤ 1
  ws_live : c.ch.waitingSenders ≠ [] → 1 ≤ c.liveS
  wr_live : c.ch.waitingReceivers ≠ [] → c.liveR = true
  exact : c.skipped = false → c.ch.knownSenders = c.liveS ∧ (c.liveR = false → c.ch.knownReceivers = 0)
  /-- no stranded waiter -/
  ns_space : c.ch.knownReceivers ≠ 0 → ∀ k, c.ch.bound = some k → 0 < k → c.ch.messages.length < k →
    ∀ h, c.ch.waitingSenders.head? = some h → h ∈ c.ub
  ns_rdv : c.ch.knownReceivers ≠ 0 → c.ch.bound = some 0 → c.ch.messages = [] →
    c.ch.waitingReceivers ≠ [] → ∀ h, c.ch.waitingSenders.head? = some h → h ∈ c.ub
  ns_msg : c.ch.messages ≠ [] → ∀ r, c.ch.waitingReceivers.head? = some r → r ∈ c.ub
  ns_noR : c.ch.knownReceivers = 0 → ∀ t ∈ c.ch.waitingSenders, t ∈ c.ub
  ns_noS : c.ch.knownSenders = 0 → ∀ r ∈ c.ch.waitingReceivers, r ∈ c.ub
  /-- FIFO bookkeeping -/
  fifo : c.sent.map (·.2) = c.received ++ c.ch.messages.map (·.1)

theorem inv_init (b : Option Nat) : Inv (Cfg.init b) := by
  constructor <;> simp [Cfg.init, ChanState.new]
  -- `ChanState.new` puts one clock per slot on `receiver_clock`
  case rc => cases b <;> simp

/-- while there is room, `receiver_clock` holds a clock for the slot the push takes -/
theorem Inv.rc_ne_nil {c : Cfg} (hi : Inv c)
    (hroom : ∀ k, c.ch.bound = some k → 0 < k → c.ch.messages.length < k) :
    c.ch.bound ≠ some 0 → c.ch.receiverClock ≠ some [] := by
  intro hz hc
  rcases hb : c.ch.bound with _ | k
  · rw [(hi.unb hb).2] at hc; cases hc
  · obtain ⟨l, hl, hlen⟩ := hi.rc k hb
    rw [hl] at hc; cases hc
    have hk : 0 < k := Nat.pos_of_ne_zero fun h => hz (h ▸ hb)
    have := hlen hk
    have := hroom k hb hk
    rw [List.length_nil] at *
    omega

/-- the rendezvous clause reads `ub` only at the waiting receiver -/
theorem Inv.rdv_mono {c : Cfg} (hi : Inv c) {ub' : List Nat}
    (h : ∀ r ∈ c.ch.waitingReceivers, r ∈ c.ub → r ∈ ub') (hb : c.ch.bound = some 0) :
    c.ch.messages.length ≤ 1 ∧ (c.ch.messages ≠ [] → ∃ r, c.ch.waitingReceivers = [r] ∧ r ∈ ub') :=
  ⟨(hi.rdv hb).1, fun hm =>
    let ⟨r, hr, hu⟩ := (hi.rdv hb).2 hm
    ⟨r, hr, h r (hr ▸ List.mem_singleton_self r) hu⟩⟩

theorem astep_push {cap : Option Nat} {s : ChanState} {v : Nat} {clk : Clock}
    {rc : Option (List Clock)} {ws : List Nat} (h0 : s.knownReceivers ≠ 0)
    (hroom : hasRoom cap s.messages.length) :
    AStep cap (abs s)
      (abs { s with messages := s.messages ++ [(v, clk)], receiverClock := rc, waitingSenders := ws }) := by
  have : abs { s with messages := s.messages ++ [(v, clk)], receiverClock := rc, waitingSenders := ws } =
      { abs s with queue := (abs s).queue ++ [v] } := by simp [abs]
  rw [this]
  exact AStep.push _ v (by simp [abs, h0]) (by simpa [abs] using hroom)

theorem astep_pop {cap : Option Nat} {s : ChanState} {item : Nat × Clock} {rest : List (Nat × Clock)}
    {rc : Option (List Clock)} {wr : List Nat} (hm : s.messages = item :: rest) :
    AStep cap (abs s) (abs { s with messages := rest, receiverClock := rc, waitingReceivers := wr }) := by
  have : abs { s with messages := rest, receiverClock := rc, waitingReceivers := wr } =
      { abs s with queue := rest.map (·.1) } := by simp [abs]
  rw [this]
  exact AStep.pop _ item.1 _ (by simp [abs, hm])

/-- the room a sender pushes into is room below `max(bound, 1)` in the abstract buffer -/
theorem hasRoom_of_room {s : ChanState} (h : Room s) :
    hasRoom (capOf s.bound) s.messages.length := by
  unfold capOf hasRoom
  rcases hb : s.bound with _ | _ | k
  · trivial
  · simp [((h 0 hb).2 rfl).1]
  · have := (h _ hb).1 (Nat.succ_pos k)
    simp only [Option.map_some]
    omega

structure GoodStep (c c' : Cfg) : Prop where
  inv : Inv c'
  bound_eq : c'.ch.bound = c.ch.bound
  astep : AStep (capOf c.ch.bound) (abs c.ch) (abs c'.ch)

theorem inv_clone {c c' : Cfg} (hi : Inv c) (he : enabled c .cloneS) (hf : fire c .cloneS = .ok c') :
    GoodStep c c' := by
  obtain rfl := Except.ok.inj ((fire_cloneS c).symm.trans hf)
  have he : 1 ≤ c.liveS := he
  have hks := hi.ks_ge
  exact ⟨{ hi with
    rub := fun r hr hw => (hi.rub r hr hw).imp_right fun h0 => by omega
    ks_ge := Nat.succ_le_succ hks
    ws_live := fun _ => Nat.le_add_left 1 _
    exact := fun h => ⟨congrArg (· + 1) (hi.exact h).1, (hi.exact h).2⟩
    ns_noS := fun h => absurd h (Nat.succ_ne_zero _) }, rfl, AStep.clone _ (Nat.le_trans he hks)⟩

theorem inv_dropS {c c' : Cfg} {stop : Bool} (hi : Inv c) (he : enabled c (.dropS stop))
    (hf : fire c (.dropS stop) = .ok c') : GoodStep c c' := by
  obtain ⟨he1, he2⟩ : 1 ≤ c.liveS ∧ (c.ch.waitingSenders ≠ [] → 2 ≤ c.liveS) := he
  have hks := hi.ks_ge
  cases stop
  · obtain rfl := Except.ok.inj ((fire_dropS_ok (c := c) (by omega)).symm.trans hf)
    -- the last sender's drop unblocks every waiting receiver, and no sender
    have hws : ∀ t ∈ c.ub ++ (if c.ch.knownSenders - 1 = 0 then c.ch.waitingReceivers else []),
        t ∈ c.ch.waitingSenders → t ∈ c.ub := fun t ht hw =>
      (List.mem_append.mp ht).elim id fun hx => absurd (List.mem_ite_nil_right.mp hx).2 (hi.disj t hw)
    exact ⟨{ hi with
      ub_sub := fun t ht => (List.mem_append.mp ht).elim (hi.ub_sub t) fun hx =>
        .inr (List.mem_ite_nil_right.mp hx).2
      rdv := hi.rdv_mono fun _ _ => List.mem_append_left _
      sub_head := fun h0 t ht hw => hi.sub_head h0 t (hws t ht hw) hw
      sub_room := fun h0 t ht hw => hi.sub_room h0 t (hws t ht hw) hw
      rub := fun r hr hw => (List.mem_append.mp hr).elim
        (fun hr => (hi.rub r hr hw).imp_right fun h => by omega)
        fun hx => .inr (List.mem_ite_nil_right.mp hx).1
      ks_ge := Nat.sub_le_sub_right hks 1
      ws_live := fun h => Nat.le_sub_of_add_le (he2 h)
      exact := fun h => ⟨congrArg (· - 1) (hi.exact h).1, (hi.exact h).2⟩
      ns_space := fun h0 k hb hk hl h hh => List.mem_append_left _ (hi.ns_space h0 k hb hk hl h hh)
      ns_rdv := fun h0 hb hm hw h hh => List.mem_append_left _ (hi.ns_rdv h0 hb hm hw h hh)
      ns_msg := fun hm r hr => List.mem_append_left _ (hi.ns_msg hm r hr)
      ns_noR := fun h0 t ht => List.mem_append_left _ (hi.ns_noR h0 t ht)
      ns_noS := fun h0 r hr => List.mem_append_right _ (by rw [if_pos h0]; exact hr) }, rfl,
      AStep.dropS _ (Nat.le_trans he1 hks)⟩
  · obtain rfl := Except.ok.inj ((fire_dropS_skip c).symm.trans hf)
    exact ⟨{ hi with
      ks_ge := Nat.le_trans (Nat.sub_le _ 1) hks
      ws_live := fun h => Nat.le_sub_of_add_le (he2 h)
      exact := fun h => nomatch h }, rfl, AStep.stutter _⟩

theorem inv_dropR {c c' : Cfg} {stop : Bool} (hi : Inv c) (he : enabled c (.dropR stop))
    (hf : fire c (.dropR stop) = .ok c') : GoodStep c c' := by
  obtain ⟨he1, he2⟩ : c.liveR = true ∧ c.ch.waitingReceivers = [] := he
  have hkr := hi.kr_ge he1
  cases stop
  · obtain rfl := Except.ok.inj ((fire_dropR_ok (c := c) (by omega)).symm.trans hf)
    -- the only receiver goes: `known_receivers` drops to 0 and every waiting sender is unblocked
    have hk0 : c.ch.knownReceivers - 1 = 0 := Nat.sub_eq_zero_of_le hi.kr_le
    have habs : abs { c.ch with knownReceivers := c.ch.knownReceivers - 1 } =
        { abs c.ch with receiverAlive := false } := by simp [abs, hk0]
    exact ⟨{ hi with
      ub_sub := fun t ht => (List.mem_append.mp ht).elim (hi.ub_sub t) fun hx =>
        .inl (by rwa [if_pos hk0] at hx)
      rdv := hi.rdv_mono fun _ _ => List.mem_append_left _
      sub_head := fun h0 => absurd hk0 h0
      sub_room := fun h0 => absurd hk0 h0
      rub := fun r _ hw => nomatch he2 ▸ hw
      kr_ge := fun h => nomatch h
      kr_le := Nat.le_trans (Nat.sub_le _ 1) hi.kr_le
      wr_live := fun h => absurd he2 h
      exact := fun h => ⟨(hi.exact h).1, fun _ => hk0⟩
      ns_space := fun h0 => absurd hk0 h0
      ns_rdv := fun h0 => absurd hk0 h0
      ns_msg := fun hm r hr => List.mem_append_left _ (hi.ns_msg hm r hr)
      ns_noR := fun _ t ht => List.mem_append_right _ (by rwa [if_pos hk0])
      ns_noS := fun h0 r hr => List.mem_append_left _ (hi.ns_noS h0 r hr) }, rfl,
      habs ▸ AStep.dropR _ (by simp [abs]; omega)⟩
  · obtain rfl := Except.ok.inj ((fire_dropR_skip c).symm.trans hf)
    exact ⟨{ hi with
      kr_ge := fun h => nomatch h
      wr_live := fun h => absurd he2 h
      exact := fun h => nomatch h }, rfl, AStep.stutter _⟩
end ShuttleModel.C06

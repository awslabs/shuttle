/-
  Helper lemmas for C20 (deterministic map part): the reference sequential map (`refStep`: an association list
  with functional update: `insert` = cons in front of the list filtered of the key) and the simulation between
  the std-map model (`ShuttleModel.DetMap.stdStep`, in-place replace / append / erase-first) and the reference.
-/
import ShuttleModel.Wrap.DetMap

namespace ShuttleProofs.C20Det
open ShuttleModel.DetMap

variable {K V : Type} [DecidableEq K]

def neKey (k : K) : K × V → Bool := fun e => decide (e.1 ≠ k)

def refInsert (k : K) (v : V) (r : Entries K V) : Option V × Entries K V :=
  (lookup k r, (k, v) :: r.filter (neKey k))

def refRemove (k : K) (r : Entries K V) : Option V × Entries K V :=
  (lookup k r, r.filter (neKey k))

def refExtend (kvs : List (K × V)) (r : Entries K V) : Entries K V :=
  kvs.foldl (fun acc e => (refInsert e.1 e.2 acc).2) r

def refStep (op : Op K V) (r : Entries K V) : Res V × Entries K V :=
  match op with
  | .insert k v => let x := refInsert k v r; (.optVal x.1, x.2)
  | .remove k => let x := refRemove k r; (.optVal x.1, x.2)
  | .get k => (.optVal (lookup k r), r)
  | .contains k => (.bool (lookup k r).isSome, r)
  | .len => (.nat r.length, r)
  | .isEmpty => (.bool r.isEmpty, r)
  | .clear => (.unit, [])
  | .retain p => (.unit, r.filter (fun e => p e.1 e.2))
  | .extend kvs => (.unit, refExtend kvs r)

def refRun : List (Op K V) → Entries K V → List (Res V) × Entries K V
  | [], r => ([], r)
  | op :: ops, r =>
      let x := refStep op r
      let rest := refRun ops x.2
      (x.1 :: rest.1, rest.2)

def NoDupKeys (m : Entries K V) : Prop := (m.map Prod.fst).Nodup

/-- same entries up to order, no duplicate keys -/
def Sim (m r : Entries K V) : Prop := m.Perm r ∧ NoDupKeys m

variable {m r : Entries K V} {k : K} {a b : DetSet K}

theorem lookup_eq_none_iff (k : K) (m : Entries K V) : lookup k m = none ↔ k ∉ m.map Prod.fst := by
  fun_induction lookup k m with
  | case1 => exact ⟨nofun, fun _ => rfl⟩
  | case2 v m => exact ⟨nofun, fun hn => absurd (List.mem_map_of_mem List.mem_cons_self) hn⟩
  | case3 k' v m h ih =>
    rw [ih, List.map_cons, List.mem_cons, not_or]
    exact ⟨fun hn => ⟨fun e => h e.symm, hn⟩, And.right⟩

theorem lookup_isSome_iff (k : K) (m : Entries K V) : (lookup k m).isSome = true ↔ k ∈ m.map Prod.fst := by
  rw [Option.isSome_iff_ne_none, Ne, lookup_eq_none_iff, Decidable.not_not]

omit [DecidableEq K] in
theorem noDup_cons {e : K × V} :
    NoDupKeys (e :: m) ↔ e.1 ∉ m.map Prod.fst ∧ NoDupKeys m := List.nodup_cons

theorem lookup_eq_some_iff (nd : NoDupKeys m) (k : K) (v : V) :
    lookup k m = some v ↔ (k, v) ∈ m := by
  fun_induction lookup k m with
  | case1 => exact ⟨nofun, nofun⟩
  | case2 v' m =>
    rw [List.mem_cons]
    refine ⟨fun e => .inl (Option.some.inj e ▸ rfl), fun e => ?_⟩
    rcases e with e | e
    · cases e; rfl
    · exact absurd (List.mem_map_of_mem (f := Prod.fst) e) (noDup_cons.mp nd).1
  | case3 k' v' m h ih =>
    rw [ih (noDup_cons.mp nd).2, List.mem_cons]
    exact ⟨.inr, fun e => e.resolve_left fun e => h (congrArg Prod.fst e).symm⟩

omit [DecidableEq K] in
theorem noDup_perm (h : m.Perm r) (nd : NoDupKeys m) : NoDupKeys r :=
  ((h.map Prod.fst).nodup_iff).mp nd

theorem lookup_perm (h : m.Perm r) (nd : NoDupKeys m) (k : K) :
    lookup k m = lookup k r := by
  cases hr : lookup k r with
  | none => rwa [lookup_eq_none_iff, (h.map Prod.fst).mem_iff, ← lookup_eq_none_iff]
  | some v => rwa [lookup_eq_some_iff nd, h.mem_iff, ← lookup_eq_some_iff (noDup_perm h nd)]

omit [DecidableEq K] in
theorem noDup_sublist {m m' : Entries K V} (h : m'.Sublist m) (nd : NoDupKeys m) : NoDupKeys m' :=
  List.Nodup.sublist (h.map Prod.fst) nd

theorem filter_neKey_of_none (h : lookup k m = none) : m.filter (neKey k) = m :=
  List.filter_eq_self.mpr fun e he =>
    decide_eq_true fun heq => (lookup_eq_none_iff k m).mp h (List.mem_map.mpr ⟨e, he, heq⟩)

theorem eraseKey_eq_filter (nd : NoDupKeys m) (k : K) :
    eraseKey k m = m.filter (neKey k) := by
  fun_induction eraseKey k m with
  | case1 => rfl
  | case2 v m =>
    rw [List.filter_cons, if_neg (by simp [neKey]),
      filter_neKey_of_none ((lookup_eq_none_iff k m).mpr (noDup_cons.mp nd).1)]
  | case3 k' v m h ih => rw [List.filter_cons, if_pos (by simp [neKey, h]), ih (noDup_cons.mp nd).2]

theorem replaceVal_keys (k : K) (v : V) (m : Entries K V) :
    (replaceVal k v m).map Prod.fst = m.map Prod.fst := by
  fun_induction replaceVal k v m with
  | case1 => rfl
  | case2 => rfl
  | case3 k' v' m h ih => rw [List.map_cons, ih]; rfl

theorem replaceVal_perm (k : K) (v old : V) (h : lookup k m = some old) :
    (replaceVal k v m).Perm ((k, v) :: eraseKey k m) := by
  fun_induction replaceVal k v m with
  | case1 => cases h
  | case2 v' m => rw [eraseKey, if_pos rfl]
  | case3 k' v' m hk ih =>
    rw [lookup, if_neg hk] at h
    rw [eraseKey, if_neg hk]
    exact ((ih h).cons _).trans (List.Perm.swap _ _ _)

/-- `insert` simulates: a present key is replaced in place, which is the reference's cons in
front of the filtered list up to order; an absent key is appended and the filter removes nothing -/
theorem sim_insert (S : Sim m r) (k : K) (v : V) :
    (ShuttleModel.DetMap.insert k v m).1 = (refInsert k v r).1 ∧
      Sim (ShuttleModel.DetMap.insert k v m).2 (refInsert k v r).2 := by
  obtain ⟨hp, nd⟩ := S
  have hl := lookup_perm hp nd k
  have hf := (hp.filter (neKey k)).cons (k, v)
  unfold ShuttleModel.DetMap.insert refInsert
  cases hm : lookup k m with
  | some old =>
    refine ⟨hm.symm.trans hl, ?_, (congrArg List.Nodup (replaceVal_keys k v m)).mpr nd⟩
    exact (eraseKey_eq_filter nd k ▸ replaceVal_perm k v old hm).trans hf
  | none =>
    rw [filter_neKey_of_none hm] at hf
    exact ⟨hm.symm.trans hl, (List.perm_append_singleton _ _).trans hf,
      noDup_perm (List.perm_append_singleton _ _).symm
        (noDup_cons.mpr ⟨(lookup_eq_none_iff k m).mp hm, nd⟩)⟩

theorem sim_remove (S : Sim m r) (k : K) :
    (remove k m).1 = (refRemove k r).1 ∧ Sim (remove k m).2 (refRemove k r).2 := by
  obtain ⟨hp, nd⟩ := S
  refine ⟨lookup_perm hp nd k, ?_, ?_⟩
  · show (eraseKey k m).Perm (r.filter (neKey k))
    rw [eraseKey_eq_filter nd]; exact hp.filter _
  · show NoDupKeys (eraseKey k m)
    rw [eraseKey_eq_filter nd]; exact noDup_sublist List.filter_sublist nd

theorem sim_extend (S : Sim m r) (kvs : List (K × V)) :
    Sim (extend kvs m) (refExtend kvs r) := by
  unfold extend refExtend
  induction kvs generalizing m r with
  | nil => exact S
  | cons e kvs ih => exact ih (sim_insert S e.1 e.2).2

theorem sim_step (S : Sim m r) (op : Op K V) :
    (stdStep op m).1 = (refStep op r).1 ∧ Sim (stdStep op m).2 (refStep op r).2 := by
  have hl := lookup_perm S.1 S.2
  cases op with
  | insert k v => exact (sim_insert S k v).imp_left (congrArg Res.optVal)
  | remove k => exact (sim_remove S k).imp_left (congrArg Res.optVal)
  | get k => exact ⟨congrArg Res.optVal (hl k), S⟩
  | contains k => exact ⟨congrArg (fun o : Option V => Res.bool o.isSome) (hl k), S⟩
  | len => exact ⟨congrArg Res.nat S.1.length_eq, S⟩
  | isEmpty => exact ⟨congrArg Res.bool S.1.isEmpty_eq, S⟩
  | clear => exact ⟨rfl, .refl _, List.nodup_nil⟩
  | retain p => exact ⟨rfl, S.1.filter _, noDup_sublist List.filter_sublist S.2⟩
  | extend kvs => exact ⟨rfl, sim_extend S kvs⟩

theorem sim_run (ops : List (Op K V)) {d : DetMap K V} (S : Sim d.entries r) :
    (DetMap.run ops d).1 = (refRun ops r).1 ∧ Sim (DetMap.run ops d).2.entries (refRun ops r).2 := by
  induction ops generalizing r d with
  | nil => exact ⟨rfl, S⟩
  | cons op ops ih =>
    have hs := sim_step S op
    have := ih (d := (DetMap.step op d).2) hs.2
    exact ⟨by rw [DetMap.run, refRun, this.1, ← hs.1]; rfl, this.2⟩

theorem keys_insert (k : K) (v : V) (m : Entries K V) (k' : K) :
    k' ∈ (ShuttleModel.DetMap.insert k v m).2.map Prod.fst ↔ k' = k ∨ k' ∈ m.map Prod.fst := by
  unfold ShuttleModel.DetMap.insert
  cases h : lookup k m with
  | none => simp; exact Or.comm
  | some old =>
    have hk : k ∈ m.map Prod.fst := (lookup_isSome_iff k m).mp (by simp [h])
    simp only [replaceVal_keys]
    constructor
    · exact Or.inr
    · rintro (rfl | h') <;> assumption

theorem keys_extend (kvs : List (K × V)) (m : Entries K V) (k' : K) :
    k' ∈ (extend kvs m).map Prod.fst ↔ k' ∈ kvs.map Prod.fst ∨ k' ∈ m.map Prod.fst := by
  unfold extend
  induction kvs generalizing m with
  | nil => simp
  | cons e kvs ih => rw [List.foldl_cons, ih, keys_insert, List.map_cons, List.mem_cons, or_left_comm, or_assoc]

theorem contains_ofKeys (ks : List K) (k : K) : (DetSet.ofKeys ks).contains k = true ↔ k ∈ ks := by
  unfold DetSet.contains DetSet.ofKeys DetMap.fromList DetMap.step stdStep
  simp only [DetMap.new]
  rw [lookup_isSome_iff, keys_extend]
  simp

theorem mem_keys_iff_contains :
    k ∈ a.entries.map Prod.fst ↔ a.contains k = true := (lookup_isSome_iff k a.entries).symm

omit [DecidableEq K] in
theorem mem_keys_filter (P : K → Bool) (m : Entries K V) (k : K) :
    k ∈ (m.filter (fun e => P e.1)).map Prod.fst ↔ k ∈ m.map Prod.fst ∧ P k = true := by
  simp only [List.mem_map, List.mem_filter]
  constructor
  · rintro ⟨e, ⟨he, hb⟩, rfl⟩; exact ⟨⟨e, he, rfl⟩, hb⟩
  · rintro ⟨⟨e, he, rfl⟩, hb⟩; exact ⟨e, ⟨he, hb⟩, rfl⟩

theorem mem_diffElems :
    k ∈ DetSet.diffElems a b ↔ a.contains k = true ∧ b.contains k = false := by
  rw [DetSet.diffElems, mem_keys_filter (fun k => !b.contains k), mem_keys_iff_contains, Bool.not_eq_true']

theorem mem_unionElems :
    k ∈ DetSet.unionElems a b ↔ a.contains k = true ∨ b.contains k = true := by
  have key : ∀ x y : Bool, (x = true ∨ y = true ∧ x = false) ↔ (x = true ∨ y = true) := by decide
  unfold DetSet.unionElems
  split <;> rw [List.mem_append, mem_keys_iff_contains, mem_diffElems, key]
  exact Or.comm

theorem mem_interElems :
    k ∈ DetSet.interElems a b ↔ a.contains k = true ∧ b.contains k = true := by
  unfold DetSet.interElems
  split
  · rw [mem_keys_filter b.contains, mem_keys_iff_contains]
  · rw [mem_keys_filter a.contains, mem_keys_iff_contains, And.comm]

theorem mem_symmElems :
    k ∈ DetSet.symmElems a b ↔
      (a.contains k = true ∧ b.contains k = false) ∨ (b.contains k = true ∧ a.contains k = false) := by
  rw [DetSet.symmElems, List.mem_append, mem_diffElems, mem_diffElems]

end ShuttleProofs.C20Det

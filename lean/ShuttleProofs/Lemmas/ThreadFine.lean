import ShuttleProofs.Lemmas.KernelInv
/-!
# A task-level refinement of the relational semantics of `runSegment`

`SegStep` (KernelSegment.lean) forgets *which* task a request updates.  `FineStep` keeps it: a request either
leaves the task table and the continuation table alone, or applies one fallible `Task` transition `f` to one
task `t` (`opFun me o = some (t, f)`), or is a `spawn`.  On top of it: what a whole segment / a whole loop
iteration can do to another task (C07).
-/

namespace ShuttleProofs.Thread
open ShuttleModel ShuttleProofs.Kernel

variable {P : Program} {σ : Type}

theorem spawnTask_fst (k : Kernel) (p : Option Nat) : (k.spawnTask p).1 = k.tasks.length := by
  unfold Kernel.spawnTask
  cases p with
  | none => rfl
  | some p => dsimp only; cases k.getTask? p <;> rfl

theorem spawnTask_some_tasks (k : Kernel) (me : Nat) :
    (k.tasks[me]? = none ∧ (k.spawnTask (some me)).2 = k) ∨
    (∃ ptk c, k.tasks[me]? = some ptk ∧
      (k.spawnTask (some me)).2.tasks =
        k.tasks.set me { ptk with clock := c } ++ [{ clock := c, parent := some me }]) := by
  cases h : k.tasks[me]? with
  | none => exact .inl ⟨rfl, by simp [Kernel.spawnTask, Kernel.getTask?, h]⟩
  | some ptk =>
    exact .inr ⟨ptk, (ptk.clock.increment me).extend k.tasks.length, rfl,
      by simp [Kernel.spawnTask, Kernel.getTask?, h, Kernel.setTask]⟩

theorem modTask_eq_ok {k : Kernel} {t : Nat} {f : Task → Except String Task} {tk tk' : Task}
    (h : k.tasks[t]? = some tk) (hf : f tk = .ok tk') : k.modTask t f = .ok (k.setTask t tk') := by
  simp only [Kernel.modTask, Kernel.getTask?, h, hf]

/-- the task a request updates and the `Task` transition it applies to it -/
def opFun {U : Type} (me : Nat) : {β : Type} → KOp U β → Option (Nat × (Task → Except String Task))
  | _, .block sp => some (me, (·.block sp))
  | _, .blockTask t => some (t, (·.block false))
  | _, .sleepUnlessWoken => some (me, (·.sleepUnlessWoken))
  | _, .unblock t => some (t, (·.unblock))
  | _, .wake t => some (t, (·.wake))
  | _, .park => some (me, fun tk => match tk.park with | .ok (_, tk') => .ok tk' | .error e => .error e)
  | _, .unpark t => some (t, (·.unpark))
  | _, .setWaiter t => some (t, fun tk => match tk.setWaiter me with | .ok (_, tk') => .ok tk' | .error e => .error e)
  | _, .takeWaiter => some (me, fun tk => .ok { tk with waiter := none })
  | _, .detach t => some (t, fun tk => .ok { tk with detached := true })
  | _, .updateClock c => some (me, fun tk => .ok { tk with clock := (tk.clock.increment me).update c })
  | _, .incClock => some (me, fun tk => .ok { tk with clock := tk.clock.increment me })
  | _, .joinClockOf t c => some (t, fun tk => .ok { tk with clock := tk.clock.update c })
  | _, _ => none

inductive FineStep (S : Scheduler σ) (me : Nat) :
    {β : Type} → KOp P.U β → β → ExecState P σ → ExecState P σ → Prop
  /-- neither the task table nor the continuation table changed -/
  | same {β : Type} (o : KOp P.U β) (b : β) (st st' : ExecState P σ) :
      isSwitch o = false → st'.k.tasks = st.k.tasks → st'.conts = st.conts → FineStep S me o b st st'
  /-- one `Task` transition on one task -/
  | upd {β : Type} (o : KOp P.U β) (b : β) (st : ExecState P σ) (t : Nat) (f : Task → Except String Task)
      (tk tk' : Task) : opFun me o = some (t, f) → st.k.tasks[t]? = some tk → f tk = .ok tk' →
      FineStep S me o b st { st with k := st.k.setTask t tk' }
  /-- `spawn`: the new id is the length of the task table; the body's program is appended to `conts` -/
  | spawn (st : ExecState P σ) (fut : Bool) (body : Nat) :
      FineStep S me (.spawn fut body) st.k.tasks.length st
        { st with k := (st.k.spawnTask (some me)).2, conts := st.conts ++ [P.bodies body] }

theorem FineStep.not_switch {S : Scheduler σ} {me : Nat} {β : Type} {o : KOp P.U β} {b : β}
    {st st' : ExecState P σ} (h : FineStep S me o b st st') : isSwitch o = false := by
  cases h with
  | same _ _ _ _ h0 _ _ => exact h0
  | upd _ _ _ t f tk tk' ho _ _ =>
    cases hsw : isSwitch o with
    | false => rfl
    | true =>
      unfold isSwitch at hsw
      split at hsw
      · cases ho
      · cases hsw
  | spawn _ _ _ => rfl

/-- `SegTrace` with `FineStep`s -/
inductive FineTrace (S : Scheduler σ) (me : Nat) : ExecState P σ → Prog P.U Unit → SegEnd P σ → Prop
  | fuel (st : ExecState P σ) (p : Prog P.U Unit) :
      FineTrace S me st p (.outOfFuel { st with conts := st.conts.set me p })
  | ret (st : ExecState P σ) :
      FineTrace S me st (.pure ()) (.returned { st with conts := st.conts.set me (.pure ()) })
  | retPanicking (st : ExecState P σ) (msg : String) : FineTrace S me st (.pure ()) (.panicked msg st)
  | abort (st : ExecState P σ) (msg : String) : FineTrace S me st (.panic msg) (.aborted msg st)
  | unwind (st : ExecState P σ) (msg : String) (pk : Option (Nat × String)) (apk : List (Nat × String))
      (e : SegEnd P σ) :
      FineTrace S me { st with k := { st.k with panicking := pk, alsoPanicking := apk } } (P.unwind me) e →
      FineTrace S me st (.panic msg) e
  | halt {β : Type} (o : KOp P.U β) (kont : β → Prog P.U Unit) (st : ExecState P σ) (e : SegEnd P σ) :
      SegHalt S me o kont st e → FineTrace S me st (.op o kont) e
  | step {β : Type} (o : KOp P.U β) (kont : β → Prog P.U Unit) (st st' : ExecState P σ) (b : β)
      (e : SegEnd P σ) :
      FineStep S me o b st st' → FineTrace S me st' (kont b) e → FineTrace S me st (.op o kont) e

def Fine (S : Scheduler σ) (me : Nat) (st : ExecState P σ) {β : Type} (o : KOp P.U β) : OpRes P σ β → Prop
  | .next st' b => FineStep S me o b st st'
  | .stop _ => True

/-- a request that reads and updates one task is the `Task` transition `opFun` names, with the answer dropped -/
theorem taskOp_fine (S : Scheduler σ) {me : Nat} (st : ExecState P σ) {β : Type} {o : KOp P.U β}
    {t : Nat} {g : Task → Except String Task} (ho : opFun me o = some (t, g)) (missing : String)
    (f : Task → Except String (β × Task)) (hg : ∀ tk r, f tk = .ok r → g tk = .ok r.2) :
    Fine S me st o (taskOp st t missing f) := by
  unfold taskOp
  cases htk : st.k.tasks[t]? with
  | none => trivial
  | some tk =>
    dsimp only
    cases hf : f tk with
    | error e => trivial
    | ok r => exact .upd o r.1 st t g tk r.2 ho htk (hg tk r hf)

theorem modOp_fine (S : Scheduler σ) {me : Nat} (st : ExecState P σ) {o : KOp P.U Unit}
    {t : Nat} {g : Task → Except String Task} {missing : String} (ho : opFun me o = some (t, g)) :
    Fine S me st o (modOp st t g missing) :=
  taskOp_fine S st ho _ _ fun tk r hr => by
    cases hg : g tk <;> rw [hg] at hr <;> cases hr
    rfl

theorem stepOp_fine (S : Scheduler σ) (me : Nat) (st : ExecState P σ) {β : Type} (o : KOp P.U β)
    (kont : β → Prog P.U Unit) : Fine S me st o (stepOp S me st o kont) := by
  cases o with
  | switch => trivial
  | me | getU | setU | emit | isFinished | requestYield | clock | clockOf | exitTruncates | resetSteps | ctxSwitches
  | isPanicking => exact .same _ _ _ _ rfl rfl rfl
  | block | blockTask | sleepUnlessWoken | unblock | unpark | detach | updateClock | joinClockOf =>
    exact modOp_fine S st (by rfl)
  | park | setWaiter => exact taskOp_fine S st (by rfl) _ _ fun _ _ hr => by simp only [hr]
  | takeWaiter | incClock => exact taskOp_fine S st (by rfl) _ _ fun _ _ hr => by cases hr; rfl
  | wake t =>
    show Fine S me st _ (if _ then _ else _)
    split
    · exact .same _ _ _ _ rfl rfl rfl
    · exact modOp_fine S st (by rfl)
  | rand =>
    show Fine S me st _ (match S.nextU64 st.sch with | (.ok v, s') => _ | (.error e, s') => _)
    rcases S.nextU64 st.sch with ⟨r, s'⟩
    cases r with
    | ok v => exact .same _ _ _ _ rfl rfl rfl
    | error e => trivial
  | spawn fut body =>
    show FineStep S me _ (st.k.spawnTask (some me)).1 st _
    rw [spawnTask_fst]
    exact .spawn st fut body

theorem runSegment_fineTrace (S : Scheduler σ) (me : Nat) :
    ∀ (fuel : Nat) (st : ExecState P σ) (p : Prog P.U Unit), FineTrace S me st p (runSegment S me fuel st p)
  | 0, st, p => by rw [runSegment_zero]; exact .fuel st p
  | fuel + 1, st, .pure () => by
    rw [runSegment_pure]
    split
    · split
      · exact .retPanicking st _
      · split
        · exact .retPanicking st _
        · exact .ret st
    · exact .ret st
  | fuel + 1, st, .panic msg => by
    rw [runSegment_panic]
    split
    · split
      · exact .abort st msg
      · exact .unwind st msg st.k.panicking _ _ (runSegment_fineTrace S me fuel _ (P.unwind me))
    · exact .unwind st msg _ st.k.alsoPanicking _ (runSegment_fineTrace S me fuel _ (P.unwind me))
  | fuel + 1, st, .op o kont => by
    rw [runSegment_op_eq]
    cases hr : stepOp S me st o kont with
    | next st' b =>
      have hs := stepOp_fine S me st o kont
      rw [hr] at hs
      exact .step o kont st st' b _ hs (runSegment_fineTrace S me fuel st' (kont b))
    | stop e =>
      have hs := stepOp_sound S me st o kont
      rw [hr] at hs
      exact .halt o kont st e hs

/-- `get_mut(j).unblock()` -/
def isUnblockOf {U : Type} (j : Nat) : {β : Type} → KOp U β → Bool
  | _, .unblock t => t == j
  | _, _ => false

/-- blocked by `block(false)` (join, lock, recv, scope end, …), not by `park` -/
def HardBlocked (tk : Task) : Prop := tk.state = .blocked false ∧ tk.blockedInPark = false

/-- a transition that starts with an assertion succeeds only if the assertion holds -/
theorem ok_of_ite_error {ε α : Type} {c : Prop} [Decidable c] {e : ε} {x : Except ε α} {b : α}
    (h : (if c then Except.error e else x) = .ok b) : ¬c ∧ x = .ok b := by
  split at h
  · cases h
  · exact ⟨‹_›, h⟩

/-- `Task::set_waiter` answers "do not block" only for a `Finished` target, which it leaves alone; otherwise it
records the waiter and touches nothing else -/
theorem setWaiter_ok {tk tk' : Task} {w : Nat} {b : Bool} (h : tk.setWaiter w = .ok (b, tk')) :
    (b = false ∧ tk.finished = true ∧ tk' = tk) ∨
    (b = true ∧ tk.finished = false ∧ tk' = { tk with waiter := some w }) := by
  revert h
  fun_cases Task.setWaiter tk w <;> intro h <;> cases h
  · exact .inl ⟨rfl, ‹_›, rfl⟩
  · exact .inr ⟨rfl, Bool.eq_false_iff.2 ‹_›, rfl⟩

theorem park_state_cases {tk tk' : Task} {b : Bool} (h : tk.park = .ok (b, tk')) :
    (tk'.state = tk.state ∧ tk'.blockedInPark = tk.blockedInPark) ∨ tk.finished = false := by
  obtain ⟨_, h⟩ := ok_of_ite_error h
  obtain ⟨_, h⟩ := ok_of_ite_error h
  split at h
  · cases h; exact .inl ⟨rfl, rfl⟩
  · refine .inr (Bool.eq_false_iff.2 fun hf => ?_)
    rw [show ({ tk with blockedInPark := true } : Task).block true = .error _ from if_pos hf] at h
    cases h

theorem unpark_state_cases {tk tk' : Task} (h : tk.unpark = .ok tk') :
    (tk'.state = tk.state ∧ tk'.blockedInPark = tk.blockedInPark) ∨
    (tk.finished = false ∧ tk.blockedInPark = true) := by
  revert h
  fun_cases Task.unpark tk <;> intro h
  · cases h
  · cases h
  · exact .inr ⟨Bool.eq_false_iff.2 (ok_of_ite_error h).1, ‹_›⟩
  · cases h; exact .inl ⟨rfl, rfl⟩

theorem finish_ok {tk tk' : Task} (h : tk.finish = .ok tk') : tk'.finished = true := by
  obtain ⟨_, h⟩ := ok_of_ite_error h
  cases h
  rfl

/-- **What a request can do to `state` and `blockedInPark` of the task it updates**: nothing; or the task is
not `Finished` and the request is the task's own, an `unblock`, the wake-up of a sleeper, the `unpark` of a
parked task, or a `block(false)` (which leaves `blockedInPark` alone). -/
theorem opFun_state_cases {U : Type} {me : Nat} {β : Type} {o : KOp U β} {t : Nat} {f : Task → Except String Task}
    (ho : opFun me o = some (t, f)) {tk tk' : Task} (hf : f tk = .ok tk') :
    (tk'.state = tk.state ∧ tk'.blockedInPark = tk.blockedInPark) ∨
    (tk.finished = false ∧
      (t = me ∨ isUnblockOf t o = true ∨ tk.state = .sleeping ∨ tk.blockedInPark = true ∨
        (tk'.state = .blocked false ∧ tk'.blockedInPark = tk.blockedInPark))) := by
  -- one case per alternative of `opFun`, in its order; in the last one `opFun me o` is `none`
  revert ho
  fun_cases opFun me o <;> intro ho <;> cases ho
  · -- `block`
    exact .inr ⟨Bool.eq_false_iff.2 (ok_of_ite_error hf).1, .inl rfl⟩
  · -- `blockTask`
    obtain ⟨hn, h⟩ := ok_of_ite_error hf
    cases h
    exact .inr ⟨Bool.eq_false_iff.2 hn, .inr (.inr (.inr (.inr ⟨rfl, rfl⟩)))⟩
  · -- `sleepUnlessWoken`
    dsimp only [Task.sleepUnlessWoken] at hf
    split at hf
    · cases hf; exact .inl ⟨rfl, rfl⟩
    · exact .inr ⟨Bool.eq_false_iff.2 (ok_of_ite_error hf).1, .inl rfl⟩
  · -- `unblock`
    exact .inr ⟨Bool.eq_false_iff.2 (ok_of_ite_error hf).1, .inr (.inl (beq_self_eq_true _))⟩
  · -- `wake`
    dsimp only [Task.wake] at hf
    split at hf
    · rename_i hs
      exact .inr ⟨Bool.eq_false_iff.2 (ok_of_ite_error hf).1, .inr (.inr (.inl ((Task.sleeping_iff _).1 hs)))⟩
    · cases hf; exact .inl ⟨rfl, rfl⟩
  · -- `park`
    dsimp only at hf
    cases hp : tk.park with
    | error e => rw [hp] at hf; cases hf
    | ok r =>
      rw [hp] at hf; cases hf
      exact (park_state_cases hp).imp_right fun h => ⟨h, .inl rfl⟩
  · -- `unpark`
    exact (unpark_state_cases hf).imp_right fun h => ⟨h.1, .inr (.inr (.inr (.inl h.2)))⟩
  · -- `setWaiter`
    dsimp only at hf
    cases hp : tk.setWaiter me with
    | error e => rw [hp] at hf; cases hf
    | ok r =>
      rw [hp] at hf; cases hf
      rcases setWaiter_ok hp with ⟨_, _, e⟩ | ⟨_, _, e⟩ <;> (rw [e]; exact .inl ⟨rfl, rfl⟩)
  all_goals (cases hf; exact .inl ⟨rfl, rfl⟩)

/-- a predicate on single tasks kept by what request `o` of task `me` can do to task `j`: the `Task` transition
`opFun` names, and the new clock `spawn` gives its caller -/
structure Stable (me : Nat) (j : Nat) (Q : Task → Prop) {U : Type} {β : Type} (o : KOp U β) : Prop where
  upd : ∀ t f tk tk', opFun me o = some (t, f) → t = j → Q tk → f tk = .ok tk' → Q tk'
  clock : ∀ tk c, Q tk → Q { tk with clock := c }

theorem FineStep.preserves {S : Scheduler σ} {me : Nat} {β : Type} {o : KOp P.U β} {b : β}
    {st st' : ExecState P σ} (h : FineStep S me o b st st') {j : Nat} {Q : Task → Prop}
    (hQ : Stable me j Q o) {tk : Task} (hj : st.k.tasks[j]? = some tk) (hq : Q tk) :
    ∃ tk', st'.k.tasks[j]? = some tk' ∧ Q tk' := by
  cases h with
  | same _ _ _ _ _ h1 _ => exact ⟨tk, by rw [h1]; exact hj, hq⟩
  | upd _ _ _ t f tk0 tk0' ho h1 h2 =>
    by_cases e : t = j
    · subst e
      rw [h1] at hj; cases hj
      exact ⟨tk0', List.getElem?_set_self (List.getElem?_eq_some_iff.1 h1).1, hQ.upd t f tk tk0' ho rfl hq h2⟩
    · exact ⟨tk, (List.getElem?_set_ne e).trans hj, hq⟩
  | spawn _ fut body =>
    rcases spawnTask_some_tasks st.k me with ⟨_, h2⟩ | ⟨ptk, c, h1, h2⟩
    · exact ⟨tk, by simp only [h2]; exact hj, hq⟩
    · have hjl : j < st.k.tasks.length := (List.getElem?_eq_some_iff.1 hj).1
      simp only [h2]
      rw [List.getElem?_append_left (by simpa using hjl)]
      by_cases e : me = j
      · subst e
        rw [h1] at hj; cases hj
        exact ⟨_, List.getElem?_set_self hjl, hQ.clock tk c hq⟩
      · exact ⟨tk, (List.getElem?_set_ne e).trans hj, hq⟩

theorem FineStep.conts_eq {S : Scheduler σ} {me : Nat} {β : Type} {o : KOp P.U β} {b : β}
    {st st' : ExecState P σ} (h : FineStep S me o b st st') :
    st'.conts = st.conts ∨ ∃ body, st'.conts = st.conts ++ [P.bodies body] := by
  cases h with
  | same _ _ _ _ _ _ h2 => exact .inl h2
  | upd _ _ _ t f tk0 tk0' ho h1 h2 => exact .inl rfl
  | spawn _ fut body => exact .inr ⟨body, rfl⟩

theorem untilSwitch_false (p : Prog P.U Unit) : UntilSwitch (P := P) (fun _ => false) p := by
  induction p with
  | pure a => cases a; exact .pure
  | op o k ih => exact .op o k rfl ih
  | panic m => exact .panic m

/-- a set of requests; `UntilSwitch bad p` (KernelSegment.lean): `p` issues none of them before its next `switch` -/
abbrev BadOp (P : Program) := {β : Type} → KOp P.U β → Bool

/-- If `Q` is stable under every request the program issues before its next
`switch` (and under those of the unwinding code), task `j`'s `Q` survives the segment. -/
theorem FineTrace.preserves {S : Scheduler σ} {me : Nat} {st : ExecState P σ} {p : Prog P.U Unit}
    {e : SegEnd P σ} (h : FineTrace S me st p e) {j : Nat} {Q : Task → Prop} (bad : BadOp P)
    (hstable : ∀ {β : Type} (o : KOp P.U β), bad o = false → Stable me j Q o)
    (hp : UntilSwitch (P := P) bad p) (hu : UntilSwitch (P := P) bad (P.unwind me))
    {tk : Task} (hj : st.k.tasks[j]? = some tk) (hq : Q tk) :
    ∃ tk', e.st.k.tasks[j]? = some tk' ∧ Q tk' := by
  induction h generalizing tk with
  | fuel | ret | retPanicking | abort => exact ⟨tk, hj, hq⟩
  | unwind st msg pk apk e _ ih => exact ih hu hj hq
  | halt o kont st e hh => cases hh <;> exact ⟨tk, hj, hq⟩
  | step o kont st st' b e hs _ ih =>
    cases hp with
    | switch _ =>
      have := hs.not_switch
      simp [isSwitch] at this
    | op _ _ hb hk =>
      obtain ⟨tk1, h1, q1⟩ := hs.preserves (hstable o hb) hj hq
      exact ih (hk b) h1 q1

/-- `Finished` is terminal: no request of any task takes a task out of it -/
theorem stable_finished (me j : Nat) {U : Type} {β : Type} (o : KOp U β) :
    Stable me j (fun tk => tk.finished = true) o := by
  refine ⟨fun _ _ tk tk' ho _ hq hf => ?_, fun _ _ hq => hq⟩
  rcases opFun_state_cases ho hf with ⟨hs, _⟩ | ⟨hn, _⟩
  · rw [Task.finished_iff] at hq ⊢; exact hs.trans hq
  · rw [hq] at hn; cases hn

/-- the only request of *another* task that takes `j` out of a non-spurious block is `unblock(j)` -/
theorem stable_blocked {me j : Nat} (hne : j ≠ me) {U : Type} {β : Type} (o : KOp U β)
    (hb : isUnblockOf j o = false) : Stable me j HardBlocked o := by
  refine ⟨fun t f tk tk' ho ht hq hf => ?_, fun _ _ hq => hq⟩
  subst ht
  obtain ⟨hs, hp⟩ := hq
  rcases opFun_state_cases ho hf with ⟨h1, h2⟩ | ⟨_, h | h | h | h | ⟨h1, h2⟩⟩
  · exact ⟨h1.trans hs, h2.trans hp⟩
  · exact absurd h hne
  · rw [hb] at h; cases h
  · rw [hs] at h; cases h
  · rw [hp] at h; cases h
  · exact ⟨h1, h2.trans hp⟩

/-- a segment only appends to the continuation table (`spawn`) and, at its end, stores its own continuation; the
one it stores when the closure has returned is the empty program -/
theorem FineTrace.conts {S : Scheduler σ} {me : Nat} {st : ExecState P σ} {p : Prog P.U Unit}
    {e : SegEnd P σ} (h : FineTrace S me st p e) :
    ∃ l, (∀ i, i ≠ me → e.st.conts[i]? = (st.conts ++ l)[i]?) ∧
      ∀ st', e = .returned st' → st'.conts = (st.conts ++ l).set me (.pure ()) := by
  have hset : ∀ (c : List (Prog P.U Unit)) q i, i ≠ me → (c.set me q)[i]? = (c ++ [])[i]? := fun c q i hi => by
    rw [List.append_nil]; exact List.getElem?_set_ne (Ne.symm hi)
  induction h with
  | fuel st p => exact ⟨[], hset _ _, fun _ he => nomatch he⟩
  | ret st => exact ⟨[], hset _ _, fun _ he => by cases he; rw [List.append_nil]⟩
  | retPanicking | abort => exact ⟨[], fun _ _ => by rw [List.append_nil]; rfl, fun _ he => nomatch he⟩
  | unwind st msg pk apk e _ ih => exact ih
  | halt o kont st e hh =>
    cases hh with
    | switch => exact ⟨[], hset _ _, fun _ he => nomatch he⟩
    | panicked | randFail => exact ⟨[], fun _ _ => by rw [List.append_nil]; rfl, fun _ he => nomatch he⟩
  | step o kont st st' b e hs _ ih =>
    obtain ⟨l, ih⟩ := ih
    rcases hs.conts_eq with h | ⟨body, h⟩ <;> rw [h] at ih
    · exact ⟨l, ih⟩
    · exact ⟨P.bodies body :: l, by rwa [List.append_assoc] at ih⟩

/-- shape of a continuing iteration, keeping what happens to the task that ran -/
theorem iter_fine {S : Scheduler σ} {segFuel : Nat} {st b : ExecState P σ} (hn : st.k.next = .none)
    (hc : st.conts.length = st.k.tasks.length) (h : loopStep S segFuel st = .inr b) :
    ∃ t s' p, t ∈ st.k.offered ∧ st.conts[t]? = some p ∧
      (∀ i, i ≠ t → i < st.conts.length → b.conts[i]? = st.conts[i]?) ∧
      (runSegment S t segFuel (segStart st t s') p = .atSwitch b ∨
       ∃ st' tk tk', runSegment S t segFuel (segStart st t s') p = .returned st' ∧
         st'.k.tasks[t]? = some tk ∧ tk.finish = .ok tk' ∧ b = { st' with k := st'.k.setTask t tk' }) := by
  obtain ⟨t, s', p, _, _, h3, h4, h5⟩ := (loopStep_spec S segFuel st hn hc).inr_inv h
  have hco : ∀ i, i ≠ t → i < st.conts.length →
      (runSegment S t segFuel (segStart st t s') p).st.conts[i]? = st.conts[i]? := by
    intro i hne hi
    obtain ⟨l, h, _⟩ := (runSegment_fineTrace S t segFuel (segStart st t s') p).conts
    exact (h i hne).trans (List.getElem?_append_left hi)
  refine ⟨t, s', p, h3, h4, ?_⟩
  -- `finishSeg` continues only after `atSwitch`, or after `returned` when `finish` succeeds
  generalize runSegment S t segFuel (segStart st t s') p = e at h5 hco
  revert h5
  fun_cases finishSeg t e <;> intro h5 <;> cases h5
  · exact ⟨hco, .inl rfl⟩
  · rename_i st' k' hm
    obtain ⟨tk, tk', h1, h2, rfl⟩ := modTask_ok hm
    exact ⟨hco, .inr ⟨st', tk, tk', rfl, h1, h2, rfl⟩⟩

theorem segStart_task_other (st : ExecState P σ) {t j : Nat} (s' : σ) (hne : j ≠ t) :
    (segStart st t s').k.tasks[j]? = st.k.tasks[j]? := by
  simp only [segStart, chosenK, wokenTasks]
  split
  · split
    · rfl
    · exact List.getElem?_set_ne (Ne.symm hne)
  · rfl

theorem not_offered_of_finished {k : Kernel} {j : Nat} {tk : Task} (hj : k.tasks[j]? = some tk)
    (hf : tk.finished = true) : j ∉ k.offered := by
  intro hm
  obtain ⟨tk', h1, h2⟩ := mem_offered.mp hm
  rw [hj] at h1; cases h1
  rcases h2 with h2 | h2
  · rw [Task.runnable_not_finished tk h2] at hf; cases hf
  · rw [Task.spurious_not_finished tk h2] at hf; cases hf

theorem not_offered_of_hardBlocked {k : Kernel} {j : Nat} {tk : Task} (hj : k.tasks[j]? = some tk)
    (hb : HardBlocked tk) : j ∉ k.offered := by
  intro hm
  obtain ⟨tk', h1, h2⟩ := mem_offered.mp hm
  rw [hj] at h1; cases h1
  rcases h2 with h2 | h2
  · rw [Task.runnable_iff, hb.1] at h2; cases h2
  · rw [Task.canSpuriouslyWakeup_iff, hb.1] at h2; cases h2

/-- A task `j` that the scheduler is not offered keeps a property `Q` of its
entry through a loop iteration, provided `Q` is stable under every request that the task run by the iteration
issues before its next `switch`. -/
theorem iter_preserves {S : Scheduler σ} {segFuel : Nat} {st b : ExecState P σ} (hn : st.k.next = .none)
    (hc : st.conts.length = st.k.tasks.length) (h : loopStep S segFuel st = .inr b)
    {j : Nat} {tk : Task} (hj : st.k.tasks[j]? = some tk) {Q : Task → Prop} (hq : Q tk) (hoff : j ∉ st.k.offered)
    (bad : BadOp P) (hstable : ∀ t, j ≠ t → ∀ {β : Type} (o : KOp P.U β), bad o = false → Stable t j Q o)
    (hprog : ∀ t p, t ∈ st.k.offered → st.conts[t]? = some p →
      UntilSwitch (P := P) bad p ∧ UntilSwitch (P := P) bad (P.unwind t)) :
    ∃ tk', b.k.tasks[j]? = some tk' ∧ Q tk' := by
  obtain ⟨t, s', p, ht, hp, _, hend⟩ := iter_fine hn hc h
  have hne : j ≠ t := fun e => hoff (e ▸ ht)
  obtain ⟨hp1, hp2⟩ := hprog t p ht hp
  obtain ⟨tk1, h1, q1⟩ := (runSegment_fineTrace S t segFuel (segStart st t s') p).preserves bad
    (hstable t hne) hp1 hp2 ((segStart_task_other st s' hne).trans hj) hq
  rcases hend with he | ⟨st', tk0, tk0', he, _, _, rfl⟩
  · rw [he] at h1; exact ⟨tk1, h1, q1⟩
  · rw [he] at h1
    exact ⟨tk1, (List.getElem?_set_ne (Ne.symm hne)).trans h1, q1⟩

/-- **An iteration never runs, and never changes the continuation of, a finished task; and the task stays
finished.** -/
theorem iter_finished {S : Scheduler σ} {segFuel : Nat} {st b : ExecState P σ} (hn : st.k.next = .none)
    (hc : st.conts.length = st.k.tasks.length) (h : loopStep S segFuel st = .inr b)
    {j : Nat} {tk : Task} (hj : st.k.tasks[j]? = some tk) (hf : tk.finished = true) :
    (∃ tk', b.k.tasks[j]? = some tk' ∧ tk'.finished = true) ∧ b.conts[j]? = st.conts[j]? := by
  have hoff := not_offered_of_finished hj hf
  refine ⟨iter_preserves hn hc h hj (Q := fun tk => tk.finished = true) hf hoff (fun _ => false)
    (fun t _ _ o _ => stable_finished t j o) (fun _ _ _ _ => ⟨untilSwitch_false _, untilSwitch_false _⟩), ?_⟩
  obtain ⟨t, _, _, ht, _, hco, _⟩ := iter_fine hn hc h
  exact hco j (fun e => hoff (e ▸ ht)) (hc ▸ (List.getElem?_eq_some_iff.1 hj).1)

/-- a finished task stays finished, is never run again and keeps its (empty) continuation, at every later loop
head -/
theorem reach_finished {S : Scheduler σ} {segFuel : Nat} {ms : MaxSteps} {a b : ExecState P σ}
    (hi : LoopInv ms a) (h : Reach S segFuel a b) {j : Nat} {tk : Task} (hj : a.k.tasks[j]? = some tk)
    (hf : tk.finished = true) :
    (∃ tk', b.k.tasks[j]? = some tk' ∧ tk'.finished = true) ∧ b.conts[j]? = a.conts[j]? := by
  have := h.invariant
    (fun x => LoopInv ms x ∧ (∃ tk', x.k.tasks[j]? = some tk' ∧ tk'.finished = true) ∧ x.conts[j]? = a.conts[j]?)
    (fun x y hx hs => by
      obtain ⟨hl, ⟨tk', h1, h2⟩, h3⟩ := hx
      have := iter_finished hl.next hl.conts hs h1 h2
      exact ⟨hl.step hs, this.1, this.2.trans h3⟩)
    ⟨hi, ⟨tk, hj, hf⟩, rfl⟩
  exact this.2

end ShuttleProofs.Thread

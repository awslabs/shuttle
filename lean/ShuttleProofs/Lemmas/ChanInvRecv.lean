import ShuttleProofs.Lemmas.ChanInv
/-
  C06 — the invariant is preserved by the two `recv` segments.
-/
namespace ShuttleModel.C06
open ShuttleModel

/-- taking a message frees a slot, and the acknowledgement puts a clock on `receiver_clock` for it -/
theorem rc_pop {s : ChanState} {item : Nat × Clock} {rest : List (Nat × Clock)} (mine : Clock)
    (h : ∀ k, s.bound = some k →
      ∃ l, s.receiverClock = some l ∧ (0 < k → l.length + s.messages.length = k))
    (hm : s.messages = item :: rest) (k : Nat) (hb : s.bound = some k) :
    ∃ l, ackRc s mine = some l ∧ (0 < k → l.length + rest.length = k) := by
  obtain ⟨l, hl, hlen⟩ := h k hb
  unfold ackRc
  rw [hl, hb]
  rcases k with _ | k
  · exact ⟨l, rfl, fun h => absurd h (Nat.lt_irrefl 0)⟩
  · refine ⟨l ++ [mine], rfl, fun hk => ?_⟩
    have := hlen hk
    rw [hm] at this
    simp only [List.length_cons, List.length_append, List.length_nil] at this ⊢
    omega

/-- a rendezvous buffer holds at most the one message that is taken -/
theorem rdv_pop {msgs rest : List (Nat × Clock)} {item : Nat × Clock} {P : Prop}
    (h : msgs.length ≤ 1) (hm : msgs = item :: rest) : rest.length ≤ 1 ∧ (rest ≠ [] → P) := by
  subst hm
  obtain rfl : rest = [] := List.eq_nil_of_length_eq_zero (by simpa using h)
  exact ⟨Nat.zero_le 1, fun h => absurd rfl h⟩

/-- after a pop a sender is unblocked only on a bounded channel (`k ≥ 1`: it was unblocked before,
with the buffer non-empty, or it is the head the pop has just unblocked), and a slot is free -/
theorem Inv.sub_room_pop {c : Cfg} (hi : Inv c) {item : Nat × Clock} {rest : List (Nat × Clock)}
    (hm : c.ch.messages = item :: rest) (h0 : c.ch.knownReceivers ≠ 0) {x : Nat}
    (hx : x ∈ c.ub ∨ (c.ch.waitingSenders.head? = some x ∧ ∃ b, c.ch.bound = some b ∧ 0 < b))
    (hs : x ∈ c.ch.waitingSenders) (wr' : List Nat) :
    Room { c.ch with messages := rest, waitingReceivers := wr' } := by
  intro k (hb : c.ch.bound = some k)
  have hk : 0 < k := by
    rcases hx with h | ⟨-, b, hb', hpos⟩
    · refine Nat.pos_of_ne_zero fun hk => ?_
      have := ((hi.sub_room h0 x h hs k hb).2 hk).1
      rw [hm] at this; cases this
    · rw [hb] at hb'; cases hb'; exact hpos
  obtain ⟨l, -, hl⟩ := hi.rc k hb
  have := hl hk
  rw [hm, List.length_cons] at this
  exact ⟨fun _ => show rest.length < k by omega, fun h => absurd h (Nat.ne_of_gt hk)⟩

/-- The receiver takes the first message, and nobody is left in `waiting_receivers` afterwards
(`wr'`): a `recv` that starts finds the queue empty, a woken receiver was alone in it.  `ub0` is
`ub` without that receiver. -/
theorem Inv.pop {c c' : Cfg} (hi : Inv c) {item : Nat × Clock} {rest : List (Nat × Clock)}
    (hm : c.ch.messages = item :: rest) (mine : Clock) {wr' ub0 : List Nat} (hwr' : wr' = [])
    (hub0 : ∀ x, x ∈ ub0 ↔ x ∈ c.ub ∧ x ∉ c.ch.waitingReceivers)
    (hc' : c' = { c with
      ch := { c.ch with messages := rest, receiverClock := ackRc c.ch mine, waitingReceivers := wr' }
      ub := ub0 ++ popUb { c.ch with waitingReceivers := wr' } rest
      received := c.received ++ [item.1] }) :
    GoodStep c c' := by
  subst hc'
  subst hwr'
  have hX : ∀ {x}, x ∈ popUb { c.ch with waitingReceivers := [] } rest ↔
      c.ch.waitingSenders.head? = some x ∧ ∃ b, c.ch.bound = some b ∧ 0 < b := mem_popUb rfl
  exact ⟨{ hi with
    wr_le := Nat.zero_le 1
    disj := fun _ _ h => nomatch h
    ub_sub := fun x hx => .inl <| (List.mem_append.mp hx).elim
      (fun h => (hi.ub_sub x ((hub0 x).mp h).1).resolve_right ((hub0 x).mp h).2)
      fun h => List.mem_of_mem_head? (hX.mp h).1
    unb := fun hb => ⟨(hi.unb hb).1, by show ackRc _ mine = none; unfold ackRc; rw [(hi.unb hb).2]⟩
    rc := rc_pop mine hi.rc hm
    rdv := fun hb => rdv_pop (hi.rdv hb).1 hm
    sub_head := fun h0 x hx hs => (List.mem_append.mp hx).elim
      (fun h => hi.sub_head h0 x ((hub0 x).mp h).1 hs) fun h => (hX.mp h).1
    sub_room := fun h0 x hx hs =>
      hi.sub_room_pop hm h0 ((List.mem_append.mp hx).imp (fun h => ((hub0 x).mp h).1) hX.mp) hs []
    rub := fun _ _ h => nomatch h
    wr_live := fun h => absurd rfl h
    ns_space := fun _ k hb hk _ h hh => List.mem_append_right _ (hX.mpr ⟨hh, k, hb, hk⟩)
    ns_rdv := fun _ _ _ h => absurd rfl h
    ns_msg := fun _ r hr => nomatch hr
    ns_noR := fun h0 x hx =>
      List.mem_append_left _ ((hub0 x).mpr ⟨hi.ns_noR h0 x hx, hi.disj x hx⟩)
    ns_noS := fun _ r hr => nomatch hr
    fifo := by simp [hi.fifo, hm] }, rfl, astep_pop hm⟩

theorem inv_recvStart {c c' : Cfg} {t : Nat} {cb : Bool} {mine : Clock} (hi : Inv c)
    (he : enabled c (.recvStart t cb mine)) (hf : fire c (.recvStart t cb mine) = .ok c') :
    GoodStep c c' := by
  obtain ⟨⟨s', r, e⟩, hx, rfl⟩ := map_eq_ok (fire_recvStart.symm.trans hf)
  cases recvSeg1_cases c.ch t cb mine he.2.1 with
  | disconnected _ _ heq =>
    rw [heq] at hx
    cases hx
    exact ⟨by simpa [Cfg.afterRecv] using hi, rfl, AStep.stutter _⟩
  | empty _ _ _ _ heq =>
    rw [heq] at hx
    cases hx
    exact ⟨by simpa [Cfg.afterRecv] using hi, rfl, AStep.stutter _⟩
  | queued hm hk _ e1 heq hu =>
    rw [heq] at hx
    cases hx
    rw [afterRecv_blocked, hu]
    obtain ⟨he1, he2, he3⟩ := he
    -- a rendezvous receiver that blocks invites the head sender
    have hX : ∀ x ∈ (if c.ch.bound = some 0 then c.ch.waitingSenders.head?.toList else []),
        c.ch.bound = some 0 ∧ c.ch.waitingSenders.head? = some x := fun x hx =>
      (List.mem_ite_nil_right.mp hx).imp_right Option.mem_toList.mp
    -- every unblocked task is a sender: no receiver was waiting
    have hub : ∀ x ∈ c.ub ++ (if c.ch.bound = some 0 then c.ch.waitingSenders.head?.toList else []),
        x ∈ c.ch.waitingSenders := fun x hx =>
      (List.mem_append.mp hx).elim
        (fun h => (hi.ub_sub x h).elim id fun hr => nomatch he2 ▸ hr)
        fun h => List.mem_of_mem_head? (hX x h).2
    exact ⟨{ hi with
      wr_le := Nat.le_refl 1
      disj := fun x hx h => he3 (List.mem_singleton.mp h ▸ hx)
      ub_sub := fun x hx => .inl (hub x hx)
      rdv := fun hb => ⟨(hi.rdv hb).1, fun h => absurd hm h⟩
      sub_head := fun h0 x hx hw => (List.mem_append.mp hx).elim (fun h => hi.sub_head h0 x h hw)
        fun h => (hX x h).2
      sub_room := fun h0 x hx hw k hb => ⟨fun hk => (List.mem_append.mp hx).elim
          (fun h => (hi.sub_room h0 x h hw k hb).1 hk)
          fun h => by have := (hX x h).1; rw [hb] at this; cases this; exact absurd hk (Nat.lt_irrefl 0),
        fun _ => ⟨hm, List.cons_ne_nil t []⟩⟩
      rub := fun r hr hw => absurd (hub r hr) (List.mem_singleton.mp hw ▸ he3)
      wr_live := fun _ => he1
      ns_space := fun h0 k hb hk hl h hh => List.mem_append_left _ (hi.ns_space h0 k hb hk hl h hh)
      ns_rdv := fun _ hb _ _ h hh =>
        List.mem_append_right _ (by rw [if_pos hb]; exact Option.mem_toList.mpr hh)
      ns_msg := fun h => absurd hm h
      ns_noR := fun h0 x hx => List.mem_append_left _ (hi.ns_noR h0 x hx)
      ns_noS := fun h => absurd h hk }, rfl, AStep.stutter _⟩
  | pop _ heq =>
    rw [heq] at hx
    obtain ⟨item, rest, hm, rfl, hu, rfl⟩ := recvSeg_pop_ok hx
    rw [afterRecv_ok, hu, if_neg Bool.false_ne_true]
    exact hi.pop hm mine he.2.1 (fun x => ⟨fun h => ⟨h, he.2.1 ▸ List.not_mem_nil⟩, And.left⟩) rfl

theorem inv_recvWake {c c' : Cfg} {t : Nat} {mine : Clock} (hi : Inv c)
    (_ : enabled c (.recvWake t mine)) (hf : fire c (.recvWake t mine) = .ok c') :
    GoodStep c c' := by
  obtain ⟨⟨s', r, e⟩, hx, rfl⟩ := map_eq_ok (fire_recvWake.symm.trans hf)
  cases recvSeg2_cases c.ch t mine with
  | disconnected hm hk heq =>
    rw [heq] at hx
    cases hx
    rw [afterRecv_disc_wake]
    -- no sender is left, so none is waiting
    have hws : c.ch.waitingSenders = [] := Decidable.byContradiction fun h => by
      have := hi.ws_live h
      have := hi.ks_ge
      omega
    exact ⟨{ hi with
      wr_le := Nat.le_trans (List.length_filter_le _ _) hi.wr_le
      disj := fun x hx h => hi.disj x hx (mem_filter_ne.mp h).1
      ub_sub := fun x hx =>
        have ⟨hx, hn⟩ := mem_filter_ne.mp hx
        (hi.ub_sub x hx).imp_right fun h => mem_filter_ne.mpr ⟨h, hn⟩
      rdv := fun hb => ⟨(hi.rdv hb).1, fun h => absurd hm h⟩
      sub_head := fun _ x _ hw => nomatch hws ▸ hw
      sub_room := fun _ x _ hw => nomatch hws ▸ hw
      rub := fun _ _ _ => .inr hk
      wr_live := fun h => hi.wr_live fun hw => h (by show List.filter _ _ = []; rw [hw]; rfl)
      ns_space := fun _ _ _ _ _ h hh => nomatch (hws ▸ hh : ([] : List Nat).head? = some h)
      ns_rdv := fun _ _ _ _ h hh => nomatch (hws ▸ hh : ([] : List Nat).head? = some h)
      ns_msg := fun h => absurd hm h
      ns_noR := fun _ x hx => nomatch hws ▸ hx
      ns_noS := fun h r hr =>
        have ⟨hr, hn⟩ := mem_filter_ne.mp hr
        mem_filter_ne.mpr ⟨hi.ns_noS h r hr, hn⟩ }, rfl, AStep.stutter _⟩
  | pop _ wrest hw heq =>
    -- woken for a message: it was the only receiver waiting
    rw [heq] at hx
    obtain ⟨item, rest, hm, rfl, hu, rfl⟩ := recvSeg_pop_ok hx
    rw [afterRecv_ok, hu, if_pos rfl]
    obtain rfl : wrest = [] := List.eq_nil_of_length_eq_zero (by
      have := hi.wr_le
      rw [hw, List.length_cons] at this
      omega)
    exact hi.pop hm mine rfl (fun x => by rw [hw, mem_filter_ne, List.mem_singleton]) rfl
  | panic _ _ p heq =>
    rw [heq] at hx
    cases hx

end ShuttleModel.C06

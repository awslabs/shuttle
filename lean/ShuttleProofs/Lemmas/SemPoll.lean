import ShuttleProofs.Lemmas.SemLts
/-
  `SemState.pollPure` (the atomic part of `Acquire::poll`): the ways it can return (`PollCase`), and,
  in one pass over them (`pollPure_spec`), that each preserves the invariant, hands out exactly the
  requested permits, lets the queue grow at the back only, and what it records in the waiter
  (`PollFacts`).
-/
namespace ShuttleModel
namespace SemLts
open Sem (PollOut)

/-- the waiter as `poll` sees it (`never_polled := false`) -/
def polled (w0 : Waiter) : Waiter := { w0 with neverPolled := false }
/-- … once its `Acquire` (not the task) has completed without taking permits now -/
def finishedW (w0 : Waiter) : Waiter := { polled w0 with completed := true }
/-- … once `poll` has taken the permits itself -/
def gotW (w : Waiter) : Waiter := { w with hasPermits := true, completed := true, neverPolled := false }
/-- … registered (again) for task `me` with waker `cx` -/
def waitW (w0 : Waiter) (me cx : Nat) : Waiter := { polled w0 with waker := some cx, taskId := me }
/-- … newly enqueued -/
def enqW (w0 : Waiter) (me cx : Nat) : Waiter :=
  { polled w0 with waker := some cx, taskId := me, isQueued := true }
/-- … taken out of the queue by `remove_waiter` -/
def unqW (w : Waiter) : Waiter := { w with isQueued := false }

section fields
variable (w : Waiter) (me cx : Nat)
@[simp] theorem polled_wid : (polled w).wid = w.wid := rfl
@[simp] theorem polled_n : (polled w).n = w.n := rfl
@[simp] theorem polled_isQueued : (polled w).isQueued = w.isQueued := rfl
@[simp] theorem polled_hasPermits : (polled w).hasPermits = w.hasPermits := rfl
@[simp] theorem polled_completed : (polled w).completed = w.completed := rfl
@[simp] theorem polled_waker : (polled w).waker = w.waker := rfl
@[simp] theorem polled_taskId : (polled w).taskId = w.taskId := rfl
@[simp] theorem finishedW_wid : (finishedW w).wid = w.wid := rfl
@[simp] theorem finishedW_n : (finishedW w).n = w.n := rfl
@[simp] theorem finishedW_isQueued : (finishedW w).isQueued = w.isQueued := rfl
@[simp] theorem finishedW_hasPermits : (finishedW w).hasPermits = w.hasPermits := rfl
@[simp] theorem finishedW_completed : (finishedW w).completed = true := rfl
@[simp] theorem gotW_wid : (gotW w).wid = w.wid := rfl
@[simp] theorem gotW_n : (gotW w).n = w.n := rfl
@[simp] theorem gotW_isQueued : (gotW w).isQueued = w.isQueued := rfl
@[simp] theorem gotW_hasPermits : (gotW w).hasPermits = true := rfl
@[simp] theorem gotW_completed : (gotW w).completed = true := rfl
@[simp] theorem gotW_taskId : (gotW w).taskId = w.taskId := rfl
@[simp] theorem waitW_wid : (waitW w me cx).wid = w.wid := rfl
@[simp] theorem waitW_n : (waitW w me cx).n = w.n := rfl
@[simp] theorem waitW_isQueued : (waitW w me cx).isQueued = w.isQueued := rfl
@[simp] theorem waitW_hasPermits : (waitW w me cx).hasPermits = w.hasPermits := rfl
@[simp] theorem waitW_completed : (waitW w me cx).completed = w.completed := rfl
@[simp] theorem waitW_waker : (waitW w me cx).waker = some cx := rfl
@[simp] theorem waitW_taskId : (waitW w me cx).taskId = me := rfl
@[simp] theorem enqW_wid : (enqW w me cx).wid = w.wid := rfl
@[simp] theorem enqW_n : (enqW w me cx).n = w.n := rfl
@[simp] theorem enqW_isQueued : (enqW w me cx).isQueued = true := rfl
@[simp] theorem enqW_hasPermits : (enqW w me cx).hasPermits = w.hasPermits := rfl
@[simp] theorem enqW_completed : (enqW w me cx).completed = w.completed := rfl
@[simp] theorem enqW_waker : (enqW w me cx).waker = some cx := rfl
@[simp] theorem enqW_taskId : (enqW w me cx).taskId = me := rfl
@[simp] theorem unqW_wid : (unqW w).wid = w.wid := rfl
@[simp] theorem unqW_n : (unqW w).n = w.n := rfl
@[simp] theorem unqW_isQueued : (unqW w).isQueued = false := rfl
@[simp] theorem unqW_hasPermits : (unqW w).hasPermits = w.hasPermits := rfl
@[simp] theorem unqW_completed : (unqW w).completed = w.completed := rfl
@[simp] theorem unqW_taskId : (unqW w).taskId = w.taskId := rfl
@[simp] theorem unqW_waker : (unqW w).waker = w.waker := rfl
end fields

inductive PollCase (s : SemState) (wid me cx : Nat) (clk : Clock) (fin : Nat → Bool) (w0 : Waiter)
    (o : PollOut) : Prop
  /-- the permits had been granted by a `release` (or a cancellation) before -/
  | granted (hp : w0.hasPermits = true) (hq : w0.isQueued = false)
      (ho : o = { s := s.setW (finishedW w0), res := .ready true })
  /-- the semaphore is closed -/
  | closed (hp : w0.hasPermits = false) (hc : s.closed = true) (hq : w0.isQueued = false)
      (ho : o = { s := s.setW (finishedW w0), res := .ready false })
  /-- `acquire_permits` succeeded for a waiter that is not queued -/
  | acquiredFresh (hp : w0.hasPermits = false) (hc : s.closed = false) (hq : w0.isQueued = false)
      (s' : SemState) (pc : Clock) (hacq : s.acquirePermits w0.n clk = .ok (.ok (s', pc)))
      (ho : o = { s := (s'.setW (polled w0)).setW (gotW (polled w0)),
                  res := .ready true, pc := some pc,
                  effs := ((s'.setW (polled w0)).setW (gotW (polled w0))).reblockEffs fin })
  /-- `acquire_permits` succeeded for a queued waiter (unfair semaphores only) -/
  | acquiredQueued (hp : w0.hasPermits = false) (hc : s.closed = false) (hq : w0.isQueued = true)
      (hf : s.fair = false) (hwk : w0.waker.isSome = true)
      (s' s3 : SemState) (pc : Clock) (effs : List Eff) (w4 : Waiter)
      (hacq : s.acquirePermits w0.n clk = .ok (.ok (s', pc)))
      (hrm : (s'.setW (polled w0)).removeWaiterPure fin wid = .ok (s3, effs))
      (hw4 : s3.getW wid = some w4)
      (ho : o = { s := s3.setW (gotW w4), res := .ready true, pc := some pc,
                  effs := effs ++ (s3.setW (gotW w4)).reblockEffs fin })
  /-- not enough permits (or, fair, somebody queued): the waiter is appended to the queue -/
  | enqueued (hp : w0.hasPermits = false) (hc : s.closed = false) (hq : w0.isQueued = false)
      (hwk : w0.waker.isSome = false)
      (hacq : s.acquirePermits w0.n clk = .ok (.error .noPermits))
      (ho : o = { s := ({ s with queue := s.queue ++ [wid] }).setW (enqW w0 me cx), res := .pending })
  /-- an unfair waiter polled again without enough permits: stays where it is -/
  | stillQueued (hp : w0.hasPermits = false) (hc : s.closed = false) (hq : w0.isQueued = true)
      (hf : s.fair = false) (hwk : w0.waker.isSome = true)
      (hacq : s.acquirePermits w0.n clk = .ok (.error .noPermits))
      (ho : o = { s := s.setW (waitW w0 me cx), res := .pending })
  /-- a queued waiter of a fair semaphore does not try: it only refreshes its waker / task -/
  | fairWait (hp : w0.hasPermits = false) (hc : s.closed = false) (hq : w0.isQueued = true)
      (hf : s.fair = true) (hwk : w0.waker.isSome = true)
      (ho : o = { s := s.setW (waitW w0 me cx), res := .pending })

theorem pollPure_cases {s : SemState} {wid me cx : Nat} {clk : Clock} {fin : Nat → Bool}
    {w0 : Waiter} {o : PollOut} (hw : s.getW wid = some w0)
    (h : s.pollPure wid me cx clk fin = .ok o) : PollCase s wid me cx clk fin w0 o := by
  have same : ∀ {w}, s.getW wid = some w → w = w0 := fun h => Option.some.inj (h.symm.trans hw)
  revert h
  fun_cases SemState.pollPure s wid me cx clk fin
  -- branches in the order of `pollPure`'s text; `.ok`: `case3`, `case5` before the attempt to
  -- acquire, `case10`–`case12` after it, `case14` without one; the others return `.error`
  case case1 | case2 | case4 | case6 | case7 | case8 | case9 | case13 => nofun
  case case3 w h _ hp hq =>
    cases same h; intro h; cases h
    exact .granted hp (Bool.eq_false_iff.mpr hq) rfl
  case case5 w h _ hp hc hq =>
    cases same h; intro h; cases h
    exact .closed (Bool.eq_false_iff.mpr hp) hc (Bool.eq_false_iff.mpr hq) rfl
  case case10 w h wp hp hc hqw hfq s' pc hacq s1 s3 effs hrm w4 hw4 s5 =>
    cases same h; intro h; cases h
    have hqw : w0.isQueued = w0.waker.isSome := by simpa [wp] using hqw
    cases hq : w0.isQueued
    · -- not queued: `s3` is `s1`, whose entry for `wid` is `polled w0`
      obtain ⟨rfl, rfl⟩ := Prod.mk.inj (Except.ok.inj ((if_neg (Bool.eq_false_iff.mp hq)).symm.trans hrm))
      have hg : s1.getW wid = some (polled w0) :=
        getW_setW_of (w1 := polled w0) (by
          rw [getW_eq, (acquirePermits_frame hacq).1.table]; exact hw)
          (tget_some_mem hw).2
      cases hg.symm.trans hw4
      exact .acquiredFresh (Bool.eq_false_iff.mpr hp) (Bool.eq_false_iff.mpr hc) hq s' pc hacq rfl
    · exact .acquiredQueued (Bool.eq_false_iff.mpr hp) (Bool.eq_false_iff.mpr hc) hq
        (by simpa [wp, hq] using hfq) (hqw ▸ hq) s' s3 pc effs w4 hacq
        ((if_pos hq).symm.trans hrm) hw4 rfl
  case case11 w h wp hp hc hqw hfq hacq w' hq =>
    cases same h; intro h; cases h
    have hqw : w0.isQueued = w0.waker.isSome := by simpa [wp] using hqw
    have hq : w0.isQueued = false := by simpa [wp] using hq
    exact .enqueued (Bool.eq_false_iff.mpr hp) (Bool.eq_false_iff.mpr hc) hq (hqw ▸ hq) hacq rfl
  case case12 w h wp hp hc hqw hfq hacq w' hq =>
    cases same h; intro h; cases h
    have hqw : w0.isQueued = w0.waker.isSome := by simpa [wp] using hqw
    have hq : w0.isQueued = true := by simpa [wp] using hq
    exact .stillQueued (Bool.eq_false_iff.mpr hp) (Bool.eq_false_iff.mpr hc) hq
      (by simpa [wp, hq] using hfq) (hqw ▸ hq) hacq rfl
  case case14 w h wp hp hc hqw hfq =>
    cases same h; intro h; cases h
    have hqw : w0.isQueued = w0.waker.isSome := by simpa [wp] using hqw
    have hfq : s.fair = true ∧ w0.isQueued = true := by simpa [wp] using hfq
    exact .fairWait (Bool.eq_false_iff.mpr hp) (Bool.eq_false_iff.mpr hc) hfq.2 hfq.1 (hqw ▸ hfq.2) rfl

theorem wpend_zero {w : Waiter} (h : w.hasPermits = false ∨ w.completed = true) : wpend w = 0 := by
  rcases h with h | h <;> simp [wpend, h]

theorem wpend_full {w : Waiter} (h1 : w.hasPermits = true) (h2 : w.completed = false) : wpend w = w.n := by
  simp [wpend, h1, h2]

theorem HeadBlocked.setW {s : SemState} {w0 w1 : Waiter} (h : HeadBlocked s)
    (hw : s.getW w1.wid = some w0) (hn : w1.n = w0.n) : HeadBlocked (s.setW w1) := by
  intro wid0 rest w hq hg
  by_cases e : wid0 = w1.wid
  · subst e
    cases (getW_setW_of hw rfl).symm.trans hg
    exact hn ▸ h _ rest w0 hq hw
  · exact h wid0 rest w hq ((getW_setW_ne e).symm.trans hg)

/-- `ha`, `hb`: the caller passes the evaluated `wpend`s, so that `omega` can use the balance -/
theorem Inv.setW_same {s : SemState} {w0 w1 : Waiter} (hi : Inv s)
    (hw : s.getW w1.wid = some w0) (hq : w1.isQueued = w0.isQueued) (hn : w1.n = w0.n)
    (hok : w1.isQueued = true → QueuedOk w1)
    {a b : Nat} (ha : wpend w0 = a) (hb : wpend w1 = b) :
    Inv (s.setW w1) ∧ pend (s.setW w1).table + a = pend s.table + b := by
  refine ⟨⟨hi.tq.tset_same hw hq hok, hi.batch, hi.closedEmpty,
    fun hf => (hi.headBlocked hf).setW hw hn⟩, ?_⟩
  rw [← ha, ← hb]
  exact pend_tset hi.tq.nodupT hw

/-- `acquire_permits` for the waiter's own amount, then marking it polled: the common first part of
the two branches of `poll` that take the permits now -/
theorem acquirePermits_polled {s s' : SemState} {wid : Nat} {w0 : Waiter} {c pc : Clock} (hi : Inv s)
    (hw : s.getW wid = some w0) (hacq : s.acquirePermits w0.n c = .ok (.ok (s', pc))) :
    Inv (s'.setW (polled w0)) ∧ (s'.setW (polled w0)).getW wid = some (polled w0) ∧
      pend (s'.setW (polled w0)).table = pend s.table := by
  have i1 := (acquirePermits_inv hi hacq).1
  have ht := (acquirePermits_frame hacq).1.table
  have hwid : w0.wid = wid := (tget_some_mem hw).2
  have hw1 : s'.getW (polled w0).wid = some w0 := by rw [getW_eq, ht, polled_wid, hwid]; exact hw
  obtain ⟨i2, p2⟩ := i1.setW_same (w1 := polled w0) (a := wpend w0) (b := wpend w0) hw1 rfl rfl
    (hi.tq.queuedOk w0 (tget_some_mem hw).1) rfl rfl
  refine ⟨i2, ?_, by rw [← ht]; omega⟩
  have := getW_setW_of hw1 rfl
  rwa [polled_wid, hwid] at this

theorem HeadBlocked.enqueue {s : SemState} {w0 w1 : Waiter} {wid : Nat} (hi : Inv s) (hf : s.fair = true)
    (hw : s.getW wid = some w0) (hq : w0.isQueued = false) (hwid : w1.wid = wid) (hn : w1.n = w0.n)
    (hfit : s.queue = [] → s.avail < w0.n) :
    HeadBlocked (({ s with queue := s.queue ++ [wid] }).setW w1) := by
  intro wid0 rest w hq0 hg
  have hq0 : s.queue ++ [wid] = wid0 :: rest := hq0
  have hnotin : wid ∉ s.queue := hi.tq.not_mem_of_tget hw hq
  cases hqs : s.queue with
  | nil =>
    -- the new waiter is the head: it was enqueued because it does not fit
    obtain ⟨rfl, _⟩ := List.cons.inj (hqs ▸ hq0)
    cases (getW_setW_of (s := { s with queue := s.queue ++ [wid] }) hw hwid).symm.trans hg
    exact hn ▸ hfit hqs
  | cons hd tl =>
    obtain ⟨rfl, _⟩ := List.cons.inj (hqs ▸ hq0)
    have hne : hd ≠ wid := fun e => hnotin (hqs ▸ e ▸ List.mem_cons_self ..)
    exact hi.headBlocked hf hd tl w hqs ((getW_setW_ne (hwid ▸ hne)).symm.trans hg)

/-- `q'` is obtained from `q` by deleting entries and appending at most one new id at the back:
relative order of the survivors is kept (FIFO), nobody is inserted in front of a queued waiter -/
def QueueEvolves (q q' : List Nat) : Prop :=
  ∃ back, back.length ≤ 1 ∧ q'.Sublist (q ++ back) ∧ ∀ x ∈ back, x ∉ q

theorem QueueEvolves.refl (q : List Nat) : QueueEvolves q q :=
  ⟨[], by simp, by simp, by simp⟩

theorem QueueEvolves.of_sublist {q q' : List Nat} (h : q'.Sublist q) : QueueEvolves q q' :=
  ⟨[], by simp, by simpa using h, by simp⟩

structure PollFacts (s : SemState) (wid me cx : Nat) (w0 : Waiter) (o : PollOut) : Prop where
  /-- `Ready(Ok)`: either the permits had been granted before (then `avail` is untouched), or the
  poll takes exactly `w0.n` permits now — which needs an open semaphore and, if fair, an empty queue -/
  readyOk : o.res = .ready true →
    (w0.hasPermits = true ∧ o.s.avail = s.avail) ∨
    (w0.hasPermits = false ∧ o.s.avail + w0.n = s.avail ∧ s.closed = false ∧ 0 < w0.n ∧
      (s.fair = true → s.queue = []))
  otherwise : o.res ≠ .ready true → o.s.avail = s.avail
  readyErr : o.res = .ready false ↔ (w0.hasPermits = false ∧ s.closed = true)
  pending : o.res = .pending →
    ∃ w', o.s.getW wid = some w' ∧ w'.isQueued = true ∧ w'.taskId = me ∧ w'.waker = some cx ∧
      w'.n = w0.n ∧ w'.hasPermits = false ∧ wid ∈ o.s.queue
  ready : ∀ b, o.res = .ready b →
    ∃ w', o.s.getW wid = some w' ∧ w'.isQueued = false ∧ w'.completed = true ∧ wid ∉ o.s.queue

structure PollSpec (s : SemState) (wid me cx : Nat) (w0 : Waiter) (o : PollOut) : Prop where
  inv : Inv o.s
  cons : o.s.avail + pend o.s.table + (if o.res = .ready true then w0.n else 0)
    = s.avail + pend s.table
  queue : QueueEvolves s.queue o.s.queue
  facts : PollFacts s wid me cx w0 o

theorem pollPure_spec {s : SemState} {wid me cx : Nat} {clk : Clock} {fin : Nat → Bool}
    {w0 : Waiter} {o : PollOut} (hi : Inv s) (hw : s.getW wid = some w0)
    (hnc : w0.completed = false) (h : s.pollPure wid me cx clk fin = .ok o) :
    PollSpec s wid me cx w0 o := by
  have hwid : w0.wid = wid := (tget_some_mem hw).2
  have hw' : s.getW w0.wid = some w0 := by rw [hwid]; exact hw
  have hnotq : w0.isQueued = false → wid ∉ s.queue := hi.tq.not_mem_of_tget hw
  cases pollPure_cases hw h with
  | granted hp hq ho =>
    subst ho
    obtain ⟨h1, h2⟩ := hi.setW_same (w1 := finishedW w0) hw' rfl rfl
      (by intro hq'; simp [hq] at hq') (wpend_full hp hnc) (wpend_zero (Or.inr rfl))
    refine {
      inv := h1
      cons := ?_
      queue := .refl _
      facts := {
        readyOk := fun _ => .inl ⟨hp, rfl⟩
        otherwise := fun h => absurd rfl h
        readyErr := by simp [hp]
        pending := fun h => by cases h
        ready := fun b _ => ⟨finishedW w0, getW_setW_of hw hwid, hq, rfl, hnotq hq⟩ } }
    simp only [setW_avail, if_true] at h2 ⊢
    omega
  | closed hp hc hq ho =>
    subst ho
    obtain ⟨h1, h2⟩ := hi.setW_same (w1 := finishedW w0) hw' rfl rfl
      (by intro hq'; simp [hq] at hq') (wpend_zero (Or.inl hp)) (wpend_zero (Or.inr rfl))
    refine {
      inv := h1
      cons := ?_
      queue := .refl _
      facts := {
        readyOk := fun h => by simp at h
        otherwise := fun _ => rfl
        readyErr := by simp [hp, hc]
        pending := fun h => by cases h
        ready := fun b _ => ⟨finishedW w0, getW_setW_of hw hwid, hq, rfl, hnotq hq⟩ } }
    simp only [setW_avail, PollRes.ready.injEq, Bool.false_eq_true, if_false] at h2 ⊢
    omega
  | acquiredFresh hp hc hq s' pc hacq ho =>
    subst ho
    obtain ⟨i2, hg, p2⟩ := acquirePermits_polled hi hw hacq
    obtain ⟨fr, hav⟩ := acquirePermits_frame hacq
    obtain ⟨hn0, _, hqe, _⟩ := acquirePermits_ok hacq
    obtain ⟨i3, p3⟩ := i2.setW_same (w0 := polled w0) (w1 := gotW (polled w0))
      (by rw [gotW_wid, polled_wid, hwid]; exact hg) rfl rfl
      (by intro hq'; simp [hq] at hq') (wpend_zero (Or.inl hp)) (wpend_zero (Or.inr rfl))
    refine {
      inv := i3
      cons := ?_
      queue := by simp only [setW_queue, fr.queue]; exact .refl _
      facts := {
        readyOk := fun _ =>
          .inr ⟨hp, by simpa using hav, hc, hn0, fun hf => hqe.resolve_right (by simp [hf])⟩
        otherwise := fun h => absurd rfl h
        readyErr := by simp [hc]
        pending := fun h => by cases h
        ready := fun b _ => ⟨gotW (polled w0), getW_setW_of hg hwid, hq, rfl,
          by simp only [setW_queue, fr.queue]; exact hnotq hq⟩ } }
    simp only [setW_avail, setW_table, if_true] at p2 p3 ⊢
    omega
  | acquiredQueued hp hc hq hf hwk s' s3 pc effs w4 hacq hrm hw4 ho =>
    subst ho
    obtain ⟨i2, hg, p2⟩ := acquirePermits_polled hi hw hacq
    obtain ⟨fr, hav⟩ := acquirePermits_frame hacq
    obtain ⟨w, hgw, _, rs⟩ := removeWaiterPure_spec fin i2 hrm
    rw [hg] at hgw
    cases hgw
    have hw4' : s3.getW wid = some (unqW (polled w0)) := rs.getW
    rw [hw4] at hw4'
    cases hw4'
    obtain ⟨i3, p3⟩ := rs.inv.setW_same (w0 := unqW (polled w0)) (w1 := gotW (unqW (polled w0)))
      (by simpa [hwid] using hw4) rfl rfl
      (by intro hq'; simp at hq') (wpend_zero (Or.inl hp)) (wpend_zero (Or.inr rfl))
    have hun := rs.unfair (by simp only [setW_fair, fr.fair]; exact hf)
    refine {
      inv := i3
      cons := ?_
      queue := .of_sublist (by simpa only [setW_queue, fr.queue] using rs.queueSub)
      facts := {
        readyOk := fun _ => .inr ⟨hp, by simp only [setW_avail] at hun ⊢; omega, hc,
          (acquirePermits_ok hacq).1, fun h => by rw [hf] at h; cases h⟩
        otherwise := fun h => absurd rfl h
        readyErr := by simp [hc]
        pending := fun h => by cases h
        ready := fun b _ => ⟨_, getW_setW_of hw4 (by simp [hwid]), rfl, rfl, rs.notQueued⟩ } }
    have c := rs.cons
    simp only [setW_avail, setW_table, if_true] at p2 p3 c ⊢
    omega
  | enqueued hp hc hq hwk hacq ho =>
    subst ho
    obtain ⟨hn0, _, hnp⟩ := acquirePermits_noPermits hacq
    have htq := hi.tq.push (w := w0) (w' := enqW w0 me cx) hw' hq rfl ⟨hp, hnc, rfl, hn0⟩
    have hp2 := pend_tset hi.tq.nodupT (w := enqW w0 me cx) (old := w0) hw'
    rw [wpend_zero (w := w0) (Or.inl hp), wpend_zero (w := enqW w0 me cx) (Or.inl hp)] at hp2
    refine {
      inv := {
        tq := ?_
        batch := hi.batch
        closedEmpty := fun hcl => by cases hc.symm.trans hcl
        headBlocked := fun hf => ?_ }
      cons := ?_
      queue := ⟨[wid], by simp, by simp [SemState.setW], fun x hx hin => ?_⟩
      facts := {
        readyOk := fun h => by cases h
        otherwise := fun _ => rfl
        readyErr := by simp [hc]
        pending := fun _ => ⟨enqW w0 me cx,
          getW_setW_of (s := { s with queue := s.queue ++ [wid] }) hw hwid, rfl, rfl, rfl, rfl, hp,
          by simp [SemState.setW]⟩
        ready := fun b h => by cases h } }
    · rw [enqW_wid, hwid] at htq; exact htq
    · exact HeadBlocked.enqueue hi hf hw hq hwid rfl fun hqe => hnp.elim (fun h => absurd hqe h.1) id
    · show s.avail + pend (tset s.table (enqW w0 me cx)) + 0 = _
      omega
    · rw [List.mem_singleton.mp hx] at hin
      exact hnotq hq hin
  | stillQueued hp hc hq hf hwk _ ho | fairWait hp hc hq hf hwk ho =>
    subst ho
    have hq0 := hi.tq.queuedOk w0 (tget_some_mem hw).1 hq
    obtain ⟨h1, h2⟩ := hi.setW_same (w1 := waitW w0 me cx) hw' rfl rfl
      (by intro _; exact ⟨hp, hnc, rfl, hq0.2.2.2⟩) (wpend_zero (Or.inl hp)) (wpend_zero (Or.inl hp))
    refine {
      inv := h1
      cons := ?_
      queue := .refl _
      facts := {
        readyOk := fun h => by cases h
        otherwise := fun _ => rfl
        readyErr := by simp [hc]
        pending := fun _ => ⟨waitW w0 me cx, getW_setW_of hw hwid, hq, rfl, rfl, rfl, hp,
          (hi.tq.queued_of_tget hw).mp hq⟩
        ready := fun b h => by cases h } }
    simp only [setW_avail, reduceCtorEq, if_false] at h2 ⊢
    omega

end SemLts
end ShuttleModel

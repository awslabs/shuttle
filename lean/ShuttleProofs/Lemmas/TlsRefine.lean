import ShuttleModel.Lang
import ShuttleProofs.Lemmas.Storage
/-!
# Lang.lean's thread-local fields (`Local.tlsSlots`, `Local.tlsOrder`) refine `Storage.StorageMap`

`tlsTryWith` / `tlsPopLoop` (Lang.lean) manipulate a task's TLS as two lists.  Here: the `StorageMap Unit` those
lists denote (values are `()`: the harness's thread-local values carry no data, only a destructor) and the data
steps of the two programs; `C07.tls_model_refines_storage` shows that the steps are `Storage.tryWith` /
`Storage.pop` on that map.
-/

namespace ShuttleProofs.TlsRefine
open ShuttleModel ShuttleModel.Storage ShuttleModel.Storage.StorageMap

/-- the object's index stands for the address of the `LocalKey`; the type tag (0x1 in task/mod.rs:810) only has to be
the same for all thread-locals -/
def key (oi : Nat) : StorageKey := ⟨oi, 0⟩

/-- the `StorageMap` denoted by a task's TLS fields -/
def toStorage (l : Local) : StorageMap Unit :=
  { locals := l.tlsSlots.map (fun p => (key p.1, if p.2 then some () else none)),
    order := l.tlsOrder.map key }

/-- the data step of `tlsTryWith`: result string and new TLS fields -/
def tlsAccess (l : Local) (oi : Nat) : String × Local :=
  match l.tlsSlots.find? (·.1 == oi) with
  | some (_, true) => ("seen", l)
  | some (_, false) => ("destroyed", l)
  | none => ("init", { l with tlsSlots := l.tlsSlots ++ [(oi, true)], tlsOrder := l.tlsOrder ++ [oi] })

/-- the data step of one round of `tlsPopLoop` -/
def tlsPopStep (l : Local) : Option (Nat × Local) :=
  match l.tlsOrder with
  | [] => none
  | k :: rest =>
    some (k, { l with tlsOrder := rest,
                      tlsSlots := l.tlsSlots.map (fun p => if p.1 == k then (k, false) else p) })

theorem key_beq (a b : Nat) : (key a == key b) = (a == b) := by
  rw [Bool.eq_iff_iff]; simp [key]

theorem lookup_toStorage (l : Local) (oi : Nat) :
    (toStorage l).lookup (key oi) =
      (l.tlsSlots.find? (·.1 == oi)).map (fun p => if p.2 then some () else none) := by
  simp only [lookup, toStorage, List.find?_map, Option.map_map, Function.comp_def, key_beq]

end ShuttleProofs.TlsRefine

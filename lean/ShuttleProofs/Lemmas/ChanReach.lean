import ShuttleProofs.Lemmas.ChanInvSend
import ShuttleProofs.Lemmas.ChanInvRecv
/-
  C06 — every reachable configuration satisfies the invariant, the channel keeps its bound, and every
  transition is a transition (or a stutter) of the abstract bounded FIFO `AStep` under `abs`.
-/
namespace ShuttleModel.C06
open ShuttleModel

theorem inv_step {c c' : Cfg} {l : Label} (hi : Inv c) (he : enabled c l) (hf : fire c l = .ok c') :
    GoodStep c c' := by
  cases l with
  | sendStart t v cb clk => exact inv_sendStart hi he hf
  | sendWake t clk => exact inv_sendWake hi he hf
  | recvStart t cb mine => exact inv_recvStart hi he hf
  | recvWake t mine => exact inv_recvWake hi he hf
  | cloneS => exact inv_clone hi he hf
  | dropS stop => exact inv_dropS hi he hf
  | dropR stop => exact inv_dropR hi he hf

theorem reachable_inv_bound {b : Option Nat} {c : Cfg} (h : Reachable b c) :
    Inv c ∧ c.ch.bound = b := by
  induction h with
  | init => exact ⟨inv_init b, rfl⟩
  | step l _ he hf ih => exact ⟨(inv_step ih.1 he hf).inv, (inv_step ih.1 he hf).bound_eq.trans ih.2⟩

theorem reachable_inv {b : Option Nat} {c : Cfg} (h : Reachable b c) : Inv c :=
  (reachable_inv_bound h).1

theorem reachable_bound {b : Option Nat} {c : Cfg} (h : Reachable b c) : c.ch.bound = b :=
  (reachable_inv_bound h).2

end ShuttleModel.C06

/-
  What a successful rejection loop of rand 0.8 (`UniformInt::sample_single_inclusive`) returns: it ends with an
  accepted draw, and an accepted draw yields `low.wrapping_add(hi)` with `hi < range`. The two results are the
  two halves of `ShuttleProofs.Pct.SampleLoopsInRange`; this file imports no Mathlib, as the PCT modules do not.
-/
import ShuttleModel.Rng

namespace ShuttleProofs.Rng
open ShuttleModel.Rng

theorem wmulStep_lt {B n zone v i : Nat} (hn : 0 < n) (hv : v < B)
    (h : wmulStep B n zone v = some i) : i < n := by
  unfold wmulStep at h
  simp only [Option.ite_none_right_eq_some, Option.some.injEq] at h
  obtain ⟨_, rfl⟩ := h
  rw [Nat.div_lt_iff_lt_mul (Nat.zero_lt_of_lt hv), Nat.mul_comm n B]
  exact (Nat.mul_lt_mul_right hn).2 hv

-- The PCG arithmetic is never unfolded below.
attribute [local irreducible] ShuttleModel.Rng.nextU64

theorem nextU32_fst (g : Pcg) : (nextU32 g).1 = (nextU64 g).1 % two32 := by
  unfold nextU32; rfl

theorem nextU32_snd (g : Pcg) : (nextU32 g).2 = (nextU64 g).2 := by
  unfold nextU32; rfl

theorem nextU32_lt (g : Pcg) : (nextU32 g).1 < two32 := by
  rw [nextU32_fst]
  exact Nat.mod_lt _ (by decide)

theorem nextU64_lt (g : Pcg) : (nextU64 g).1 < two64 := by
  simp only [nextU64, outputXslRr, rotr64]
  exact Nat.mod_lt _ (by decide)

theorem retryLoop_some_elim {α : Type} {body : Pcg → Option α × Pcg} :
    ∀ (fuel : Nat) (g : Pcg) (a : α) (g' : Pcg),
      retryLoop body fuel g = some (a, g') → ∃ g0, body g0 = (some a, g') := by
  intro fuel g a g'
  fun_induction retryLoop body fuel g <;> intro h
  case case1 => cases h
  case case2 haccept => cases h; exact ⟨_, haccept⟩
  case case3 ih => exact ih h

/-- what a loop body `sampleBody32/64` returns when it accepts the draw `v` -/
theorem wmulStep_map_in_range {B range zone low v r : Nat} (hr : 0 < range) (hv : v < B)
    (h : (wmulStep B range zone v).map (fun hi => (low + hi) % B) = some r) :
    ∃ hi, hi < range ∧ r = (low + hi) % B := by
  obtain ⟨hi, hw, rfl⟩ := Option.map_eq_some_iff.1 h
  exact ⟨hi, wmulStep_lt hr hv hw, rfl⟩

/-- The u32 rejection loop returns `low.wrapping_add(hi)` for some `hi < range`. -/
theorem sampleLoop32_in_range (range zone low fuel : Nat) (g : Pcg) (r : Nat) (g' : Pcg)
    (hr : 0 < range) (h : sampleLoop32 range zone low fuel g = some (r, g')) :
    ∃ hi, hi < range ∧ r = (low + hi) % two32 := by
  obtain ⟨g0, hb⟩ := retryLoop_some_elim fuel g r g' h
  exact wmulStep_map_in_range hr (nextU32_lt g0) (congrArg Prod.fst hb)

/-- The u64/usize rejection loop returns `low.wrapping_add(hi)` for some `hi < range`. -/
theorem sampleLoop64_in_range (range zone low fuel : Nat) (g : Pcg) (r : Nat) (g' : Pcg)
    (hr : 0 < range) (h : sampleLoop64 range zone low fuel g = some (r, g')) :
    ∃ hi, hi < range ∧ r = (low + hi) % two64 := by
  obtain ⟨g0, hb⟩ := retryLoop_some_elim fuel g r g' h
  exact wmulStep_map_in_range hr (nextU64_lt g0) (congrArg Prod.fst hb)

end ShuttleProofs.Rng

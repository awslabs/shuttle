import ShuttleModel.Ref

/-!
# Reachability in the reference semantics (relational form of `Ref.outcomes`)

`Ref.outcomes` is an executable search (hash sets); the statements of C02 are phrased with the
relational `HasOutcome`, and `runPath` (replay of one path of `Ref.succs`) is its kernel-checkable
certificate.
-/

namespace ShuttleProofs.C02
open ShuttleModel ShuttleModel.Ref

/-- `s'` is reachable from `s` by transitions of the reference semantics -/
inductive Reaches (ir : IR) (cfg : Cfg) : State → State → Prop
  | refl (s : State) : Reaches ir cfg s s
  | step {s s' s'' : State} : s' ∈ succs ir cfg s → Reaches ir cfg s' s'' → Reaches ir cfg s s''

/-- `o` is the outcome of a maximal sequentially consistent interleaving of `ir` -/
def HasOutcome (ir : IR) (cfg : Cfg) (o : Ref.Outcome) : Prop :=
  ∃ s, Reaches ir cfg (init ir) s ∧ succs ir cfg s = [] ∧ outcomeOf s = o

theorem runPath_reaches {ir : IR} {cfg : Cfg} {o : Ref.Outcome} (cs : List Nat) (s : State)
    (h : runPath ir cfg cs s = some o) :
    ∃ s', Reaches ir cfg s s' ∧ succs ir cfg s' = [] ∧ outcomeOf s' = o := by
  /- the cases of `runPath`: path used up without / with successors left; index `c` valid / out of range -/
  fun_induction runPath ir cfg cs s with
  | case1 s he => exact ⟨s, .refl s, List.isEmpty_iff.mp he, Option.some.inj h⟩
  | case2 => cases h
  | case3 s c cs s' hs' ih =>
    obtain ⟨s'', hr, he, ho⟩ := ih h
    exact ⟨s'', .step (List.mem_of_getElem? hs') hr, he, ho⟩
  | case4 => cases h

theorem runPath_hasOutcome {ir : IR} {cfg : Cfg} {o : Ref.Outcome} {cs : List Nat}
    (h : runPath ir cfg cs (init ir) = some o) : HasOutcome ir cfg o :=
  runPath_reaches cs (init ir) h

end ShuttleProofs.C02

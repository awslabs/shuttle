/-!
Labelled transition systems for C02 (schedule-tree completeness), independent of the concrete primitives:
`Spec`, the sequentially consistent specification (an interleaving is any sequence of steps of any tasks),
and `Runtime`, a *switch-normal* implementation, which alternates scheduling points and visible steps.
"Every visible step is preceded by a scheduling point" is built into the shape of `Runtime.Exec`: there is
exactly one `exec` between two consecutive choices.
-/

namespace ShuttleProofs.C02

universe u

/-- the specification: `step s t l s'` — in state `s` task `t` can take a visible step that
observes `l` and leads to `s'` -/
structure Spec (T S L : Type u) where
  step : S → T → L → S → Prop

namespace Spec
variable {T S L : Type u}

/-- task `t`'s next operation is enabled (not blocked) in `s` -/
def Enabled (sp : Spec T S L) (s : S) (t : T) : Prop := ∃ l s', sp.step s t l s'

def Terminal (sp : Spec T S L) (s : S) : Prop := ∀ t, ¬ sp.Enabled s t

/-- an interleaving: the list of (task, observation) in execution order -/
inductive Run (sp : Spec T S L) : S → List (T × L) → S → Prop
  | nil (s : S) : Run sp s [] s
  | cons {s s' s'' : S} {t : T} {l : L} {tr : List (T × L)} :
      sp.step s t l s' → Run sp s' tr s'' → Run sp s ((t, l) :: tr) s''

theorem Run.append {sp : Spec T S L} {s s' s'' : S} {a b : List (T × L)}
    (h1 : sp.Run s a s') (h2 : sp.Run s' b s'') : sp.Run s (a ++ b) s'' := by
  induction h1 with
  | nil _ => simpa using h2
  | cons hs _ ih => exact Run.cons hs (ih h2)

end Spec

structure Runtime (T I L : Type u) where
  /-- the tasks handed to the scheduler at the scheduling point reached in state `i` -/
  offered : I → List T
  /-- the runtime's own notion of "can run" (`TaskState::Runnable`) -/
  runnable : I → T → Prop
  /-- the chosen task runs up to and including its next visible step -/
  exec : I → T → L → I → Prop

namespace Runtime
variable {T I L : Type u}

/-- an execution: the scheduler's choices, the visible steps they produced -/
inductive Exec (rt : Runtime T I L) : I → List T → List (T × L) → I → Prop
  | nil (i : I) : Exec rt i [] [] i
  | cons {i i' i'' : I} {c : T} {l : L} {cs : List T} {tr : List (T × L)} :
      c ∈ rt.offered i → rt.exec i c l i' → Exec rt i' cs tr i'' → Exec rt i (c :: cs) ((c, l) :: tr) i''

/-- the choices are the tasks of the visible steps, in order (that each was offered is `Exec.cons`) -/
theorem Exec.choices_eq {rt : Runtime T I L} {i i' : I} {cs : List T} {tr : List (T × L)}
    (h : rt.Exec i cs tr i') : cs = tr.map Prod.fst := by
  induction h with
  | nil _ => rfl
  | cons _ _ _ ih => simp [ih]

end Runtime

end ShuttleProofs.C02

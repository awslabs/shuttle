import ShuttleProofs.Lemmas.KernelInv
/-!
# Determinism of an iteration given what `schedule()` sees, log-level invariants, and step bounds

`loopStep_boundFail` … `loopStep_choseBad` read `IterSpec` the other way.  `CurChain`, `FinalSpec.record`: the log
chains the choices and projects to the recorded schedule.  `decCount` counts consultations; for a `NoReset` program
under a bound `n`, `BoundInv n` holds at every reachable loop head and bounds them by `n` (`BoundInv.final`).
-/

namespace ShuttleProofs.Kernel
open ShuttleModel

variable {P : Program} {σ : Type}

theorem BoundOK.not_failAfter {k : Kernel} (h : BoundOK k) {n : Nat} (hm : k.maxSteps = .failAfter n)
    (he : k.stepBoundExceeded n = true) : False := by
  unfold BoundOK at h; rw [hm] at h; simp only at h; rw [h] at he; cases he

theorem BoundOK.not_continueAfter {k : Kernel} (h : BoundOK k) {n : Nat} (hm : k.maxSteps = .continueAfter n)
    (he : k.stepBoundExceeded n = true) : False := by
  unfold BoundOK at h; rw [hm] at h; simp only at h; rw [h] at he; cases he

theorem Consults.not_ends {k : Kernel} (h : Consults k) (he : endsHere k = true) : False := by
  rw [h.goOn] at he; cases he

section determinism
variable (S : Scheduler σ) (segFuel : Nat) {st : ExecState P σ}
  (hn : st.k.next = .none) (hc : st.conts.length = st.k.tasks.length)
include hn hc

theorem loopStep_boundFail {n : Nat} (hm : st.k.maxSteps = .failAfter n) (he : st.k.stepBoundExceeded n = true) :
    loopStep S segFuel st = .inl ⟨.stepBoundFail n, { st with k := bump st.k }⟩ := by
  have h := loopStep_spec S segFuel st hn hc
  generalize loopStep S segFuel st = x at h ⊢
  cases h with
  | boundFail n' h1 h2 => rw [hm] at h1; cases h1; rfl
  | boundStop n' h1 h2 => rw [hm] at h1; cases h1
  | deadlock h1 _ _ | ok h1 _ _ => exact (h1.not_failAfter hm he).elim
  | schedPanic _ _ h1 _ | choseBad _ _ _ h1 _ _ | choseNone _ h1 _ | chose _ _ _ h1 _ _ _ =>
    exact (h1.bound.not_failAfter hm he).elim

theorem loopStep_boundStop {n : Nat} (hm : st.k.maxSteps = .continueAfter n)
    (he : st.k.stepBoundExceeded n = true) :
    loopStep S segFuel st = .inl ⟨.abandoned, { st with k := endedK (bump st.k) .stopped }⟩ := by
  have h := loopStep_spec S segFuel st hn hc
  generalize loopStep S segFuel st = x at h ⊢
  cases h with
  | boundFail n' h1 h2 => rw [hm] at h1; cases h1
  | boundStop n' h1 h2 => rfl
  | deadlock h1 _ _ | ok h1 _ _ => exact (h1.not_continueAfter hm he).elim
  | schedPanic _ _ h1 _ | choseBad _ _ _ h1 _ _ | choseNone _ h1 _ | chose _ _ _ h1 _ _ _ =>
    exact (h1.bound.not_continueAfter hm he).elim

/-- `schedule()` decides the execution is over: deadlock iff some attached task is unfinished -/
theorem loopStep_ends (hb : BoundOK st.k) (he : endsHere st.k = true) :
    loopStep S segFuel st =
      .inl ⟨if st.k.unfinishedAttached then .deadlock st.k.deadlockList else .ok,
            { st with k := endedK (bump st.k) .finished }⟩ := by
  have h := loopStep_spec S segFuel st hn hc
  generalize loopStep S segFuel st = x at h ⊢
  cases h with
  | boundFail n' h1 h2 => exact (hb.not_failAfter h1 h2).elim
  | boundStop n' h1 h2 => exact (hb.not_continueAfter h1 h2).elim
  | deadlock h1 h2 h3 => rw [h3]; rfl
  | ok h1 h2 h3 => rw [h3]; rfl
  | schedPanic _ _ h1 _ | choseBad _ _ _ h1 _ _ | choseNone _ h1 _ | chose _ _ _ h1 _ _ _ =>
    exact (h1.not_ends he).elim

/-- once `schedule()` consults the scheduler, the answer determines the iteration -/
theorem loopStep_of_ask (hcons : Consults st.k) {ans : SchedAns} {s' : σ} (hask : ask S st.k st.sch = (ans, s')) :
    match ans with
    | .panic msg => loopStep S segFuel st = .inl ⟨.schedPanic msg, { st with k := atConsult st.k, sch := s' }⟩
    | .choose none =>
      loopStep S segFuel st =
        .inl ⟨.stopped, { st with k := endedK (atConsult st.k) .stopped, sch := s',
                                   log := st.log.push (decEv st.k none) }⟩
    | .choose (some t) =>
      (t ∈ st.k.offered → ∃ p, st.conts[t]? = some p ∧
        loopStep S segFuel st = finishSeg t (runSegment S t segFuel (segStart st t s') p)) ∧
      (t ∉ st.k.offered →
        ∃ msg, loopStep S segFuel st = .inl ⟨.schedPanic msg, { st with k := atConsult st.k, sch := s' }⟩) := by
  have h := loopStep_spec S segFuel st hn hc
  generalize loopStep S segFuel st = x at h ⊢
  cases h with
  | boundFail n' h1 h2 => exact (hcons.bound.not_failAfter h1 h2).elim
  | boundStop n' h1 h2 => exact (hcons.bound.not_continueAfter h1 h2).elim
  | deadlock _ h2 _ | ok _ h2 _ => exact (hcons.not_ends h2).elim
  | schedPanic msg s'' h1 h2 => rw [hask] at h2; cases h2; rfl
  | choseBad t msg s'' h1 h2 h3 => rw [hask] at h2; cases h2; exact ⟨fun hm => (h3 hm).elim, fun _ => ⟨msg, rfl⟩⟩
  | choseNone s'' h1 h2 => rw [hask] at h2; cases h2; rfl
  | chose t s'' p h1 h2 h3 h4 => rw [hask] at h2; cases h2; exact ⟨fun _ => ⟨p, h4, rfl⟩, fun hm => (hm h3).elim⟩

theorem loopStep_choseNone (hcons : Consults st.k) {s' : σ} (hask : ask S st.k st.sch = (.choose none, s')) :
    loopStep S segFuel st =
      .inl ⟨.stopped, { st with k := endedK (atConsult st.k) .stopped, sch := s',
                                 log := st.log.push (decEv st.k none) }⟩ :=
  loopStep_of_ask S segFuel hn hc hcons hask

theorem loopStep_chose (hcons : Consults st.k) {t : Nat} {s' : σ}
    (hask : ask S st.k st.sch = (.choose (some t), s')) (hmem : t ∈ st.k.offered) :
    ∃ p, st.conts[t]? = some p ∧
      loopStep S segFuel st = finishSeg t (runSegment S t segFuel (segStart st t s') p) :=
  (loopStep_of_ask S segFuel hn hc hcons hask).1 hmem

/-- a scheduler that answers with a task it was not offered makes the run fail with a scheduler panic -/
theorem loopStep_choseBad (hcons : Consults st.k) {t : Nat} {s' : σ}
    (hask : ask S st.k st.sch = (.choose (some t), s')) (hmem : t ∉ st.k.offered) :
    ∃ msg, loopStep S segFuel st = .inl ⟨.schedPanic msg, { st with k := atConsult st.k, sch := s' }⟩ :=
  (loopStep_of_ask S segFuel hn hc hcons hask).2 hmem

end determinism

theorem loopStep_inl_final {S : Scheduler σ} {segFuel : Nat} {ms : MaxSteps} {st : ExecState P σ}
    {r : Result P σ} (hi : LoopInv ms st) (h : loopStep S segFuel st = .inl r) : FinalSpec S segFuel st r :=
  (loopStep_spec S segFuel st hi.next hi.conts).final h

theorem endsHere_iff_of_unfinishedAttached {k : Kernel} (hu : k.unfinishedAttached = true) :
    endsHere k = true ↔ k.anyRunnable = false := by
  unfold endsHere
  rw [hu]
  cases k.anyRunnable <;> simp

theorem endsHere_iff_of_not_unfinishedAttached {k : Kernel} (hu : k.unfinishedAttached = false) :
    endsHere k = true ↔ (k.anyRunnable = false ∨ k.allRunnableDetached = true) := by
  unfold endsHere
  rw [hu]
  cases k.anyRunnable <;> cases k.allRunnableDetached <;> simp

theorem Decision.inv {S : Scheduler σ} {segFuel : Nat} {ms : MaxSteps} {st0 st : ExecState P σ} {ev : Ev}
    (h : Decision S segFuel st0 st ev) (h0 : LoopInv ms st0) : LoopInv ms st := h0.reach h.reach

theorem Decision.fields {S : Scheduler σ} {segFuel : Nat} {st0 st : ExecState P σ}
    {off : List Nat} {cur : Option Nat} {y : Bool} {ch : Option Nat}
    (h : Decision S segFuel st0 st (.dec off cur y ch)) :
    off = st.k.offered ∧ cur = st.k.current.id ∧ y = st.k.hasYielded ∧
      ∃ s', ask S st.k st.sch = (.choose ch, s') ∧ ∀ t, ch = some t → t ∈ st.k.offered := by
  obtain ⟨ch', s', ha, hm, he⟩ := h.answer
  simp only [decEv, Ev.dec.injEq] at he
  obtain ⟨rfl, rfl, rfl, rfl⟩ := he
  exact ⟨rfl, rfl, rfl, s', ha, hm⟩

theorem Consults.anyRunnable {k : Kernel} (h : Consults k) : k.anyRunnable = true := by
  have := h.goOn
  unfold endsHere at this
  cases hr : k.anyRunnable
  · rw [hr] at this; simp at this
  · rfl

/-- the second disjunct of `endsHere` fails (no claim of progress) -/
theorem Consults.progress {k : Kernel} (h : Consults k) :
    k.unfinishedAttached = true ∨ k.allRunnableDetached = false := by
  have := h.goOn
  unfold endsHere at this
  cases hu : k.unfinishedAttached
  · cases ha : k.allRunnableDetached
    · exact Or.inr rfl
    · rw [hu, ha] at this; simp at this
  · exact Or.inl rfl

/-- every `dec` event's `cur` field is the answer of the previous `dec` event (`none` for the first) -/
def CurChain (l : List Ev) : Prop :=
  ∀ i off cur y ch, l[i]? = some (.dec off cur y ch) → cur = lastChoice (l.take i)

theorem CurChain.nil : CurChain [] := by
  intro i off cur y ch h; simp at h

theorem CurChain.append_nodec {l evs : List Ev} (h : CurChain l) (hnd : ∀ ev ∈ evs, isDec ev = false) :
    CurChain (l ++ evs) := by
  intro i off cur y ch hi
  by_cases hlt : i < l.length
  · rw [List.getElem?_append_left hlt] at hi
    rw [List.take_append_of_le_length (Nat.le_of_lt hlt)]
    exact h i off cur y ch hi
  · rw [List.getElem?_append_right (Nat.le_of_not_lt hlt)] at hi
    have := hnd _ (List.mem_of_getElem? hi)
    simp [isDec] at this

theorem CurChain.snoc_dec {l : List Ev} (h : CurChain l) (off : List Nat) (y : Bool) (ch : Option Nat) :
    CurChain (l ++ [.dec off (lastChoice l) y ch]) := by
  intro i off' cur y' ch' hi
  by_cases hlt : i < l.length
  · rw [List.getElem?_append_left hlt] at hi
    rw [List.take_append_of_le_length (Nat.le_of_lt hlt)]
    exact h i off' cur y' ch' hi
  · have hle := Nat.le_of_not_lt hlt
    rw [List.getElem?_append_right hle] at hi
    have hi0 : i - l.length = 0 := by
      cases hd : i - l.length with
      | zero => rfl
      | succ m => rw [hd] at hi; simp at hi
    rw [hi0] at hi
    simp only [List.getElem?_cons_zero, Option.some.injEq, Ev.dec.injEq] at hi
    obtain ⟨_, rfl, _, _⟩ := hi
    have : i = l.length := by omega
    subst this
    simp

theorem runLoop_curChain (S : Scheduler σ) (segFuel fuel : Nat) (ms : MaxSteps) (st0 : ExecState P σ)
    (h0 : LoopInv ms st0) (hch : CurChain st0.log.toList) :
    CurChain (runLoop S segFuel fuel st0).st.log.toList := by
  refine runLoop_log_induction S segFuel fuel h0 CurChain (fun st ev hd ih => ?_)
    (fun _ _ hnd ih => ih.append_nodec hnd) hch
  -- the `cur` field logged at `st` is `current_task`, which is the last choice in `st.log` (`LoopInv.cur`)
  obtain ⟨ch, s', _, _, rfl⟩ := hd.answer
  unfold decEv
  rw [(hd.inv h0).cur]
  exact ih.snoc_dec _ _ _

theorem FinalSpec.record {S : Scheduler σ} {segFuel : Nat} {ms : MaxSteps} {st : ExecState P σ}
    {r : Result P σ} (hf : FinalSpec S segFuel st r) (hi : LoopInv ms st) :
    r.st.k.schedule_ = logSteps r.st.log.toList ∨
      (∃ msg, r.outcome = .schedPanic msg ∧ r.st.k.schedule_ = logSteps r.st.log.toList ++ [.random]) := by
  have hrec := hi.record
  cases hf with
  | choseNone s' h1 h2 =>
    left
    show st.k.schedRev.reverse = logSteps (st.log.push (decEv st.k none)).toList
    rw [hrec]
    simp [logSteps, decEv, evSteps]
  | seg t s' p r h1 h2 h3 h4 h5 =>
    have key := (runSegment_trace S t segFuel (segStart st t s') p).segLog.record (segStart_record hrec t s')
    rw [← (finishSeg_inl h5).1] at key
    -- only a segment ended by a panic of `next_u64` has an unmatched `.random`
    generalize runSegment S t segFuel (segStart st t s') p = e at h5 key
    cases e with
    | schedPanic msg st' => cases h5; exact Or.inr ⟨msg, rfl, key⟩
    | _ => exact Or.inl (by simpa [SegEnd.extra, Kernel.schedule_] using key)
  -- every other ending touches neither the log nor the recorded schedule
  | _ => exact Or.inl hrec

/-- the bound carried by a `MaxSteps` -/
def boundOf : MaxSteps → Option Nat
  | .failAfter n => some n
  | .continueAfter n => some n
  | .none => none

theorem BoundOK.lt {k : Kernel} (h : BoundOK k) {n : Nat} (hb : boundOf k.maxSteps = some n) :
    k.schedLen - k.stepsResetAt < n := by
  unfold BoundOK at h
  cases hm : k.maxSteps with
  | none => rw [hm] at hb; cases hb
  | failAfter m | continueAfter m =>
    rw [hm] at hb h
    cases hb
    exact (stepBoundExceeded_eq_false_iff k _).mp h

/-- number of scheduler consultations recorded in a log -/
def decCount (l : List Ev) : Nat := (l.filter isDec).length

theorem decCount_append (l l' : List Ev) : decCount (l ++ l') = decCount l + decCount l' := by
  simp [decCount]

theorem decCount_nodec (evs : List Ev) (h : ∀ ev ∈ evs, isDec ev = false) : decCount evs = 0 := by
  unfold decCount
  rw [List.length_eq_zero_iff, List.filter_eq_nil_iff]
  intro ev hev
  rw [h ev hev]; simp

theorem decCount_decEv (k : Kernel) (ch : Option Nat) : decCount [decEv k ch] = 1 := rfl

theorem logSteps_nodec_random (evs : List Ev) (h : ∀ ev ∈ evs, isDec ev = false) :
    ∀ x ∈ logSteps evs, x = .random := by
  intro x hx
  unfold logSteps at hx
  obtain ⟨ev, hev, hx⟩ := List.mem_flatMap.mp hx
  have := h ev hev
  cases ev with
  | dec o c y ch => simp [isDec] at this
  | draw v => simpa [evSteps] using hx
  | obs s => simp [evSteps] at hx

/-- a continuing iteration consulted below the bound; the schedule grew by `.task t`, then only `.random` steps -/
theorem iter_schedule_growth {S : Scheduler σ} {segFuel : Nat} {ms : MaxSteps} {a b : ExecState P σ}
    (hi : LoopInv ms a) (h : loopStep S segFuel a = .inr b) :
    BoundOK a.k ∧ ∃ t rs, b.k.schedRev = rs ++ .task t :: a.k.schedRev ∧ (∀ x ∈ rs, x = .random) ∧
      decCount b.log.toList = decCount a.log.toList + 1 := by
  obtain ⟨t, s', hc, _, _, _, evs, hlog, hnd, hsr⟩ := iter_frame hi.next hi.conts h
  refine ⟨hc.bound, t, (logSteps evs).reverse, ?_, ?_, ?_⟩
  · rw [hsr]; simp [segStart, chosenK]
  · intro x hx
    exact logSteps_nodec_random evs hnd x (List.mem_reverse.mp hx)
  · rw [hlog]
    simp only [segStart, Array.toList_push, decCount_append, decCount_decEv, decCount_nodec evs hnd]

/-- programs that never call `reset_step_count` -/
def NoReset (P : Program) : Prop :=
  (∀ i, Never (P := P) isReset (P.bodies i)) ∧ (∀ i, Never (P := P) isReset (P.unwind i))

/-- loop-head invariant of executions of a `NoReset` program under a bound `n` -/
structure BoundInv (n : Nat) (st : ExecState P σ) : Prop where
  reset : st.k.stepsResetAt = 0
  conts : ∀ q ∈ st.conts, Never (P := P) isReset q
  decsLen : decCount st.log.toList ≤ st.k.schedLen
  decs : decCount st.log.toList ≤ n

theorem BoundInv.init (hP : NoReset P) (ms : MaxSteps) (seed : Nat) (s : σ) (n : Nat) :
    BoundInv n (initState P ms seed s) := by
  refine ⟨rfl, ?_, Nat.zero_le _, Nat.zero_le _⟩
  intro q hq
  simp only [initState, List.mem_singleton] at hq
  rw [hq]; exact hP.1 0

theorem BoundInv.step {S : Scheduler σ} {segFuel : Nat} {ms : MaxSteps} {n : Nat} {a b : ExecState P σ}
    (hP : NoReset P) (hb : boundOf ms = some n) (hi : LoopInv ms a) (hj : BoundInv n a)
    (h : loopStep S segFuel a = .inr b) : BoundInv n b := by
  obtain ⟨t, s', p, e, hc, _, _, hp, htr, _, ts, hl, rfl⟩ := iter_inr hi.next hi.conts h
  have hpn : Never (P := P) isReset p := hj.conts p (List.mem_of_getElem? hp)
  have hlt : a.k.schedLen - a.k.stepsResetAt < n := hc.bound.lt (by rw [hi.maxSteps]; exact hb)
  rw [hj.reset] at hlt
  obtain ⟨_, _, _, _, _, (hdc : decCount e.st.log.toList = decCount a.log.toList + 1)⟩ := iter_schedule_growth hi h
  have hsl : a.k.schedLen + 1 ≤ e.st.k.schedLen := by
    have := htr.frame.schedLen
    simpa [segStart, chosenK, Kernel.schedLen] using this
  refine ⟨?_, ?_, ?_, ?_⟩
  · show e.st.k.stepsResetAt = 0
    rw [htr.stepsResetAt_eq hpn.untilSwitch (fun i => (hP.2 i).untilSwitch)]
    exact hj.reset
  · exact htr.never_conts isReset hpn hP.1 hP.2 hj.conts
  · show decCount e.st.log.toList ≤ e.st.k.schedLen
    have := hj.decsLen
    omega
  · show decCount e.st.log.toList ≤ n
    have := hj.decsLen
    omega

theorem BoundInv.reach {S : Scheduler σ} {segFuel : Nat} {ms : MaxSteps} {n : Nat} {a b : ExecState P σ}
    (hP : NoReset P) (hb : boundOf ms = some n) (hi : LoopInv ms a) (hj : BoundInv n a)
    (h : Reach S segFuel a b) : BoundInv n b :=
  (h.invariant (fun st => LoopInv ms st ∧ BoundInv n st)
    (fun _ _ ⟨h1, h2⟩ hs => ⟨h1.step hs, h2.step hP hb h1 hs⟩) ⟨hi, hj⟩).2

theorem BoundInv.final {S : Scheduler σ} {segFuel : Nat} {ms : MaxSteps} {n : Nat} {st : ExecState P σ}
    {r : Result P σ} (hb : boundOf ms = some n) (hi : LoopInv ms st) (hj : BoundInv n st)
    (hf : FinalSpec S segFuel st r) : decCount r.st.log.toList ≤ n := by
  obtain ⟨decs, evs, hlog, hnd, hdec⟩ := hf.log
  rw [hlog, decCount_append, decCount_append, decCount_nodec evs hnd]
  rcases hdec with rfl | ⟨ch, s', rfl, hc, _⟩
  · have := hj.decs
    simpa [decCount] using this
  · have hlt : st.k.schedLen - st.k.stepsResetAt < n := hc.bound.lt (by rw [hi.maxSteps]; exact hb)
    rw [hj.reset] at hlt
    have := hj.decsLen
    rw [decCount_decEv]
    omega

theorem ReachN.decCount {S : Scheduler σ} {segFuel : Nat} {ms : MaxSteps} {m : Nat} {a b : ExecState P σ}
    (h : ReachN S segFuel m a b) (hi : LoopInv ms a) :
    Kernel.decCount b.log.toList = Kernel.decCount a.log.toList + m := by
  induction h with
  | refl st => rfl
  | head h1 _ ih =>
    obtain ⟨_, _, _, _, _, hd⟩ := iter_schedule_growth hi h1
    rw [ih (hi.step h1), hd]
    omega

end ShuttleProofs.Kernel

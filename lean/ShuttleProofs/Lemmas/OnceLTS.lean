import ShuttleModel.Prim.Once
/-
  C05 / Once: the LTS of one `Once` cell under a most general client, and its invariant.

  `Once::call_once` is: `OnceState.enter` (one atomic segment; already `Complete` ⇒ return), then a
  full `Mutex.lock` of the internal mutex, then — in the segment in which the lock is obtained —
  the test of the flag: set ⇒ unlock and return; clear ⇒ run the initializer (arbitrary code with
  scheduling points), then `OnceState.finish` (flag := true, `Complete(clock)`, one atomic segment),
  unlock, return.  The internal mutex is abstracted to its holder: *mutual exclusion is a hypothesis
  of this LTS* (it is property C04): `acquire` is enabled only while nobody holds it.  Panicking
  initializers (poisoning) end the execution and are not transitions.
-/
namespace ShuttleProofs.C05
open ShuttleModel ShuttleModel.OnceState

/-- what the holder of the internal mutex is doing -/
inductive OncePhase where
  /-- found the flag set: will unlock and return without running its closure -/
  | skip
  /-- found the flag clear: is running its closure -/
  | init
  /-- has finished its closure and executed `finish`: will unlock and return -/
  | done
deriving DecidableEq, Repr

structure OnceG where
  s : OnceState
  /-- callers that left `enter` with the `Rc<Mutex>` and have not obtained the lock yet -/
  waiting : List Nat
  holder : Option (Nat × OncePhase)

inductive OnceEv where
  /-- first segment of `call_once` by `t`; `complete` = the cell was `Complete`, the call returned -/
  | enter (t : Nat) (complete : Bool)
  /-- `t` obtained the internal mutex and read `flag` -/
  | acquired (t : Nat) (flag : Bool)
  /-- `t`'s initializer has run to its end; the cell is now `Complete` -/
  | initDone (t : Nat)
  /-- `t` unlocked the internal mutex and returned from `call_once`; `ran` = its closure ran -/
  | ret (t : Nat) (ran : Bool)
  /-- `is_completed()` by `t` -/
  | isCompleted (t : Nat) (res : Bool)
deriving DecidableEq, Repr

def OnceG.busy (g : OnceG) (t : Nat) : Prop := t ∈ g.waiting ∨ ∃ ph, g.holder = some (t, ph)

inductive OnceStep : OnceG → OnceEv → OnceG → Prop where
  | enterDone {g : OnceG} {t : Nat} {c : Clock} :
      ¬ g.busy t → g.s.enter.2 = some c →
      OnceStep g (.enter t true) { g with s := g.s.enter.1 }
  | enterRace {g : OnceG} {t : Nat} :
      ¬ g.busy t → g.s.enter.2 = none →
      OnceStep g (.enter t false) { g with s := g.s.enter.1, waiting := t :: g.waiting }
  /-- hypothesis C04: the lock is granted only when nobody holds it -/
  | acquire {g : OnceG} {t : Nat} :
      t ∈ g.waiting → g.holder = none →
      OnceStep g (.acquired t (g.s.flag != 0))
        { g with waiting := g.waiting.filter (· != t),
                 holder := some (t, if g.s.flag != 0 then .skip else .init) }
  | initDone {g : OnceG} {t : Nat} {c : Clock} :
      g.holder = some (t, .init) →
      OnceStep g (.initDone t) { g with s := g.s.finish c, holder := some (t, .done) }
  | unlockSkip {g : OnceG} {t : Nat} :
      g.holder = some (t, .skip) → OnceStep g (.ret t false) { g with holder := none }
  | unlockDone {g : OnceG} {t : Nat} :
      g.holder = some (t, .done) → OnceStep g (.ret t true) { g with holder := none }
  | isCompleted {g : OnceG} {t : Nat} :
      OnceStep g (.isCompleted t g.s.isCompleted.isSome) g

def onceInit : OnceG := ⟨{}, [], none⟩

inductive OnceReach : List OnceEv → OnceG → Prop where
  | init : OnceReach [] onceInit
  | step {h : List OnceEv} {g : OnceG} {e : OnceEv} {g' : OnceG} :
      OnceReach h g → OnceStep g e g' → OnceReach (e :: h) g'

/-- how many callers started running their initializer -/
def initRuns (h : List OnceEv) : Nat :=
  h.countP (fun e => match e with | .acquired _ false => true | _ => false)

@[simp] theorem enter_flag (s : OnceState) : s.enter.1.flag = s.flag := by
  unfold OnceState.enter OnceState.flag
  cases hm : s.mutex <;> simp [hm]

@[simp] theorem enter_complete (s : OnceState) : s.enter.1.complete = s.complete := by
  unfold OnceState.enter
  cases hm : s.mutex <;> simp

@[simp] theorem enter_snd (s : OnceState) : s.enter.2 = s.complete := by
  unfold OnceState.enter
  cases hm : s.mutex <;> simp

@[simp] theorem finish_flag (s : OnceState) (c : Clock) : (s.finish c).flag = 1 := by
  simp [OnceState.finish, OnceState.flag]

@[simp] theorem finish_complete (s : OnceState) (c : Clock) : (s.finish c).complete = some c := rfl

theorem initRuns_cons_of_ne {e : OnceEv} (he : ∀ t, e ≠ .acquired t false) (h : List OnceEv) :
    initRuns (e :: h) = initRuns h := by
  refine List.countP_cons_of_neg ?_
  cases e with
  | acquired t f => cases f with
    | false => exact absurd rfl (he t)
    | true => exact Bool.false_ne_true
  | _ => exact Bool.false_ne_true

theorem initRuns_cons_acquired_false (t : Nat) (h : List OnceEv) :
    initRuns (.acquired t false :: h) = initRuns h + 1 := List.countP_cons_of_pos rfl

theorem exists_initDone_cons {e : OnceEv} (he : ∀ t, e ≠ .initDone t) (h : List OnceEv) :
    (∃ t, OnceEv.initDone t ∈ e :: h) ↔ ∃ t, OnceEv.initDone t ∈ h :=
  exists_congr fun t => List.mem_cons.trans (or_iff_right (he t).symm)

/-- reads `flag`, `complete` and `holder` of the state, and of the history only `initRuns` and
whether it has an `initDone` -/
structure OnceInv (h : List OnceEv) (g : OnceG) : Prop where
  flag_iff : g.s.flag ≠ 0 ↔ g.s.complete.isSome = true
  done_iff : g.s.complete.isSome = true ↔ ∃ t, OnceEv.initDone t ∈ h
  phase : ∀ t ph, g.holder = some (t, ph) → (ph = .init ↔ g.s.complete = none)
  runs : (initRuns h = 0 ∧ g.s.complete = none ∧ ∀ t, g.holder ≠ some (t, .init)) ∨
      (initRuns h = 1 ∧ (g.s.complete.isSome = true ∨ ∃ t, g.holder = some (t, .init)))

theorem onceInv_init : OnceInv [] onceInit :=
  { flag_iff := ⟨fun h => absurd rfl h, nofun⟩, done_iff := ⟨nofun, nofun⟩, phase := nofun,
    runs := .inl ⟨rfl, rfl, nofun⟩ }

/-- A step that writes neither `flag` nor `complete`, at most clears a `holder` that is not
initializing, and is neither the start nor the end of an initializer. -/
theorem OnceInv.of_neutral {h : List OnceEv} {g g' : OnceG} {e : OnceEv} (I : OnceInv h g)
    (hf : g'.s.flag = g.s.flag) (hc : g'.s.complete = g.s.complete)
    (hold : ∀ t ph, g'.holder = some (t, ph) → g.holder = some (t, ph))
    (hinit : ∀ t, g.holder = some (t, .init) → g'.holder = some (t, .init))
    (he1 : ∀ t, e ≠ .acquired t false) (he2 : ∀ t, e ≠ .initDone t) : OnceInv (e :: h) g' where
  flag_iff := by rw [hf, hc]; exact I.flag_iff
  done_iff := by rw [hc, exists_initDone_cons he2]; exact I.done_iff
  phase t ph hp := by rw [hc]; exact I.phase t ph (hold t ph hp)
  runs := by
    rw [initRuns_cons_of_ne he1, hc]
    exact I.runs.imp (fun ⟨a, b, c⟩ => ⟨a, b, fun t ht => c t (hold t _ ht)⟩)
      (fun ⟨a, b⟩ => ⟨a, b.imp_right fun ⟨t, ht⟩ => ⟨t, hinit t ht⟩⟩)

theorem onceInv_step {h : List OnceEv} {g : OnceG} (I : OnceInv h g) {e : OnceEv} {g' : OnceG}
    (hs : OnceStep g e g') : OnceInv (e :: h) g' := by
  cases hs with
  | enterDone _ _ =>
    exact I.of_neutral (enter_flag _) (enter_complete _) (fun _ _ h => h) (fun _ h => h) nofun nofun
  | enterRace _ _ =>
    exact I.of_neutral (enter_flag _) (enter_complete _) (fun _ _ h => h) (fun _ h => h) nofun nofun
  | unlockSkip hh => exact I.of_neutral rfl rfl nofun (fun _ h => nomatch hh.symm.trans h) nofun nofun
  | unlockDone hh => exact I.of_neutral rfl rfl nofun (fun _ h => nomatch hh.symm.trans h) nofun nofun
  | isCompleted => exact I.of_neutral rfl rfl (fun _ _ h => h) (fun _ h => h) nofun nofun
  | @acquire t hw hh =>
    -- the new holder initializes iff it read `flag = 0`, iff the cell is not complete
    have hdone := I.done_iff.trans (exists_initDone_cons (e := .acquired t (g.s.flag != 0)) nofun h).symm
    by_cases hf : g.s.flag = 0
    · have hc : g.s.complete = none :=
        Option.not_isSome_iff_eq_none.1 fun hc => I.flag_iff.2 hc hf
      have hb : (g.s.flag != 0) = false := by rw [hf]; rfl
      rw [hb] at hdone ⊢
      refine ⟨I.flag_iff, hdone, fun _ _ hp => by cases hp; exact ⟨fun _ => hc, fun _ => rfl⟩, .inr ?_⟩
      rcases I.runs with ⟨h0, _⟩ | ⟨_, h1 | ⟨_, h1⟩⟩
      · exact ⟨(initRuns_cons_acquired_false t h).trans (congrArg (· + 1) h0), .inr ⟨t, rfl⟩⟩
      · rw [hc] at h1; cases h1
      · cases hh.symm.trans h1
    · have hc := I.flag_iff.1 hf
      have hb : (g.s.flag != 0) = true := bne_iff_ne.2 hf
      rw [hb] at hdone ⊢
      have hph : OncePhase.skip = .init ↔ g.s.complete = none :=
        ⟨(nomatch ·), fun hn => by rw [hn] at hc; cases hc⟩
      refine ⟨I.flag_iff, hdone, fun _ _ hp => by cases hp; exact hph, .inr ?_⟩
      rcases I.runs with ⟨_, h0, _⟩ | ⟨h1, _⟩
      · rw [h0] at hc; cases hc
      · exact ⟨(initRuns_cons_of_ne (e := .acquired t true) (fun _ h => nomatch h) h).trans h1, .inl hc⟩
  | @initDone t c hh =>
    have hph : OncePhase.done = .init ↔ (g.s.finish c).complete = none :=
      ⟨(nomatch ·), (nomatch ·)⟩
    refine ⟨⟨fun _ => rfl, fun _ => by rw [finish_flag]; exact Nat.one_ne_zero⟩,
      ⟨fun _ => ⟨t, List.mem_cons_self⟩, fun _ => rfl⟩, fun _ _ hp => by cases hp; exact hph, .inr ?_⟩
    rcases I.runs with ⟨_, _, h0⟩ | ⟨h1, _⟩
    · exact absurd hh (h0 t)
    · exact ⟨(initRuns_cons_of_ne (e := .initDone t) nofun h).trans h1, .inl rfl⟩

theorem onceReach_inv {h : List OnceEv} {g : OnceG} (hr : OnceReach h g) : OnceInv h g := by
  induction hr with
  | init => exact onceInv_init
  | step _ hs ih => exact onceInv_step ih hs

end ShuttleProofs.C05

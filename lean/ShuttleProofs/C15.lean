import ShuttleModel.Prim.Future
import ShuttleProofs.Lemmas.ClockKernel
import ShuttleProofs.Lemmas.ClockEdges
/-!
# C15 — vector clocks reflect happens-before

Property text: "Whenever an operation of one task happens before an operation of another through program
order and Shuttle synchronisation (spawn to child start, child end to join, unlock to later lock, send to
matching receive and receive to the send it frees on a bounded channel, notify to the woken wait, barrier
arrivals to departures, once completion to later callers, atomic write to a later atomic read or
read-modify-write of the same variable, semaphore release to the acquire it enables), the second task's
clock read after its operation dominates the first task's clock read after its operation. Conversely, two
tasks that have each completed a clock-advancing operation and are connected by no chain of such edges
are never reported as ordered, each task's own clock only grows, and replay restricted to a target clock
never drops a step the target depends on."

What is proved here (model = `ShuttleModel`, validated sample by sample against the implementation): the clock
algebra (`update` is the join; `<=` is the pointwise order plus a length rule, and a partial order on representations;
a tick is strict); `own_clock_monotone` for a task segment and for the whole run loop; one lemma per edge on the pure
transitions (here and in `Lemmas/ClockEdges.lean`); `hb_sound_partial`: the edges compose; and
`f13_async_join_joins_clock`: on the witness of finding F13 the model's `JoinHandle::poll` joins the awaited task's
clock into the poller's, as the repaired code does.
The replay clause of the property is `C01.target_clock_keeps_dependencies_partial`.

NOT proved (hence `_partial`): the execution-level statement that every API-level edge of an arbitrary IR
program run through `Lang.execOp` + `runLoop` is realised by a chain of `HBStep`s (it needs a global
simulation argument over all primitives' wrappers), and the completeness direction ("never reported as
ordered"), which is checked by the oracle `tools/oracle_c15.py` on the implementation's logs instead. The
real code violates the full statement at `thread::scope` exit, which merges no clock (F27; the async join,
F13, is repaired in /repo), so the unrestricted theorem is false for the model that mirrors it.
-/

namespace ShuttleProofs.C15
open ShuttleModel ShuttleProofs.Clock

/-- **`update` is the join**: pointwise maximum with zero-extension. -/
theorem update_is_join (a b : Clock) (i : Nat) :
    Clock.get (Clock.update a b) i = max (Clock.get a i) (Clock.get b i) := get_update a b i

theorem update_semilattice (a b c : Clock) :
    Clock.update a b = Clock.update b a ∧
    Clock.update (Clock.update a b) c = Clock.update a (Clock.update b c) ∧
    Clock.update a a = a ∧
    (ple a c → ple b c → ple (Clock.update a b) c) :=
  ⟨update_comm a b, update_assoc a b c, update_idem a, fun h1 h2 => update_ple_iff.2 ⟨h1, h2⟩⟩

example : Clock.update (Clock.ofList [1, 2, 1]) (Clock.ofList [1, 3]) = Clock.ofList [1, 3, 1] := by decide

/-- `strip` (the canonical form the logs print) keeps every component -/
theorem strip_same_vector (c : Clock) (i : Nat) : Clock.get (Clock.strip c : List Nat) i = Clock.get c i :=
  get_strip c i

/-- **`<=` characterised** (left operand not longer — in particular equal lengths). -/
theorem le_characterised (a b : Clock) (h : List.length a ≤ List.length b) :
    Clock.le a b = true ↔ ∀ i, Clock.get a i ≤ Clock.get b i := le_iff_of_length_le a b h

/-- **the length rule**: a strictly longer clock is never `<=`. -/
theorem le_length_rule (a b : Clock) (h : List.length b < List.length a) : Clock.le a b = false :=
  le_false_of_length_gt a b h

/-- `<=` is sound for the pointwise order in every case … -/
theorem le_sound (a b : Clock) (h : Clock.le a b = true) : ∀ i, Clock.get a i ≤ Clock.get b i :=
  ((le_iff a b).mp h).2

/-- … and **incomplete**: `[1,0]` and `[1]` are the same vector, `[1,0] <= [1]` is false. For the
target-clock replay (`task.clock <= target`, replay.rs:92-93) this means: a target clock whose trailing
zeros were dropped (re-typed from a printed clock, or built with fewer entries than there are tasks) makes
every task whose clock has been extended by a later spawn fail the test — its steps are skipped although
the target depends on them. Within one execution the runtime only compares clocks it produced itself,
and `replay_test_exact` applies whenever the target is at least as long as the task's clock. -/
theorem partial_cmp_deviates :
    (∀ i, Clock.get (Clock.ofList [1, 0]) i ≤ Clock.get (Clock.ofList [1]) i) ∧
    Clock.le (Clock.ofList [1, 0]) (Clock.ofList [1]) = false ∧
    Clock.le (Clock.ofList [1]) (Clock.ofList [1, 0]) = true := by
  obtain ⟨h1, h2, h3, _⟩ := le_deviates
  exact ⟨h1, h2, h3⟩

/-- `c <= c` for every clock (`partial_cmp` returns `Some(Equal)`). -/
theorem le_refl (a : Clock) : Clock.le a a = true := Clock.le_refl a

/-- **antisymmetry, as equality of representations**: mutual `<=` forces the very same `time` vector
(same length, same components), not just the same clock up to trailing zeros. -/
theorem le_antisymm (a b : Clock) (h1 : Clock.le a b = true) (h2 : Clock.le b a = true) : a = b :=
  Clock.le_antisymm h1 h2

/-- **transitivity** of the runtime's `<=` (the length side-condition composes). -/
theorem le_trans (a b c : Clock) (h1 : Clock.le a b = true) (h2 : Clock.le b c = true) : Clock.le a c = true :=
  Clock.le_trans h1 h2

/-- **a tick is strict**: after `increment` of an existing component the new clock is not dominated by
the old one — so two successive clock-advancing operations of one task are ordered one way only, and
no other task's older knowledge of this task (`≤` the old clock) can dominate the new clock. -/
theorem increment_strict (c : Clock) (t : Nat) (h : t < List.length c) :
    ple c (Clock.increment c t) ∧ ¬ ple (Clock.increment c t) c ∧ Clock.le (Clock.increment c t) c = false := by
  have hn : ¬ ple (Clock.increment c t) c := fun hh => by
    have := hh t
    rw [get_increment_self c t h] at this
    exact Nat.not_succ_le_self _ this
  exact ⟨ple_increment c t, hn, Bool.eq_false_iff.mpr fun hle => hn ((le_iff _ _).mp hle).2⟩

/-- what a task that only knew the old clock holds can never dominate the ticked clock -/
theorem stale_knowledge_not_ordered (c o : Clock) (t : Nat) (h : t < List.length c) (ho : ple o c) :
    ¬ ple (Clock.increment c t) o := fun hh =>
  (increment_strict c t h).2.1 (ple_trans hh ho)

example : Clock.le (Clock.ofList [1, 2]) (Clock.ofList [1, 2, 0]) = true ∧
    Clock.le (Clock.increment (Clock.ofList [1, 2]) 1) (Clock.ofList [1, 2]) = false := by decide

/-- **the deviation is only about representation length**: once both operands are zero-extended to a
common index (what `extend` does for every clock the runtime hands to a new task), the runtime's `<=` *is*
the pointwise order of the property text. So `partial_cmp_deviates` can only bite when a clock that was
not produced by the same execution (a re-typed target clock) is compared. -/
theorem le_exact_after_extend (a b : Clock) (n : Nat) (ha : List.length a ≤ n + 1) (hb : List.length b ≤ n + 1) :
    Clock.le (Clock.extend a n) (Clock.extend b n) = true ↔ ∀ i, Clock.get a i ≤ Clock.get b i := by
  have hl : List.length (Clock.extend a n) ≤ List.length (Clock.extend b n) := by
    rw [length_extend, length_extend, Nat.max_eq_right ha, Nat.max_eq_right hb]; exact Nat.le_refl _
  simp only [le_iff_of_length_le _ _ hl, ple, get_extend]

example : Clock.le (Clock.extend (Clock.ofList [1, 0]) 1) (Clock.extend (Clock.ofList [1]) 1) = true := by decide

/-- **`own_clock_monotone`**, one task segment: any program over the kernel API, any fuel, any ending. -/
theorem own_clock_monotone {P : Program} {σ : Type} (S : Scheduler σ) (me fuel : Nat) (st : ExecState P σ)
    (p : Prog P.U Unit) (t : Nat) (tk : Task) (h : st.k.getTask? t = some tk) :
    ∃ tk', (runSegment S me fuel st p).kernel.getTask? t = some tk' ∧
      ∀ i, Clock.get tk.clock i ≤ Clock.get tk'.clock i :=
  runSegment_clockMono S me fuel st p t tk h

/-- **`own_clock_monotone`**, the whole run loop (decisions, segments, task exits). -/
theorem own_clock_monotone_run {P : Program} {σ : Type} (S : Scheduler σ) (segFuel fuel : Nat)
    (st : ExecState P σ) (t : Nat) (tk : Task) (h : st.k.getTask? t = some tk) :
    ∃ tk', (runLoop S segFuel fuel st).st.k.getTask? t = some tk' ∧
      ∀ i, Clock.get tk.clock i ≤ Clock.get tk'.clock i :=
  runLoop_clockMono S segFuel fuel st t tk h

/-- non-vacuity: a kernel with one task, one `incClock` request -/
example :
    let st : ExecState { U := Unit, init := (), bodies := fun _ => .pure () } Unit :=
      { k := { tasks := [{ clock := Clock.ofList [1] }] }, u := (), conts := [.pure ()], sch := () }
    ((runSegment ⟨fun s _ _ _ => (.choose none, s), fun s => (.ok 0, s)⟩ 0 5 st
        (.op .incClock (fun _ => .pure ()))).kernel.tasks.map (·.clock)) = [Clock.ofList [2]] := by
  decide

/-- one step of clock propagation, in the shapes the kernel and the primitives use. Constructors of the same shape
(`ownJoin`/`objGrow`, `recvJoin`/`publish`) are labels: whose clock moves, a task's or an object's. -/
inductive HBStep : Clock → Clock → Prop
  /-- program order through `increment_clock` -/
  | tick (own : Clock) (me : Nat) : HBStep own (own.increment me)
  /-- program order through `update_clock(c)` -/
  | ownUpdate (own c : Clock) (me : Nat) : HBStep own ((own.increment me).update c)
  /-- program order through `get_mut(t).clock.update(c)` (woken waiter, barrier member, receiver) -/
  | ownJoin (own c : Clock) : HBStep own (own.update c)
  /-- program order / spawn through `extend` -/
  | ext (own : Clock) (tid : Nat) : HBStep own (own.extend tid)
  /-- a published clock is received through `update_clock` (join, lock, exhale, wait, once, send) -/
  | recvUpdate (c own : Clock) (me : Nat) : HBStep c ((own.increment me).update c)
  /-- a published clock is received through a plain `update` (message, permits, barrier release) -/
  | recvJoin (c own : Clock) : HBStep c (own.update c)
  /-- a clock is published into an object's clock (atomic `inhale`, barrier arrival, permit batches) -/
  | publish (c obj : Clock) : HBStep c (obj.update c)
  /-- an object's clock only grows -/
  | objGrow (obj c : Clock) : HBStep obj (obj.update c)

theorem HBStep.sound : ∀ {a b : Clock}, HBStep a b → ple a b
  | _, _, .tick own me => ple_increment own me
  | _, _, .ownUpdate own c me => ple_updateClock_self own c me
  | _, _, .ownJoin own c => ple_update_left own c
  | _, _, .ext own tid => ple_extend own tid
  | _, _, .recvUpdate c own me => ple_update_right (own.increment me) c
  | _, _, .recvJoin c own => ple_update_right own c
  | _, _, .publish c obj => ple_update_right obj c
  | _, _, .objGrow obj c => ple_update_left obj c

/-- chains of steps -/
inductive HB : Clock → Clock → Prop
  | refl (a : Clock) : HB a a
  | step {a b c : Clock} : HB a b → HBStep b c → HB a c

/-- **`hb_sound_partial`**: whatever chain of program-order and synchronisation steps (of the shapes proved
edge by edge in `Lemmas/ClockEdges.lean`) leads from the clock the first task read to the clock the second
task reads, the second dominates the first. -/
theorem hb_sound_partial {a b : Clock} (h : HB a b) : ∀ i, Clock.get a i ≤ Clock.get b i := by
  induction h with
  | refl => exact ple_refl _
  | step _ hs ih => exact ple_trans ih hs.sound

/-- non-vacuity: writer `[0,3]` stores (tick, publish into the atomic `[1]`), reader `[2,0]` loads -/
example : HB (Clock.ofList [0, 3])
    (((Clock.ofList [2, 0]).increment 0).update ((Clock.ofList [1]).update ((Clock.ofList [0, 3]).increment 1))) :=
  HB.step (HB.step (HB.step (HB.refl _) (HBStep.tick _ 1)) (HBStep.publish _ (Clock.ofList [1])))
    (HBStep.recvUpdate _ (Clock.ofList [2, 0]) 0)

/-- spawn → child start: the child starts with the parent's clock after the spawn, which dominates the parent's
clock before it (the exact clocks: `spawnTask_child_clock`, `spawn_edge_tick`). -/
theorem spawn_edge (k : Kernel) (p : Nat) (ptk : Task) (h : k.getTask? p = some ptk) :
    ∃ ptk' ctk, (k.spawnTask (some p)).2.getTask? p = some ptk' ∧
      (k.spawnTask (some p)).2.getTask? (k.spawnTask (some p)).1 = some ctk ∧
      ctk.clock = ptk'.clock ∧ ple ptk.clock ctk.clock := by
  obtain ⟨a, b, h1, h2, _, h4, _, h6⟩ := spawnTask_child_clock k p ptk h
  exact ⟨a, b, h1, h2, h4, h6⟩

/-- child end → join: `JoinHandle::join` is `update_clock(&get_clock(target))`, whose result dominates the target's clock
(on the kernel: `join_edge_kernel`). -/
theorem join_edge (own target : Clock) (me : Nat) : ple target ((own.increment me).update target) :=
  ple_update_right _ target

/-- after `release(k)` with clock `c`, an acquisition that needs more permits than were available before that
release returns a clock that dominates `c`.
(`s.avail = batchSum s.initBatches` is the C18 invariant "available = sum of the batch sizes".) -/
theorem sem_release_acquire_edge (s : SemState) (k n : Nat) (c acq : Clock) (s' : SemState) (out : Clock)
    (hinv : s.avail = batchSum s.initBatches) (hneed : s.avail < n)
    (h : (s.paRelease k c).paAcquire n acq = some (s', out)) : ple c out :=
  -- the batches in front of the released `(k, c)` hold `s.avail < n` permits
  have hlast : c ∈ consumed n (s.paRelease k c).initBatches := mem_consumed_last s.initBatches n k c (hinv ▸ hneed)
  sem_consumed_edge _ n acq s' out h (Nat.ne_of_gt (Nat.zero_lt_of_lt hneed)) c hlast

/-- non-vacuity: an empty semaphore, `release(1)` with clock `[0,5]`, `acquire(1)` -/
example : (((SemState.new 0 false Clock.new).paRelease 1 (Clock.ofList [0, 5])).paAcquire 1 Clock.new).map (·.2)
    = some (Clock.ofList [0, 5]) := by decide

/-- a `store` by `w` (clock `cw` before) followed — after any operations that do not lower the atomic's
clock — by a `load` by `r`: the reader's clock after the load dominates the writer's clock after the store. -/
theorem atomic_write_read_edge (w r v : Nat) (a a' : AtomicState) (cw cr : Clock)
    (hmono : ple (aclk (Atomic.storeSpec w v a cw).1) (aclk a')) :
    ple (Atomic.storeSpec w v a cw).2 (Atomic.loadSpec r a' cr).2 :=
  ple_trans (inhale_publishes w a cw).1 (ple_trans hmono (exhale_receives r a' cr).1)

/-- shown for a channel that is empty before the send (`chan_fifo` carries it to a message with others in
front): the message pushed with the sender's clock `c` is delivered with exactly that clock, and the
receiver's clock after `get_clock_mut(me).update(&clock)` dominates it. -/
theorem chan_send_recv_edge (s s1 s2 : ChanState) (v : Nat) (c : Clock) (out : PushOut) (e1 e2 : List Eff)
    (item : Nat × Clock) (mine : Clock) (hempty : s.messages = [])
    (hs : s.sendPush v c = .ok (s1, out, e1)) (hr : s1.recvPop = .ok (s2, item, e2)) :
    item = (v, c) ∧ ple c (mine.update item.2) := by
  have h1 := sendPush_messages s s1 v c out e1 hs
  rw [hempty, recvPop_head s1 s2 item e2 hr] at h1
  obtain ⟨rfl, _⟩ := List.cons.inj h1
  exact ⟨rfl, ple_update_right _ _⟩

/-- barrier arrivals → departures: every member of a released group gets a `joinClock` that dominates the releasing
arrival's clock and the barrier's clock (which holds the earlier arrivals': `barrier_arrive_clock`). -/
theorem barrier_edge (s s' : BarrierState) (me : Nat) (c : Clock) (clk : Nat → Clock) (e : Nat) (effs : List Eff)
    (h : s.arrive me c clk = .ok (s', .released e, effs)) (t : Nat) (ht : t ∈ s.waiters ∨ t = me) :
    ∃ x, Eff.joinClock t x ∈ effs ∧ ple c x ∧ ple s.clock x :=
  (arrive_released_joins s s' me c clk e effs h).2 t ht

/-- after the winner's `finish` with clock `c`, `call_once` (`enter`) and `is_completed` hand exactly `c` to
`update_clock`, whose result dominates it. -/
theorem once_edge (s : OnceState) (c own : Clock) (me : Nat) :
    ((s.finish c).enter).2 = some c ∧ (s.finish c).isCompleted = some c ∧ ple c ((own.increment me).update c) :=
  ⟨by simp [OnceState.finish, OnceState.enter], rfl, ple_update_right _ c⟩

/-- a waiter registered as `Waiting`, then one `notify_one` with the notifier's clock `c`: the `wait` that
resumes consumes exactly `c` (which `update_clock(c)` then dominates: `join_edge`). -/
theorem condvar_notify_wait_edge (s s1 : CondvarState) (notifier w : Nat) (c : Clock) (e1 : List Eff)
    (hw : s.waiters.find? (·.1 == w) = some (w, .waiting)) (hn : s.notifyOne notifier c = .ok (s1, e1)) :
    ∃ s2 e2, s1.wake w = .ok (s2, c, e2) := by
  unfold CondvarState.notifyOne at hn
  split at hn
  · cases hn
  next ws _ hloop =>
    -- the loop ran through: `s1.waiters = ws`
    cases hn
    unfold CondvarState.wake
    rw [notifyLoop_find notifier w _ _ _ _ _ hloop hw]
    exact ⟨_, _, rfl⟩

/-! ### F13 (repaired in /repo): awaiting an async `JoinHandle` joins the child's clock

Before the repair `JoinHandle::poll` took the result without touching the clocks (poller stayed at `[1,0]`
against the child's `[1,2]`); the repair makes it `update_clock(child's clock)` like `thread::JoinHandle::join`.
The model follows the repaired code. -/

section F13

def f13P : Program := { U := FutHeap, init := {}, bodies := fun _ => .pure () }
def f13S : Scheduler Unit := ⟨fun s _ _ _ => (.choose none, s), fun s => (.ok 0, s)⟩
def f13L : Lens FutHeap FutHeap := { get := id, set := fun s _ => s }

/-- task 0 (clock `[1,0]`) polls the `JoinHandle` of the finished future task 1 (clock `[1,2]`, result
published) -/
def f13State : ExecState f13P Unit :=
  { k := { tasks := [{ clock := Clock.ofList [1, 0] }, { clock := Clock.ofList [1, 2], state := .finished }],
           current := .some 0 },
    u := { joins := [{}, { tid := some 1, result := some true }] },
    conts := [.pure (), .pure ()], sch := () }

/-- **async join edge on the witness of F13**: the poll is `Ready(Ok)` and the poller's clock becomes `[2,2]`,
which dominates the awaited task's clock `[1,2]` (exactly what `thread::JoinHandle::join` gives). -/
theorem f13_async_join_joins_clock :
    ((runSegment f13S 0 40 f13State
        ((Fut.pollJoinHandle f13L 1) >>= fun _ => .pure ())).kernel.tasks.map (·.clock))
      = [Clock.ofList [2, 2], Clock.ofList [1, 2]] ∧
    ple (Clock.ofList [1, 2]) (Clock.ofList [2, 2]) :=
  ⟨by decide, ((le_iff _ _).mp (by decide)).2⟩

end F13

end ShuttleProofs.C15

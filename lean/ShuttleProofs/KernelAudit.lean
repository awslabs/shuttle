import ShuttleProofs.C08
import ShuttleProofs.C03
/-! `#print axioms` for every kernel-level property theorem of C08 / C13 / C03. -/
open ShuttleProofs

#print axioms C08.log_decisions
#print axioms C08.decisions_logged
#print axioms C08.decision_fields
#print axioms C08.offered_nonempty
#print axioms C08.offered_strictly_ascending
#print axioms C08.offered_nodup
#print axioms C08.offered_unfinished
#print axioms C08.offered_superset_runnable
#print axioms C08.offered_subset_runnable_or_spurious
#print axioms C08.choice_offered
#print axioms C08.current_is_last_chosen_at
#print axioms C08.yielding_is_flag
#print axioms C08.log_offered_nonempty_ascending
#print axioms C08.current_is_last_chosen
#print axioms C08.segStart_fields
#print axioms C08.requestYield_sets_flag
#print axioms C08.flag_only_by_requestYield
#print axioms C08.flag_monotone
#print axioms C08.chosen_runs_next
#print axioms C08.chosen_task_runnable
#print axioms C08.choice_not_offered_panics
#print axioms C08.none_stops_iter
#print axioms C08.none_stops_without_failure
#print axioms C08.stopped_only_by_none
#print axioms C08.no_scheduling_error
#print axioms C08.record_exact
#print axioms C08.record_exact_of_not_schedPanic
#print axioms C08.record_exact_at
#print axioms C13.no_decision_beyond_bound
#print axioms C13.no_decision_beyond_bound_exec
#print axioms C13.fail_after_iter
#print axioms C13.continue_after_iter
#print axioms C13.bound_outcomes
#print axioms C13.bound_hit_ends
#print axioms C13.schedule_below_bound
#print axioms C13.below_bound_unaffected
#print axioms C13.steps_total_bound_partial
#print axioms C13.steps_overshoot_witness
#print axioms C13.terminates_under_bound
#print axioms C13.task_steps_le_bound
#print axioms C13.terminates_under_bound_iterations
#print axioms C03.deadlockAt_iff
#print axioms C03.deadlockList_exact
#print axioms C03.deadlock_iff
#print axioms C03.deadlock_verdict_sound
#print axioms C03.deadlock_verdict_complete
#print axioms C03.detached_leftovers_ok
#print axioms C03.ok_iff
#print axioms C03.ok_verdict_sound
#print axioms C03.no_early_end
#print axioms C03.spurious_not_progress
#print axioms C03.terminates_under_bound
